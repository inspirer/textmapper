import TmVerif.Model.Regex
import TmVerif.Proofs.Charset
/-!
Lemmas about `Model/Regex.lean` (C10): the digit decoders, error ranges of the reference parser, language
preservation of the canonical form, and the `\xHH` escape under the reference reading (`Variant.strict`).
-/
namespace TmVerif.Regex
open TmVerif.Charset

theorem ch_0 : ch '0' = 48 := by decide
theorem ch_7 : ch '7' = 55 := by decide
theorem ch_9 : ch '9' = 57 := by decide
theorem ch_a : ch 'a' = 97 := by decide
theorem ch_f : ch 'f' = 102 := by decide
theorem ch_A : ch 'A' = 65 := by decide
theorem ch_F : ch 'F' = 70 := by decide
theorem ch_Z : ch 'Z' = 90 := by decide

theorem isHexDigit_iff (r : Int) :
    isHexDigit r ↔ (48 ≤ r ∧ r ≤ 57) ∨ (97 ≤ r ∧ r ≤ 102) ∨ (65 ≤ r ∧ r ≤ 70) := by
  simp only [isHexDigit, ch_0, ch_9, ch_a, ch_f, ch_A, ch_F]

theorem hexval_value (r : Int) (h : isHexDigit r) :
    hexval false r = (if 48 ≤ r ∧ r ≤ 57 then r - 48 else if 97 ≤ r then r - 87 else r - 55) ∧
    0 ≤ hexval false r ∧ hexval false r < 16 := by
  rw [isHexDigit_iff] at h
  simp only [hexval, Bool.false_eq_true, if_false, ch_0, ch_9, ch_a, ch_f, ch_A, ch_F]
  rcases h with h | h | h
  · rw [if_neg (by omega), if_neg (by omega), if_pos h, if_pos h]; omega
  · rw [if_pos h, if_neg (by omega), if_pos (by omega)]; omega
  · rw [if_neg (by omega), if_pos h, if_neg (by omega), if_neg (by omega)]; omega

theorem hexval_spec (r : Int) : hexval false r ≠ -1 ↔ isHexDigit r := by
  constructor
  · intro h
    simp only [hexval, Bool.false_eq_true, if_false, ch_0, ch_9, ch_a, ch_f, ch_A, ch_F] at h
    rw [isHexDigit_iff]
    by_cases h1 : 97 ≤ r ∧ r ≤ 102
    · exact Or.inr (Or.inl h1)
    by_cases h2 : 65 ≤ r ∧ r ≤ 70
    · exact Or.inr (Or.inr h2)
    by_cases h3 : 48 ≤ r ∧ r ≤ 57
    · exact Or.inl h3
    rw [if_neg h1, if_neg h2, if_neg h3] at h
    exact absurd rfl h
  · intro h; have := (hexval_value r h).2.1; omega

theorem octval_spec (r : Int) : octval r ≠ -1 ↔ (48 ≤ r ∧ r ≤ 55) := by
  unfold octval
  simp only [ch_0, ch_7]
  split
  · constructor <;> intro _ <;> omega
  · constructor
    · intro h; exact absurd rfl h
    · intro h; omega

theorem octval_value (r : Int) (h : 48 ≤ r ∧ r ≤ 55) : octval r = r - 48 := by
  unfold octval
  simp only [ch_0, ch_7]
  simp [h]

theorem parse_error_in_pattern (env : Env) (v : Variant) (fold bytes : Bool) (pat : List Nat)
    (msg : String) (lo hi : Nat) (h : parse env v fold bytes pat = .error msg lo hi) :
    lo ≤ hi ∧ hi ≤ pat.length := by
  -- every error of `parse` is made by its local `err`, from a `PErr` that counts the bytes left
  have key : ∀ e : PErr, Result.error e.msg (pat.length - e.rem) (pat.length - (e.rem - 1)) = .error msg lo hi →
      lo ≤ hi ∧ hi ≤ pat.length := by
    intro e he; injection he with _ h1 h2; omega
  revert h
  fun_cases parse env v fold bytes pat
  -- the third row returns the expression, the other three call `err`
  case case3 => exact nofun
  all_goals exact key _

theorem pow_congr {L L' : List Int → Prop} (h : ∀ w, L w ↔ L' w) (k : Nat) (w : List Int) :
    Pow L k w ↔ Pow L' k w := by
  induction k generalizing w with
  | zero => exact Iff.rfl
  | succ k ih => exact exists_congr fun u => exists_congr fun v => and_congr_right fun _ => and_congr (h u) (ih v)

theorem lang_cat (ρ : List Nat → List Int → Prop) (a b : Regex) (w : List Int) :
    Lang ρ (.cat a b) w ↔ ∃ u v, w = u ++ v ∧ Lang ρ a u ∧ Lang ρ b v := Iff.rfl

theorem lang_cat_eps_left (ρ : List Nat → List Int → Prop) (b : Regex) (w : List Int) :
    Lang ρ (.cat .eps b) w ↔ Lang ρ b w :=
  ⟨fun ⟨_, _, e, hu, hv⟩ => by cases (hu : _ = []); exact e ▸ hv, fun h => ⟨[], w, rfl, rfl, h⟩⟩

theorem lang_cat_eps_right (ρ : List Nat → List Int → Prop) (a : Regex) (w : List Int) :
    Lang ρ (.cat a .eps) w ↔ Lang ρ a w :=
  ⟨fun ⟨u, _, e, hu, hv⟩ => by cases (hv : _ = []); rw [e, List.append_nil]; exact hu,
   fun h => ⟨w, [], (List.append_nil w).symm, h, rfl⟩⟩

theorem lang_cat_congr {ρ : List Nat → List Int → Prop} {a a' b b' : Regex} (ha : ∀ w, Lang ρ a w ↔ Lang ρ a' w)
    (hb : ∀ w, Lang ρ b w ↔ Lang ρ b' w) (w : List Int) : Lang ρ (.cat a b) w ↔ Lang ρ (.cat a' b') w :=
  exists_congr fun u => exists_congr fun v => and_congr_right fun _ => and_congr (ha u) (hb v)

theorem lang_cat_assoc (ρ : List Nat → List Int → Prop) (a b c : Regex) (w : List Int) :
    Lang ρ (.cat (.cat a b) c) w ↔ Lang ρ (.cat a (.cat b c)) w := by
  constructor
  · rintro ⟨u, v, e, ⟨u1, u2, e1, h1, h2⟩, hv⟩
    exact ⟨u1, u2 ++ v, by rw [e, e1, List.append_assoc], h1, u2, v, rfl, h2, hv⟩
  · rintro ⟨u, v, e, hu, u2, v2, e2, hu2, hv2⟩
    exact ⟨u ++ u2, v2, by rw [e, e2, List.append_assoc], ⟨u, u2, rfl, hu, hu2⟩, hv2⟩

theorem lang_rep_congr {ρ : List Nat → List Int → Prop} {r r' : Regex} (h : ∀ w, Lang ρ r w ↔ Lang ρ r' w)
    (mn : Nat) (mx : Option Nat) (w : List Int) : Lang ρ (.rep r mn mx) w ↔ Lang ρ (.rep r' mn mx) w :=
  exists_congr fun k => and_congr_right fun _ => and_congr_right fun _ => pow_congr h k w

theorem lang_rep_zero (ρ : List Nat → List Int → Prop) (r : Regex) (mn : Nat) (w : List Int) :
    Lang ρ (.rep r mn (some 0)) w ↔ mn = 0 ∧ w = [] := by
  constructor
  · rintro ⟨k, h1, h2, h3⟩
    have : k = 0 := Nat.le_zero.1 (h2 0 rfl)
    subst this
    exact ⟨Nat.le_zero.1 h1, h3⟩
  · rintro ⟨rfl, rfl⟩
    exact ⟨0, Nat.le_refl _, fun m _ => Nat.zero_le _, rfl⟩

theorem lang_catC (ρ : List Nat → List Int → Prop) (a b : Regex) (w : List Int) :
    Lang ρ (catC a b) w ↔ Lang ρ (.cat a b) w := by
  fun_induction catC a b generalizing w with
  | case1 b => exact (lang_cat_eps_left ρ b w).symm
  | case2 a1 a2 b ih => exact (lang_cat_congr (fun _ => Iff.rfl) ih w).trans (lang_cat_assoc ρ a1 a2 b w).symm
  | case3 a _ _ => exact (lang_cat_eps_right ρ a w).symm
  | case4 a b _ _ _ => exact Iff.rfl

theorem lang_altC (ρ : List Nat → List Int → Prop) (a b : Regex) (w : List Int) :
    Lang ρ (altC a b) w ↔ Lang ρ (.alt a b) w := by
  fun_induction altC a b with
  | case1 a1 a2 b ih => exact (or_congr_right ih).trans or_assoc.symm
  | case2 a b _ => exact Iff.rfl

theorem canon_lang (ρ : List Nat → List Int → Prop) (r : Regex) (w : List Int) :
    Lang ρ (canon r) w ↔ Lang ρ r w := by
  induction r generalizing w with
  | eps => exact Iff.rfl
  | cc c => exact exists_congr fun s => and_congr_right fun _ => mem_newCharset c s
  | cat a b iha ihb =>
    simp only [canon]
    rw [lang_catC]
    exact lang_cat_congr iha ihb w
  | alt a b iha ihb => exact (lang_altC ρ _ _ w).trans (or_congr (iha w) (ihb w))
  | rep r mn mx ih =>
    simp only [canon]
    split
    · rename_i h
      simp only [Bool.and_eq_true, beq_iff_eq] at h
      obtain ⟨h1, h2⟩ := h
      subst h1; subst h2
      rw [lang_rep_zero]
      exact ⟨fun e => ⟨rfl, e⟩, And.right⟩
    · exact lang_rep_congr ih mn mx w
  | ext n => exact Iff.rfl

theorem nextRune_ascii (b : Nat) (rest : List Nat) (h : b < 0x80) : nextRune (b :: rest) = some ((b : Int), rest) := by
  simp [nextRune, decodeRune, h]

theorem isHexDigit_ascii {h : Nat} (d : isHexDigit h) : h < 0x80 ∧ h ≠ 0x7B := by
  rw [isHexDigit_iff] at d; omega

theorem fixedDigits_hex (h : Nat) (d : isHexDigit h) (n : Nat) (acc : Int) (rest : List Nat) :
    fixedDigits Variant.strict 4 (n + 1) acc (h :: rest) =
      fixedDigits Variant.strict 4 n (acc * 16 + hexval false h) rest := by
  have hv : (hexval false (h : Int) == -1) = false := beq_false_of_ne ((hexval_spec _).2 d)
  rw [fixedDigits, nextRune_ascii h rest (isHexDigit_ascii d).1]
  simp only [Variant.strict, shiftAdd, show ((4 : Nat) == 3) = false from rfl, Bool.false_eq_true, if_false, hv]
  rfl

theorem escape_x2 (env : Env) (bytes standalone : Bool) (h1 h2 : Nat) (rest : List Nat)
    (d1 : isHexDigit h1) (d2 : isHexDigit h2) :
    parseEscape env Variant.strict false bytes standalone (0x78 :: h1 :: h2 :: rest) =
      .ok ([(hexval false h1 * 16 + hexval false h2, hexval false h1 * 16 + hexval false h2)], rest) := by
  have v1 := hexval_value h1 d1
  have v2 := hexval_value h2 d2
  have hm : (255 : Int) ≤ maxRune bytes := by unfold maxRune; split <;> omega
  have g : ((hexval false ↑h1 * 16 + hexval false ↑h2 > maxRune bytes && !standalone) ||
      decide (hexval false ↑h1 * 16 + hexval false ↑h2 > 1114111)) = false := by
    rw [Bool.or_eq_false_iff, Bool.and_eq_false_imp, decide_eq_false_iff_not, decide_eq_true_eq]
    omega
  unfold parseEscape
  rw [nextRune_ascii 0x78 _ (by decide)]
  -- the comparisons of `'x'` with the escape letters are closed: they select the branch of `\x`, `\u`, `\U`
  simp (decide := true) (zeta := false) only [if_false, if_true]
  extract_lets mx l digits
  -- the first digit is not `{`, so both are read by `fixedDigits`
  have hd : digits = some (hexval false h1 * 16 + hexval false h2, rest) := by
    unfold digits
    split
    · rename_i heq; injection heq with heq _; exact absurd heq (isHexDigit_ascii d1).2
    · rw [fixedDigits_hex h1 d1, fixedDigits_hex h2 d2, fixedDigits, Int.zero_mul, Int.zero_add]
  simp only [hd, mx, g, Bool.false_eq_true, if_false, runeSet, Bool.false_and]

end TmVerif.Regex
