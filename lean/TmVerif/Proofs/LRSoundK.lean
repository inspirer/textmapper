/-
Tables with lookahead automata that pass `certKOk` (transitions `EdgeK`) as an instance of the
general invariant: whatever the runtime's deep lookahead decides is a leaf of the automaton, and the
checker has justified every leaf.
-/
import TmVerif.Proofs.LRSoundInv
namespace TmVerif.LRSoundK
open TmVerif.LR TmVerif.CFG TmVerif.LRSound

theorem cellPtr_some {t : Tables} {s a x : Int} (h : cellPtr t s a = some x) :
    t.optimized = false ∧ ∃ action, geti t.action s = some action ∧ action < -2 ∧
      lalrLookup t action a = some x ∧ x < -2 := by
  revert h
  fun_cases cellPtr t s a
  case case4 hopt action hg hlt y hl hy =>
    rintro ⟨⟩
    exact ⟨by simpa using hopt, action, hg, hlt, hl, hy⟩
  all_goals nofun

/-- in a deep cell only the decision `-1` (the default encoding's "shift") shifts: `shiftOf` asks
the cell with that answer -/
theorem actOf_const_shift {t : Tables} {s a x r q : Int} (h : cellPtr t s a = some x)
    (hs : actOf t (fun _ => some r) s a = some (.shift q)) : r = -1 := by
  obtain ⟨hopt, action, hg, hlt, hl, hx⟩ := cellPtr_some h
  unfold actOf at hs
  simp only [hopt, Bool.false_eq_true, if_false, hg, hlt, if_true, hl, hx] at hs
  by_cases h0 : r ≥ 0
  · simp [h0] at hs
  · by_cases h1 : r = -1
    · exact h1
    · simp [h0, h1] at hs

theorem allLeaves_deepLA {P : Int → Bool} {t : Tables} {inp : Input}
    (htok : ∀ j, symAt inp j < t.nTerms ∧ (inp.tok j).sym = (symAt inp j : Int)) :
    ∀ (fuel' pos : Nat) (x r : Int), deepLA t inp fuel' pos x = some r →
      ∀ fuel, allLeaves P t fuel x = true → P r = true :=
  deepLA_induct (P := fun _ _ x r => ∀ fuel, allLeaves P t fuel x = true → P r = true)
    (fun _ _ x hx fuel h => by
      cases fuel with
      | zero => simp [allLeaves] at h
      | succ n => rwa [allLeaves, if_neg hx] at h)
    (fun _ pos x y r hx hy _ ih fuel h => by
      cases fuel with
      | zero => simp [allLeaves] at h
      | succ n =>
        obtain ⟨ha2, ha1⟩ := htok pos
        rw [allLeaves, if_pos hx, List.all_eq_true] at h
        have := h _ (List.mem_range.mpr ha2)
        rw [← ha1, hy] at this
        exact ih n this)

structure CertFactsK (g : Grammar) (t : Tables) (cert : Cert) : Prop where
  wf : g.wf = true
  nTerms : t.nTerms = g.nTerms
  nSyms : t.nSyms = g.nSyms
  nIn : g.inputs.size ≤ t.nStates
  pastEntry : ∀ i, i < g.inputs.size → pastOf cert (i : Nat) = []
  acts : ∀ s, s < t.nStates → actsOk g t cert s = true
  tedges : ∀ s, s < t.nStates → ∀ e ∈ termEdges t s,
    edgeOk g.inputs.size t cert s (e.2.1 : Nat) e.2.2 = true
  gotos : ∀ s, s < t.nStates → ∀ k, k < t.nSyms - t.nTerms →
    gotoOk g.inputs.size t cert s (t.nTerms + k) = true
  finals : ∀ i, i < g.inputs.size → finalOk g t cert i = true

theorem certFactsK {g : Grammar} {t : Tables} {cert : Cert} (h : certKOk g t cert = true) :
    CertFactsK g t cert := by
  unfold certKOk at h
  simp only [Bool.and_eq_true, decide_eq_true_eq, List.all_eq_true, List.mem_range,
    beq_iff_eq] at h
  obtain ⟨⟨⟨⟨⟨⟨⟨⟨h1, h2⟩, h3⟩, h4⟩, _⟩, _⟩, h7⟩, h8⟩, h9⟩ := h
  exact ⟨h1, h2, h3, h4, h7, fun s hs => (h8 s hs).1.1,
    fun s hs e he => (h8 s hs).1.2 e he, fun s hs => (h8 s hs).2, h9⟩

theorem CertFactsK.nTermsPos {g : Grammar} {t : Tables} {cert : Cert} (hc : CertFactsK g t cert) :
    0 < t.nTerms :=
  nTerms_pos_of_wf hc.wf hc.nTerms

def TermEdgeK (t : Tables) (p a : Nat) (q : Int) : Prop :=
  p < t.nStates ∧ a < t.nTerms ∧ needsTok t p = some true ∧ shiftOf t p a = some (.shift q)

def NtEdgeK (t : Tables) (p X : Nat) (q : Int) : Prop :=
  p < t.nStates ∧ t.nTerms ≤ X ∧ X < t.nSyms ∧ gotoState t p X = some q ∧ 0 ≤ q

def EdgeK (t : Tables) (p X : Nat) (q : Int) : Prop := TermEdgeK t p X q ∨ NtEdgeK t p X q

theorem EdgeK.lt {t : Tables} {p X : Nat} {q : Int} (h : EdgeK t p X q) : p < t.nStates := by
  rcases h with h | h <;> exact h.1

theorem termEdge_mem_termEdges {t : Tables} {p a : Nat} {q : Int} (h : TermEdgeK t p a q) :
    (p, a, q) ∈ termEdges t p := by
  obtain ⟨hp, ha, hn, hact⟩ := h
  unfold termEdges
  rw [hn]
  simp only [beq_self_eq_true, if_true, List.mem_filterMap, List.mem_range]
  exact ⟨a, ha, by rw [hact]⟩

theorem termEdge_memK {t : Tables} {p a : Nat} {q : Int} (h : TermEdgeK t p a q) :
    (p, a, q) ∈ edges t := by
  unfold edges
  rw [List.mem_flatMap]
  exact ⟨p, List.mem_range.mpr h.1, List.mem_append_left _ (termEdge_mem_termEdges h)⟩

theorem ntEdge_memK {t : Tables} {p X : Nat} {q : Int} (h : NtEdgeK t p X q) :
    (p, X, q) ∈ edges t := by
  unfold edges
  rw [List.mem_flatMap]
  exact ⟨p, List.mem_range.mpr h.1, List.mem_append_right _ (ntEdge_mem_gotos h)⟩

theorem edge_memK {t : Tables} {p X : Nat} {q : Int} (h : EdgeK t p X q) : (p, X, q) ∈ edges t :=
  h.elim termEdge_memK ntEdge_memK

theorem finalOk_eq_finalOnK {g : Grammar} {t : Tables} {cert : Cert} {i : Nat} :
    finalOk g t cert i = finalOn (edges t) g t cert i := by rfl

theorem justifiedK {g : Grammar} {t : Tables} {cert : Cert} (hc : CertFactsK g t cert) :
    Justified g t cert (EdgeK t) where
  wf := hc.wf
  nTerms := hc.nTerms
  nSyms := hc.nSyms
  nIn := hc.nIn
  pastEntry := hc.pastEntry
  edge := by
    rintro p X q (hT | hN)
    · exact hc.tedges p hT.1 _ (termEdge_mem_termEdges hT)
    · exact ntEdge_ok (hc.gotos p hN.1) hN
  goto s X hs h1 h2 := by
    obtain ⟨q, hq, h⟩ := nt_goto (hc.gotos s hs) hs h1 h2
    exact ⟨q, hq, h.imp_right fun h => Or.inr h.1⟩

/-- `StackOkK g t i stk s syms w`: `stk` (top first) was built from the entry state `i` along
edges of the automaton; `s` is the top state, `syms` the symbols (top first), `w` the
concatenated yields (bottom first), each symbol deriving its yield. -/
inductive StackOkK (g : Grammar) (t : Tables) (i : Nat) :
    List Entry → Nat → List Int → List Nat → Prop
  | base (e : Entry) : e.state = (i : Int) → StackOkK g t i [e] i [] []
  | push (e : Entry) (rest : List Entry) (p X q : Nat) (syms : List Int) (w y : List Nat) :
      StackOkK g t i rest p syms w → e.sym = (X : Int) → e.state = (q : Int) →
      EdgeK t p X (q : Int) → Derives g X y →
      StackOkK g t i (e :: rest) q ((X : Int) :: syms) (w ++ y)

theorem StackOkK.stack {g : Grammar} {t : Tables} {i : Nat} {stk : List Entry} {s : Nat}
    {syms : List Int} {w : List Nat} (h : StackOkK g t i stk s syms w) :
    Stack g (EdgeK t) i stk s syms w := by
  induction h with
  | base e he => exact .base he
  | push e rest p X q syms w y _ hX hq hE hD ih => exact .push ih hX hq hE hD

theorem StackOkK.length {g : Grammar} {t : Tables} {i : Nat} {stk : List Entry} {s : Nat}
    {syms : List Int} {w : List Nat} (h : StackOkK g t i stk s syms w) :
    stk.length = syms.length + 1 :=
  h.stack.length

/-- `hdeep`: whatever the oracle answers at a pointer is a leaf of the lookahead automaton below it
(`allLeaves_deepLA` for the runtime's `deepLA`) -/
theorem cellOk_act {g : Grammar} {t : Tables} {cert : Cert} {s a : Nat} {act : Act}
    {deep : Int → Option Int}
    (hdeep : ∀ (P : Int → Bool) x r, deep x = some r → allLeaves P t (leafFuel t) x = true →
      P r = true)
    (hcell : cellOk g t cert s a = true) (hact : actOf t deep s a = some act) :
    actOk g t cert s (some a, some act) = true ∧
      ∀ q, act = .shift q → shiftOf t s a = some (.shift q) := by
  unfold cellOk at hcell
  unfold shiftOf
  rw [actOf_cell] at hact
  cases hp : cellPtr t (s : Int) (a : Int) with
  | none =>
    rw [hp] at hcell hact
    simp only at hcell hact ⊢
    rw [hact] at hcell
    exact ⟨hcell, fun q hq => by rw [hact, hq]⟩
  | some x =>
    rw [hp] at hcell hact
    simp only at hcell hact ⊢
    obtain ⟨r, hr, hact⟩ := Option.bind_eq_some_iff.mp hact
    have hP := hdeep _ x r hr hcell
    rw [hact] at hP
    refine ⟨hP, fun q hq => ?_⟩
    rw [hq] at hact
    rw [← actOf_const_shift hp hact]
    exact hact

theorem decodeOkK {g : Grammar} {t : Tables} {cert : Cert} {inp : Input}
    (hc : CertFactsK g t cert) (htok : TokOk t inp) : DecodeOk g t cert (EdgeK t) inp := by
  intro c c1 act s m hs hst hn hd
  have hacts := hc.acts s hs
  unfold actsOk at hacts
  rcases decode_cases hd with ⟨hnt, rfl, ha'⟩ | ⟨hnt, rfl, ha'⟩ <;> rw [hst] at hnt ha' <;>
    rw [hnt] at hacts
  · obtain ⟨f1, f2, _⟩ := fetch_spec inp c m hn
    obtain ⟨ha2, ha1⟩ := symAt_lt_nTerms htok hc.nTermsPos m
    rw [f1, ha1] at ha'
    simp only [List.all_eq_true, List.mem_range] at hacts
    -- whatever the deep lookahead answers is a leaf
    obtain ⟨hok, hsh⟩ := cellOk_act (fun _ x r hr hl =>
      allLeaves_deepLA (symAt_lt_nTerms htok hc.nTermsPos) _ _ x r hr _ hl) (hacts _ ha2) ha'
    cases act with
    | error => trivial
    | reduce r => exact hok
    | shift q => exact ⟨f2, Or.inl ⟨hs, ha2, hnt, hsh q rfl⟩⟩
  · simp only at hacts
    rw [ha'] at hacts
    cases act with
    | error => trivial
    | reduce r => exact hacts
    | shift q => cases hacts

end TmVerif.LRSoundK
