import TmVerif.Proofs.GraphBasic
/-!
`Reach`, `SC` and `IsSccOrder` (what "the strongly connected components, once each, in reverse topological
order" means), and the validator `checkScc` (C26, Mode V): it accepts `comps` for `g` exactly when
`IsSccOrder g comps` holds (`checkScc_sound`, `checkScc_complete`; both start from `checkScc_iff`, which reads
the validator's clauses as propositions).
-/
namespace TmVerif.Graph

def Reach (g : Graph) (a b : Nat) : Prop := a = b ∨ Relation.TransGen (Edge g) a b

def SC (g : Graph) (a b : Nat) : Prop := Reach g a b ∧ Reach g b a

theorem Reach.refl (g : Graph) (a : Nat) : Reach g a a := .inl rfl

theorem Reach.trans {g : Graph} {a b c : Nat} (h1 : Reach g a b) (h2 : Reach g b c) : Reach g a c := by
  rcases h1 with rfl | h1
  · exact h2
  · rcases h2 with rfl | h2
    · exact .inr h1
    · exact .inr (h1.trans h2)

theorem Reach.edge {g : Graph} {a b : Nat} (h : Edge g a b) : Reach g a b := .inr (.single h)

theorem Reach.lt {g : Graph} (hwf : Wf g) {a b : Nat} (ha : a < g.length) (h : Reach g a b) : b < g.length :=
  h.elim (· ▸ ha) (transGen_closed (P := (· < g.length)) (fun _ _ => hwf _) ha)

structure IsSccOrder (g : Graph) (comps : List (List Nat)) : Prop where
  nodup : comps.flatten.Nodup
  cover : ∀ v, v ∈ comps.flatten ↔ v < g.length
  nonempty : ∀ c ∈ comps, c ≠ []
  scc : ∀ c ∈ comps, ∀ u ∈ c, ∀ v, v ∈ c ↔ SC g u v
  /-- whatever a vertex reaches lies in the same or an earlier reported component -/
  order : ∀ (i j : Nat) (hi : i < comps.length) (hj : j < comps.length) (u v : Nat),
    u ∈ comps[i] → v ∈ comps[j] → Reach g u v → j ≤ i

theorem IsSccOrder.pairwise {g : Graph} {comps : List (List Nat)} (h : IsSccOrder g comps) :
    comps.Pairwise fun c d => ∀ u ∈ c, ∀ v ∈ d, ¬ Reach g u v :=
  List.pairwise_iff_getElem.2 fun i j hi hj hij u hu v hv r =>
    Nat.not_le_of_lt hij (h.order i j hi hj u v hu hv r)

theorem nodupB_iff (l : List Nat) : nodupB l = true ↔ l.Nodup := by
  induction l with
  | nil => simp [nodupB]
  | cons a l ih => simp [nodupB, ih, List.nodup_cons]

theorem compOf_some {comps : List (List Nat)} {v i : Nat} (h : compOf comps v = some i) :
    ∃ hi : i < comps.length, v ∈ comps[i] := by
  unfold compOf at h
  rw [List.findIdx?_eq_some_iff_getElem] at h
  obtain ⟨hi, h1, _⟩ := h
  exact ⟨hi, by simpa using h1⟩

theorem compOf_of_mem {comps : List (List Nat)} (hnd : comps.flatten.Nodup) {v i : Nat}
    (hi : i < comps.length) (hv : v ∈ comps[i]) : compOf comps v = some i := by
  unfold compOf
  rw [List.findIdx?_eq_some_iff_getElem]
  refine ⟨hi, List.contains_iff_mem.2 hv, fun j hji hc => ?_⟩
  -- an earlier component with `v` in it would not be disjoint from `comps[i]`
  exact List.pairwise_iff_getElem.1 (List.pairwise_flatten.1 hnd).2 j i (Nat.lt_trans hji hi) hi hji
    v (List.contains_iff_mem.1 hc) v hv rfl

theorem compOf_flatten {comps : List (List Nat)} (hnd : comps.flatten.Nodup) {v : Nat} (hv : v ∈ comps.flatten) :
    ∃ i, ∃ hi : i < comps.length, v ∈ comps[i] ∧ compOf comps v = some i := by
  obtain ⟨c, hc, hvc⟩ := List.mem_flatten.1 hv
  obtain ⟨i, hi, rfl⟩ := List.getElem_of_mem hc
  exact ⟨i, hi, hvc, compOf_of_mem hnd hi hvc⟩

theorem edgesBackB_iff {g : Graph} {comps : List (List Nat)} : edgesBackB g comps = true ↔
    ∀ a b, Edge g a b → ∃ i j, compOf comps a = some i ∧ compOf comps b = some j ∧ j ≤ i := by
  unfold edgesBackB
  simp only [List.all_eq_true, List.mem_range]
  constructor
  · intro h a b e
    have := h a e.lt_left b e
    split at this
    · rename_i j i hj hi
      exact ⟨i, j, hi, hj, by simpa using this⟩
    · cases this
  · intro h a _ b e
    obtain ⟨i, j, hi, hj, hji⟩ := h a b e
    rw [hi, hj]
    exact decide_eq_true hji

theorem checkScc_iff (g : Graph) (comps : List (List Nat)) : checkScc g comps = true ↔
    Wf g ∧ comps.flatten.Nodup ∧ (∀ v ∈ comps.flatten, v < g.length) ∧ (∀ v, v < g.length → v ∈ comps.flatten) ∧
      (∀ c ∈ comps, c ≠ []) ∧ edgesBackB g comps = true ∧
      ∀ c ∈ comps, ∀ u ∈ c, ∀ v ∈ c, u = v ∨ (Matrix.ofGraph g).closure.hasEdge u v = true := by
  simp only [checkScc, Bool.and_eq_true, wfB_iff, nodupB_iff, and_assoc, List.all_eq_true,
    decide_eq_true_eq, List.mem_range, List.contains_iff_mem, Bool.not_eq_true', List.isEmpty_eq_false_iff,
    Bool.or_eq_true, beq_iff_eq, ne_eq]

theorem edgesBack_reach {g : Graph} {comps : List (List Nat)} (h : edgesBackB g comps = true)
    {a b i j : Nat} (r : Reach g a b) (ha : compOf comps a = some i) (hb : compOf comps b = some j) : j ≤ i := by
  rcases r with rfl | p
  · rw [ha] at hb; cases hb; exact Nat.le_refl _
  · induction p generalizing j with
    | single e =>
      obtain ⟨i', j', h1, h2, h3⟩ := edgesBackB_iff.1 h _ _ e
      rw [ha] at h1; rw [hb] at h2; cases h1; cases h2; exact h3
    | tail _ e ih =>
      obtain ⟨k, j', h1, h2, h3⟩ := edgesBackB_iff.1 h _ _ e
      rw [hb] at h2; cases h2
      exact Nat.le_trans h3 (ih h1)

theorem checkScc_sound (g : Graph) (comps : List (List Nat)) (h : checkScc g comps = true) :
    Wf g ∧ IsSccOrder g comps := by
  obtain ⟨hwf, hnd, hlt, hcov, hne, hback, hsc⟩ := (checkScc_iff g comps).1 h
  have hn : ∀ c ∈ comps, ∀ u ∈ c, u < g.length := fun c hc u hu => hlt u (List.mem_flatten.2 ⟨c, hc, hu⟩)
  have horder : ∀ (i j : Nat) (hi : i < comps.length) (hj : j < comps.length) (u v : Nat),
      u ∈ comps[i] → v ∈ comps[j] → Reach g u v → j ≤ i := fun i j hi hj u v hu hv r =>
    edgesBack_reach hback r (compOf_of_mem hnd hi hu) (compOf_of_mem hnd hj hv)
  refine ⟨hwf, hnd, fun v => ⟨hlt v, hcov v⟩, hne, ?_, horder⟩
  intro c hc u hu v
  constructor
  · intro hv
    have huv : ∀ x ∈ c, ∀ y ∈ c, Reach g x y := fun x hx y hy =>
      (or_congr_right (Matrix.closure_ofGraph g hwf x y (hn c hc x hx) (hn c hc y hy))).1 (hsc c hc x hx y hy)
    exact ⟨huv u hu v hv, huv v hv u hu⟩
  · rintro ⟨r1, r2⟩
    obtain ⟨i, hi, rfl⟩ := List.getElem_of_mem hc
    obtain ⟨j, hj, hv', _⟩ := compOf_flatten hnd (hcov v (r1.lt hwf (hn _ hc u hu)))
    have h1 := horder i j hi hj u v hu hv' r1
    have h2 := horder j i hj hi v u hv' hu r2
    have : i = j := Nat.le_antisymm h2 h1
    subst this
    exact hv'

/-- Completeness: an implementation that reports the components in another valid order is still accepted. -/
theorem checkScc_complete (g : Graph) (comps : List (List Nat)) (hwf : Wf g) (h : IsSccOrder g comps) :
    checkScc g comps = true := by
  refine (checkScc_iff g comps).2
    ⟨hwf, h.nodup, fun v => (h.cover v).1, fun v => (h.cover v).2, h.nonempty, ?_, ?_⟩
  · refine edgesBackB_iff.2 fun v w hw => ?_
    obtain ⟨i, hi, hvi, ci⟩ := compOf_flatten h.nodup ((h.cover v).2 hw.lt_left)
    obtain ⟨j, hj, hwj, cj⟩ := compOf_flatten h.nodup ((h.cover w).2 (hwf v w hw))
    exact ⟨i, j, ci, cj, h.order i j hi hj v w hvi hwj (Reach.edge hw)⟩
  · intro c hc u hu v hv
    have hn : ∀ x ∈ c, x < g.length := fun x hx => (h.cover x).1 (List.mem_flatten.2 ⟨c, hc, hx⟩)
    exact (or_congr_right (Matrix.closure_ofGraph g hwf u v (hn u hu) (hn v hv))).2 ((h.scc c hc u hu v).1 hv).1

end TmVerif.Graph
