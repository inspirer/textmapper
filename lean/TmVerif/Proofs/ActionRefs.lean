import TmVerif.Model.ActionRefs
/-!
C16: the invariant of `build` (the mirror of `traverse`), the scoping of mid-rule commands, the stack-slot
arithmetic.
-/
namespace TmVerif.ActionRefs

theorem lookup_filter_ne (m : List (Nat × Nat)) (p q : Nat) (h : q ≠ p) :
    (m.filter (fun e => e.1 != p)).lookup q = m.lookup q := by
  induction m with
  | nil => rfl
  | cons e m ih =>
    obtain ⟨a, b⟩ := e
    rw [List.filter_cons, List.lookup_cons]
    split
    · rw [List.lookup_cons, ih]
    · next ha =>
      have : a = p := by simpa using ha
      rw [ih, beq_false_of_ne (this ▸ h)]

theorem lookup_mapSet (m : List (Nat × Nat)) (p n q : Nat) :
    (mapSet m p n).lookup q = if q = p then some n else m.lookup q := by
  unfold mapSet
  by_cases h : q = p
  · subst h; simp [List.lookup]
  · have hq : (q == p) = false := by simpa using h
    simp [List.lookup, hq, h, lookup_filter_ne m p q h]

theorem getElem?_concat_eq_some {α : Type} (l : List α) (x y : α) (j : Nat) :
    (l ++ [x])[j]? = some y ↔ l[j]? = some y ∨ (j = l.length ∧ x = y) := by
  rcases Nat.lt_trichotomy j l.length with h | rfl | h
  · rw [List.getElem?_append_left h]; simp [Nat.ne_of_lt h]
  · simp
  · rw [List.getElem?_eq_none (by simp; omega), List.getElem?_eq_none (Nat.le_of_lt h)]; simp [Nat.ne_of_gt h]

theorem getElem?_append_some {α : Type} {l : List α} {i : Nat} {x : α} (h : l[i]? = some x) (l' : List α) :
    (l ++ l')[i]? = some x := by
  rw [List.getElem?_append_left (List.getElem?_eq_some_iff.mp h).1]; exact h

def LastIdx (rhs : List RSym) (q i : Nat) : Prop :=
  rhs[i]? = some (.sym q) ∧ ∀ j, i < j → rhs[j]? ≠ some (.sym q)

theorem lastIdx_append_ne (rhs : List RSym) (x : RSym) (q i : Nat) (hx : x ≠ .sym q) :
    LastIdx (rhs ++ [x]) q i ↔ LastIdx rhs q i := by
  simp only [LastIdx, ne_eq, getElem?_concat_eq_some, hx, and_false, or_false]

theorem lastIdx_append_self (rhs : List RSym) (q i : Nat) :
    LastIdx (rhs ++ [.sym q]) q i ↔ i = rhs.length := by
  unfold LastIdx
  constructor
  · rintro ⟨h1, h2⟩
    rcases Nat.lt_trichotomy i rhs.length with h | h | h
    · exact absurd (by simp) (h2 rhs.length h)
    · exact h
    · rw [List.getElem?_eq_none (by simp; omega)] at h1; cases h1
  · rintro rfl
    refine ⟨by simp, fun j hj hc => ?_⟩
    rw [List.getElem?_eq_none (by simp; omega)] at hc; cases hc

/-- `numRefs` counts the stack symbols, `actualPos` maps a position to its last occurrence among them, and the
nonterminal of every extracted command sits at the index its `SymRefCount` names. -/
structure Inv (st : TState) : Prop where
  num : st.numRefs = st.rhs.length
  map : ∀ q i, st.actualPos.lookup q = some i ↔ 0 < q ∧ LastIdx st.rhs q i
  mids : ∀ (k : Nat) (m : Mid), st.mids[k]? = some m → st.rhs[m.symRefCount]? = some (.mid k)

theorem inv_init : Inv {} := by
  refine ⟨rfl, fun q i => ?_, fun k m hk => by cases hk⟩
  simp [List.lookup, LastIdx]

theorem inv_flush (st : TState) (h : Inv st) : Inv (flush st) := by
  unfold flush
  cases hp : st.pending with
  | none => simpa using h
  | some mp =>
    refine ⟨by simp [h.num], fun q i => ?_, fun k m hk => ?_⟩
    · simp only
      rw [h.map q i, lastIdx_append_ne _ _ _ _ (by intro hc; cases hc)]
    · rcases (getElem?_concat_eq_some _ _ _ _).mp hk with hk | ⟨rfl, rfl⟩
      · exact getElem?_append_some (h.mids k m hk) _
      · simp

theorem inv_pushRef (st : TState) (pos : Nat) (h : Inv st) : Inv (pushRef st pos) := by
  unfold pushRef
  refine ⟨by simp [h.num], fun q i => ?_, fun k m hk => getElem?_append_some (h.mids k m hk) _⟩
  simp only
  by_cases hq : q = pos
  · -- the pushed symbol is the new last occurrence of `pos`, recorded when `pos > 0`
    subst hq
    rw [lastIdx_append_self, ← h.num]
    by_cases hpos : q > 0
    · rw [if_pos hpos, lookup_mapSet, if_pos rfl]
      exact ⟨fun hh => ⟨hpos, (Option.some.inj hh).symm⟩, fun hh => by rw [hh.2]⟩
    · rw [if_neg hpos, h.map q i]
      exact ⟨fun hh => absurd hh.1 hpos, fun hh => absurd hh.1 hpos⟩
  · have hne : RSym.sym pos ≠ RSym.sym q := fun hc => hq (RSym.sym.inj hc).symm
    rw [lastIdx_append_ne _ _ _ _ hne, ← h.map q i]
    split
    · rw [lookup_mapSet, if_neg hq]
    · rfl

theorem inv_step (st : TState) (e : Elem) (h : Inv st) : Inv (step st e) := by
  cases e with
  | ref pos => exact inv_pushRef _ _ (inv_flush _ h)
  | marker | cmd _ => exact ⟨h.num, h.map, h.mids⟩

theorem inv_run (es : List Elem) (st : TState) (h : Inv st) : Inv (run es st) := by
  induction es generalizing st with
  | nil => exact h
  | cons e es ih => exact ih _ (inv_step _ _ h)

theorem inv_build (es : List Elem) : Inv (build es) := inv_run es _ inv_init

/-- every reference that follows a command with `MaxPos = M` has no position or a position `≥ M` -/
def Scoped : List Elem → Prop
  | [] => True
  | .cmd mp :: rest => (∀ p, Elem.ref p ∈ rest → p = 0 ∨ mp ≤ p) ∧ Scoped rest
  | _ :: rest => Scoped rest

/-- invariant for the mid-rule theorem: from the nonterminal of a recorded command on, the right-hand side holds
only references outside the command's scope -/
def MInv (st : TState) : Prop :=
  ∀ m ∈ st.mids, ∀ j q, m.symRefCount ≤ j → st.rhs[j]? = some (.sym q) → q = 0 ∨ m.maxPos ≤ q

theorem minv_init : MInv {} := nofun

theorem minv_flush (st : TState) (h : MInv st) : MInv (flush st) := by
  unfold flush
  cases hp : st.pending with
  | none => exact h
  | some mp =>
    intro m hm j q hj hq
    rcases (getElem?_concat_eq_some ..).mp hq with hq | ⟨-, hq⟩
    · rcases List.mem_append.mp hm with hm | hm
      · exact h m hm j q hj hq
      · -- the command extracted now sits at the end of the old right-hand side
        cases List.mem_singleton.mp hm
        exact absurd (List.getElem?_eq_some_iff.mp hq).1 (Nat.not_lt.mpr hj)
    · cases hq

theorem minv_pushRef (st : TState) (pos : Nat) (h : MInv st)
    (hs : ∀ m ∈ st.mids, pos = 0 ∨ m.maxPos ≤ pos) : MInv (pushRef st pos) := by
  intro m hm j q hj hq
  rcases (getElem?_concat_eq_some ..).mp hq with hq | ⟨-, hq⟩
  · exact h m hm j q hj hq
  · cases hq; exact hs m hm

def cmds (st : TState) : List Nat := st.mids.map Mid.maxPos ++ st.pending.toList

theorem cmds_flush (st : TState) : cmds (flush st) = cmds st := by
  unfold flush cmds
  cases hp : st.pending <;> simp [hp]

def Respects (st : TState) (es : List Elem) : Prop :=
  ∀ mp ∈ cmds st, ∀ p, Elem.ref p ∈ es → p = 0 ∨ mp ≤ p

theorem minv_step (st : TState) (e : Elem) (es : List Elem) (h : MInv st) (hr : Respects st (e :: es)) :
    MInv (step st e) := by
  cases e with
  | ref pos =>
    refine minv_pushRef _ _ (minv_flush st h) fun m hm => hr m.maxPos ?_ pos List.mem_cons_self
    rw [← cmds_flush]
    exact List.mem_append_left _ (List.mem_map_of_mem hm)
  | marker | cmd _ => exact h

theorem respects_step (st : TState) (e : Elem) (es : List Elem) (hr : Respects st (e :: es))
    (hsc : Scoped (e :: es)) : Respects (step st e) es := by
  intro mp hmp p hp
  cases e with
  | ref pos =>
    have hc : cmds (step st (.ref pos)) = cmds st := cmds_flush st
    exact hr mp (hc ▸ hmp) p (List.mem_cons_of_mem _ hp)
  | marker => exact hr mp hmp p (List.mem_cons_of_mem _ hp)
  | cmd mp' =>
    rcases List.mem_append.mp hmp with hm | hm
    · exact hr mp (List.mem_append_left _ hm) p (List.mem_cons_of_mem _ hp)
    · rw [List.mem_singleton.mp hm]; exact hsc.1 p hp

theorem Scoped.tail {e : Elem} {es : List Elem} (h : Scoped (e :: es)) : Scoped es := by
  cases e with
  | cmd mp => exact h.2
  | ref _ | marker => exact h

theorem minv_run (es : List Elem) (st : TState) (h : MInv st) (hr : Respects st es)
    (hsc : Scoped es) : MInv (run es st) := by
  induction es generalizing st with
  | nil => exact h
  | cons e es ih =>
    exact ih _ (minv_step st e es h hr) (respects_step st e es hr hsc) hsc.tail

theorem minv_build (es : List Elem) (hsc : Scoped es) : MInv (build es) :=
  minv_run es _ minv_init (fun _ h => by cases h) hsc

theorem stackAt_natCast {β : Type} (stack : List β) (k : Nat) (h1 : 1 ≤ k) (h2 : k ≤ stack.length) :
    stackAt stack (k : Int) = stack[stack.length - k]? := by
  unfold stackAt
  rw [if_pos ⟨Int.ofNat_le.mpr h1, Int.ofNat_le.mpr h2⟩, Int.toNat_natCast]

theorem stackAt_append {β : Type} (below entries : List β) (i : Nat) (hi : i < entries.length) :
    stackAt (below ++ entries) ((entries.length : Int) - i) = entries[i]? := by
  have hj : entries.length - i ≤ entries.length := Nat.sub_le _ _
  rw [← Int.ofNat_sub (Nat.le_of_lt hi), stackAt_natCast _ _ (Nat.sub_pos_of_lt hi)
      (by rw [List.length_append]; exact Nat.le_trans hj (Nat.le_add_left _ _)),
    List.length_append, Nat.add_sub_assoc hj, Nat.sub_sub_self (Nat.le_of_lt hi),
    List.getElem?_append_right (Nat.le_add_right _ _), Nat.add_sub_cancel_left]

theorem filter_getLast {α : Type} (p : α → Bool) (l : List α) (a : α) (as : List α) (h : l.filter p = a :: as) :
    ∃ pre post, l = pre ++ (a :: as).getLast?.getD a :: post ∧ p ((a :: as).getLast?.getD a) = true ∧
      ∀ x ∈ post, ¬ p x = true := by
  have hb : a :: as = (a :: as).dropLast ++ [(a :: as).getLast?.getD a] := by
    rw [List.getLast?_eq_some_getLast (List.cons_ne_nil a as), Option.getD_some, List.dropLast_concat_getLast]
  rw [hb] at h
  obtain ⟨l₁, l₂, rfl, -, h₂⟩ := List.filter_eq_append_iff.mp h
  obtain ⟨pre, post, rfl, -, hp, hpost⟩ := List.filter_eq_cons_iff.mp h₂
  exact ⟨l₁ ++ pre, post, by simp, hp, List.filter_eq_nil_iff.mp hpost⟩

end TmVerif.ActionRefs
