import TmVerif.Model.Graph
import TmVerif.Proofs.Basic
/-!
The base of everything that speaks of graphs (C26, C25, C15): `Transpose`, the loop invariant rules `forUpTo_inv` and
`rows_inv`, the Warshall closure of `matrix.go` (`Matrix.closure_spec`, by induction on the pivot index),
the vocabulary `Edge`, `Wf`, and the matrix of an adjacency list.
-/
namespace TmVerif.Graph

theorem succs_ge (g : Graph) (u : Nat) (h : g.length ≤ u) : succs g u = [] := by
  simp [succs, h]

theorem succs_modify (ret : Graph) (to src : Nat) {u : Nat} (hu : u < ret.length) :
    succs (ret.modify to (· ++ [src])) u = if to = u then succs ret u ++ [src] else succs ret u := by
  unfold succs
  rw [List.getElem?_modify]
  simp [hu]

theorem length_addEdges (ret : Graph) (src : Nat) (es : List Nat) :
    (addEdges ret src es).length = ret.length := by
  induction es generalizing ret with
  | nil => rfl
  | cons to es ih => simp [addEdges, ih]

/- The counts below are for rows `u` of the result (`u < ret.length`): `ret[to] = append(ret[to], from)` for a
`to` out of range is where Go panics and the model does nothing. -/
theorem count_addEdges (ret : Graph) (src : Nat) (es : List Nat) {u : Nat} (hu : u < ret.length) (v : Nat) :
    (succs (addEdges ret src es) u).count v
      = (succs ret u).count v + if v = src then es.count u else 0 := by
  induction es generalizing ret with
  | nil => simp [addEdges]
  | cons to es ih =>
    rw [addEdges, ih _ (by rw [List.length_modify]; exact hu), succs_modify ret to src hu]
    by_cases h1 : to = u
    · by_cases h3 : v = src
      · simp [h1, h3, List.count_append]; omega
      · simp [h1, h3, List.count_append, Ne.symm h3]
    · simp [h1]

theorem forUpTo_inv {σ : Type} (P : Nat → σ → Prop) (k : Nat) (f : Nat → σ → σ) (s : σ)
    (h0 : P 0 s) (hs : ∀ x s, x < k → P x s → P (x + 1) (f x s)) : P k (forUpTo k f s) := by
  induction k with
  | zero => exact h0
  | succ k ih =>
    simp only [forUpTo]
    exact hs k _ (Nat.lt_succ_self k) (ih (fun x s hx hp => hs x s (Nat.lt_succ_of_lt hx) hp))

/-- Invariant rule for `for src, es := range g` written as a recursion over the rows with a running index
(`transposeFrom`, `Matrix.ofGraphFrom`): `P k` speaks of the rows below `k`. -/
theorem rows_inv {σ : Type} (step : σ → Nat → List Nat → σ) (loop : σ → Nat → Graph → σ)
    (h0 : ∀ s k, loop s k [] = s) (h1 : ∀ s k es r, loop s k (es :: r) = loop (step s k es) (k + 1) r)
    (P : Nat → σ → Prop) (g : Graph)
    (hs : ∀ k s, k < g.length → P k s → P (k + 1) (step s k (succs g k))) :
    ∀ (pre rest : Graph) (s : σ), pre ++ rest = g → P pre.length s → P g.length (loop s pre.length rest)
  | pre, [], s, hg, hp => by rw [h0, ← hg, List.append_nil]; exact hp
  | pre, es :: rest, s, hg, hp => by
    have := hs pre.length s (by simp [← hg]) hp
    rw [succs, ← hg, List.getElem?_append_right (Nat.le_refl _), Nat.sub_self] at this
    have r := rows_inv step loop h0 h1 P g hs (pre ++ [es]) rest (step s pre.length es)
      (by rw [← hg, List.append_assoc]; rfl)
    rw [List.length_append] at r
    exact h1 .. ▸ r this

theorem transpose_spec (g : Graph) :
    (transpose g).length = g.length ∧
    ∀ u v, u < g.length → (succs (transpose g) u).count v = (succs g v).count u := by
  have := rows_inv addEdges transposeFrom (fun _ _ => rfl) (fun _ _ _ _ => rfl)
    (fun k ret => ret.length = g.length ∧
      ∀ u v, u < g.length → (succs ret u).count v = if v < k then (succs g v).count u else 0) g ?_ [] g
    (List.replicate g.length []) rfl
    ⟨List.length_replicate, fun u v hu => by simp [succs, hu]⟩
  · refine ⟨this.1, fun u v hu => (this.2 u v hu).trans ?_⟩
    split
    · rfl
    · rw [succs_ge g v (Nat.le_of_not_lt ‹_›)]; rfl
  · intro k ret hk ⟨hl, hc⟩
    refine ⟨(length_addEdges ..).trans hl, fun u v hu => ?_⟩
    rw [count_addEdges ret k _ (hl ▸ hu), hc u v hu]
    by_cases h1 : v = k
    · subst h1; simp
    · by_cases h2 : v < k
      · simp [h1, h2, Nat.lt_succ_of_lt h2]
      · have : ¬ v < k + 1 := by omega
        simp [h1, h2, this]

theorem length_transpose (g : Graph) : (transpose g).length = g.length := (transpose_spec g).1

theorem count_transpose (g : Graph) (u v : Nat) (hu : u < g.length) :
    (succs (transpose g) u).count v = (succs g v).count u := (transpose_spec g).2 u v hu

namespace Matrix

theorem idx_lt {n a b : Nat} (ha : a < n) (hb : b < n) : a * n + b < n * n := by
  have h := Nat.mul_le_mul_right n (show a + 1 ≤ n from ha)
  rw [Nat.add_mul] at h
  omega

theorem idx_inj {n a b i e : Nat} (hb : b < n) (he : e < n) (h : a * n + b = i * n + e) :
    a = i ∧ b = e := by
  have hbe : b = e := by
    rw [← Nat.mod_eq_of_lt hb, ← Nat.mod_eq_of_lt he, ← Nat.mul_add_mod' a n b, h, Nat.mul_add_mod']
  subst hbe
  exact ⟨Nat.eq_of_mul_eq_mul_right (Nat.zero_lt_of_lt hb) (Nat.add_right_cancel h), rfl⟩

/-- the shape `NewMatrix(n)` gives; `AddEdge` and `Closure` keep it -/
def Ok (m : Matrix) (n : Nat) : Prop := m.n = n ∧ m.set.size = n * n

def Le (m m' : Matrix) : Prop := m'.n = m.n ∧ m'.set.size = m.set.size ∧ ∀ a b, m.hasEdge a b = true → m'.hasEdge a b = true

theorem Le.refl (m : Matrix) : Le m m := ⟨rfl, rfl, fun _ _ h => h⟩
theorem Le.trans {a b c : Matrix} (h1 : Le a b) (h2 : Le b c) : Le a c :=
  ⟨h2.1.trans h1.1, h2.2.1.trans h1.2.1, fun x y h => h2.2.2 x y (h1.2.2 x y h)⟩
theorem Le.ok {m m' : Matrix} {n : Nat} (h : Le m m') (hm : Ok m n) : Ok m' n :=
  ⟨h.1.trans hm.1, h.2.1.trans hm.2⟩

theorem le_addEdge (m : Matrix) (i e : Nat) : Le m (m.addEdge i e) := by
  refine ⟨rfl, by simp [addEdge], ?_⟩
  intro a b h
  simp only [hasEdge, addEdge] at *
  rw [Array.getElem?_setIfInBounds]
  split
  · split
    · rfl
    · rename_i h1 h2
      rw [← h1] at h
      simp [Array.getElem?_eq_none (Nat.le_of_not_lt h2)] at h
  · exact h

theorem hasEdge_addEdge {m : Matrix} {n i e a b : Nat} (hm : Ok m n) (ha : a < n) (he : e < n) (hb : b < n) :
    (m.addEdge i e).hasEdge a b = true ↔ m.hasEdge a b = true ∨ (a = i ∧ b = e) := by
  simp only [hasEdge, addEdge]
  rw [Array.getElem?_setIfInBounds, hm.1]
  by_cases h : i * n + e = a * n + b
  · obtain ⟨rfl, rfl⟩ := idx_inj he hb h
    simp [hm.2, idx_lt ha hb]
  · rw [if_neg h]
    exact ⟨.inl, fun h' => h'.elim id fun ⟨h1, h2⟩ => absurd (by rw [h1, h2]) h⟩

end Matrix

/-- paths whose intermediate vertices are all `< k` -/
inductive PathLt (E : Nat → Nat → Prop) : Nat → Nat → Nat → Prop
  | edge {k a b} : E a b → PathLt E k a b
  | trans {k a b c} : c < k → PathLt E k a c → PathLt E k c b → PathLt E k a b

theorem PathLt.split {E : Nat → Nat → Prop} {k a b : Nat} (h : PathLt E (k + 1) a b) :
    PathLt E k a b ∨ (PathLt E k a k ∧ PathLt E k k b) := by
  generalize hk : k + 1 = k' at h
  induction h with
  | edge h => exact .inl (.edge h)
  | @trans a b c hc p1 p2 ih1 ih2 =>
    subst hk
    by_cases hck : c = k
    · subst hck
      exact .inr ⟨ih1.elim id (·.1), ih2.elim id (·.2)⟩
    · have hc' : c < k := by omega
      rcases ih1 with h1 | ⟨h1, h1'⟩ <;> rcases ih2 with h2 | ⟨h2, h2'⟩
      · exact .inl (.trans hc' h1 h2)
      · exact .inr ⟨.trans hc' h1 h2, h2'⟩
      · exact .inr ⟨h1, .trans hc' h1' h2⟩
      · exact .inr ⟨h1, h2'⟩

theorem PathLt.of_transGen {E : Nat → Nat → Prop} {n a b : Nat} (hE : ∀ a b, E a b → b < n)
    (h : Relation.TransGen E a b) : PathLt E n a b := by
  induction h with
  | single h => exact .edge h
  | @tail c _ p e ih =>
    -- the midpoint `c` is the target of the last edge of `p`
    have hc : c < n := by cases p <;> exact hE _ _ ‹_›
    exact .trans hc ih (.edge e)

theorem PathLt.transGen {E : Nat → Nat → Prop} {k a b : Nat} (h : PathLt E k a b) :
    Relation.TransGen E a b := by
  induction h with
  | edge h => exact .single h
  | trans _ _ _ ih1 ih2 => exact ih1.trans ih2

namespace Matrix

def Sub (R : Nat → Nat → Prop) (n : Nat) (s : Matrix) : Prop :=
  ∀ a b, a < n → b < n → s.hasEdge a b = true → R a b

/-- Rule for the two inner loops of `Closure`: every round only adds edges and stays inside `R`, and round `x`
settles `D x`, which further edges do not unsettle. -/
theorem forUpTo_grow {R : Nat → Nat → Prop} {n k : Nat} {m : Matrix} (f : Nat → Matrix → Matrix)
    (D : Nat → Matrix → Prop) (hD : ∀ x s s', Le s s' → D x s → D x s') (hsub : Sub R n m)
    (hf : ∀ x s, x < k → Le m s → Sub R n s → Le s (f x s) ∧ Sub R n (f x s) ∧ D x (f x s)) :
    Le m (forUpTo k f m) ∧ Sub R n (forUpTo k f m) ∧ ∀ x, x < k → D x (forUpTo k f m) := by
  refine forUpTo_inv (fun x s => Le m s ∧ Sub R n s ∧ ∀ y, y < x → D y s) k f m
    ⟨Le.refl m, hsub, fun y hy => absurd hy (Nat.not_lt_zero y)⟩ fun x s hx ⟨hle, hs, hdone⟩ => ?_
  obtain ⟨l1, l2, l3⟩ := hf x s hx hle hs
  exact ⟨hle.trans l1, l2, Nat.forall_lt_succ_right.2 ⟨fun y hy => hD y _ _ l1 (hdone y hy), l3⟩⟩

theorem closureE_spec {R : Nat → Nat → Prop} (hR : ∀ a b c, R a b → R b c → R a c)
    {n i j : Nat} {m : Matrix} (hm : Ok m n) (hi : i < n) (hj : j < n)
    (hji : m.hasEdge j i = true) (hsub : Sub R n m) :
    Le m (closureE n i j m) ∧ Sub R n (closureE n i j m) ∧
      ∀ e, e < n → m.hasEdge i e = true → (closureE n i j m).hasEdge j e = true := by
  refine forUpTo_grow _ (fun e s => m.hasEdge i e = true → s.hasEdge j e = true)
    (fun _ _ _ l h hie => l.2.2 _ _ (h hie)) hsub fun x s hx hle hs => ?_
  have hsok : Ok s n := hle.ok hm
  by_cases hix : s.hasEdge i x = true
  · simp only [hix, if_true]
    refine ⟨le_addEdge s j x, fun a b ha hb hab => ?_, fun _ => (hasEdge_addEdge hsok hj hx hx).2 (.inr ⟨rfl, rfl⟩)⟩
    rcases (hasEdge_addEdge hsok ha hx hb).1 hab with h | ⟨rfl, rfl⟩
    · exact hs a b ha hb h
    · exact hR _ _ _ (hs _ _ hj hi (hle.2.2 _ _ hji)) (hs _ _ hi hx hix)
  · simp only [hix]
    exact ⟨Le.refl s, hs, fun hie => absurd (hle.2.2 _ _ hie) hix⟩

theorem closureJ_spec {R : Nat → Nat → Prop} (hR : ∀ a b c, R a b → R b c → R a c)
    {n i : Nat} {m : Matrix} (hm : Ok m n) (hi : i < n) (hsub : Sub R n m) :
    Le m (closureJ n i m) ∧ Sub R n (closureJ n i m) ∧
      ∀ j, j < n → ∀ e, e < n → m.hasEdge j i = true → m.hasEdge i e = true →
        (closureJ n i m).hasEdge j e = true := by
  refine forUpTo_grow _
    (fun j s => ∀ e, e < n → m.hasEdge j i = true → m.hasEdge i e = true → s.hasEdge j e = true)
    (fun _ _ _ l h e he hji hie => l.2.2 _ _ (h e he hji hie)) hsub fun x s hx hle hs => ?_
  by_cases hxi : s.hasEdge x i = true
  · simp only [hxi, Bool.not_true, Bool.false_eq_true, if_false]
    obtain ⟨l1, l2, l3⟩ := closureE_spec hR (hle.ok hm) hi hx hxi hs
    exact ⟨l1, l2, fun e he _ hie => l3 e he (hle.2.2 _ _ hie)⟩
  · have : s.hasEdge x i = false := by simpa using hxi
    simp only [this, Bool.not_false, if_true]
    exact ⟨Le.refl s, hs, fun e _ hji => absurd (hle.2.2 _ _ hji) hxi⟩

/-- bits outside the square do not count -/
def E (m : Matrix) (a b : Nat) : Prop := a < m.n ∧ b < m.n ∧ m.hasEdge a b = true

theorem closure_inv (m : Matrix) (hm : Ok m m.n) :
    Le m m.closure ∧ Sub (Relation.TransGen m.E) m.n m.closure ∧
      ∀ a b, a < m.n → b < m.n → PathLt m.E m.n a b → m.closure.hasEdge a b = true := by
  refine forUpTo_inv
    (fun k s => Le m s ∧ Sub (Relation.TransGen m.E) m.n s ∧
      ∀ a b, a < m.n → b < m.n → PathLt m.E k a b → s.hasEdge a b = true) m.n _ m
    ⟨Le.refl m, fun a b ha hb h => .single ⟨ha, hb, h⟩, ?_⟩ ?_
  · intro a b ha hb p
    generalize hk : 0 = k at p
    induction p with
    | edge h => exact h.2.2
    | trans hc _ _ _ _ => omega
  · intro k s hk ⟨hle, hs, hdone⟩
    obtain ⟨l1, l2, l3⟩ := closureJ_spec (fun _ _ _ => Relation.TransGen.trans) (hle.ok hm) hk hs
    refine ⟨hle.trans l1, l2, ?_⟩
    intro a b ha hb p
    rcases p.split with p | ⟨p1, p2⟩
    · exact l1.2.2 _ _ (hdone a b ha hb p)
    · exact l3 a ha b hb (hdone a k ha hk p1) (hdone k b hk hb p2)

theorem closure_spec (m : Matrix) (hm : m.set.size = m.n * m.n) (a b : Nat) (ha : a < m.n) (hb : b < m.n) :
    m.closure.hasEdge a b = true ↔ Relation.TransGen m.E a b := by
  obtain ⟨_, l2, l3⟩ := closure_inv m ⟨rfl, hm⟩
  exact ⟨l2 a b ha hb, fun p => l3 a b ha hb (PathLt.of_transGen (fun _ _ h => h.2.1) p)⟩

end Matrix

def Edge (g : Graph) (a b : Nat) : Prop := b ∈ succs g a

/-- the condition under which the Go code does not panic -/
def Wf (g : Graph) : Prop := ∀ a b, Edge g a b → b < g.length

theorem Edge.lt_left {g : Graph} {a b : Nat} (h : Edge g a b) : a < g.length :=
  Nat.lt_of_not_le fun hle => by
    unfold Edge at h
    rw [succs_ge g a hle] at h
    cases h

theorem wf_iff_rows (g : Graph) : Wf g ↔ ∀ es ∈ g, ∀ b ∈ es, b < g.length := by
  constructor
  · intro h es hes b hb
    obtain ⟨i, hi, rfl⟩ := List.getElem_of_mem hes
    exact h i b (by simp [Edge, succs, hi, hb])
  · intro h a b hb
    have ha := hb.lt_left
    unfold Edge succs at hb
    rw [List.getElem?_eq_getElem ha] at hb
    exact h _ (List.getElem_mem ha) b hb

theorem wfB_iff (g : Graph) : wfB g = true ↔ Wf g := by
  rw [wf_iff_rows]
  simp [wfB]

instance (g : Graph) : Decidable (Wf g) := decidable_of_iff _ (wfB_iff g)

namespace Matrix

theorem ok_new (n : Nat) : Ok (new n) n := ⟨rfl, by simp [new]⟩

theorem hasEdge_new (n a b : Nat) : (new n).hasEdge a b = false := by
  simp only [new, hasEdge, ← Array.getD_eq_getD_getElem?, getD_replicate]

theorem foldl_addEdge {n src : Nat} (es : List Nat) (m : Matrix) (hm : Ok m n)
    (hes : ∀ e ∈ es, e < n) :
    Ok (es.foldl (fun m e => m.addEdge src e) m) n ∧
    ∀ a b, a < n → b < n →
      ((es.foldl (fun m e => m.addEdge src e) m).hasEdge a b = true ↔
        m.hasEdge a b = true ∨ (a = src ∧ b ∈ es)) := by
  induction es generalizing m with
  | nil => simp [hm]
  | cons e es ih =>
    have he : e < n := hes e (by simp)
    obtain ⟨l1, l2⟩ := ih (m.addEdge src e) ((le_addEdge m src e).ok hm) (fun x hx => hes x (by simp [hx]))
    refine ⟨l1, fun a b ha hb => ?_⟩
    rw [List.foldl_cons, l2 a b ha hb, hasEdge_addEdge hm ha he hb, List.mem_cons, and_or_left, or_assoc]

theorem ofGraph_spec (g : Graph) (h : Wf g) : Ok (ofGraph g) g.length ∧ (ofGraph g).E = Edge g := by
  have := rows_inv (fun m src es => es.foldl (fun m e => m.addEdge src e) m) ofGraphFrom
    (fun _ _ => rfl) (fun _ _ _ _ => rfl)
    (fun k m => Ok m g.length ∧ ∀ a b, a < g.length → b < g.length →
      (m.hasEdge a b = true ↔ a < k ∧ Edge g a b)) g ?_ [] g
    (new g.length) rfl
    ⟨ok_new _, fun a b _ _ => by simp [hasEdge_new]⟩
  · obtain ⟨hok, he⟩ := this
    refine ⟨hok, funext fun a => funext fun b => propext ?_⟩
    unfold E
    rw [show (ofGraph g).n = g.length from hok.1]
    exact ⟨fun ⟨ha, hb, hab⟩ => ((he a b ha hb).1 hab).2,
      fun e => ⟨e.lt_left, h _ _ e, (he a b e.lt_left (h _ _ e)).2 ⟨e.lt_left, e⟩⟩⟩
  · intro k m hk ⟨hok, he⟩
    obtain ⟨f1, f2⟩ := foldl_addEdge (src := k) (succs g k) m hok (fun e he => h k e he)
    refine ⟨f1, fun a b ha hb => ?_⟩
    rw [f2 a b ha hb, he a b ha hb, Nat.lt_succ_iff_lt_or_eq, or_and_right]
    exact or_congr_right ⟨fun ⟨e, hb⟩ => ⟨e, e ▸ hb⟩, fun ⟨e, hb⟩ => ⟨e, e ▸ hb⟩⟩

theorem closure_ofGraph (g : Graph) (h : Wf g) (a b : Nat) (ha : a < g.length) (hb : b < g.length) :
    (ofGraph g).closure.hasEdge a b = true ↔ Relation.TransGen (Edge g) a b := by
  obtain ⟨hok, hE⟩ := ofGraph_spec g h
  rw [← hE]
  exact closure_spec _ (by rw [hok.2, hok.1]) a b (by rw [hok.1]; exact ha) (by rw [hok.1]; exact hb)

end Matrix
end TmVerif.Graph
