import TmVerif.Proofs.Diff
/-!
The tables of LCS lengths in which the correctness of the Myers search is phrased.
`Lp A B x y = LCS(A[:x], B[:y])` for all `x y : Nat` (`take` saturates, which is exactly how the Go
search treats points outside the grid: only horizontal and vertical moves there), and
`Ls A B x y = LCS(A[x:], B[y:])`. `Opt A B x y`: the grid point `(x, y)` lies on a shortest edit
path. Every distance between 0 and the total is attained at some point of a shortest path (`opt_midpoint`).
-/
namespace TmVerif.Diff
open scoped List
variable {α : Type} [DecidableEq α]

theorem lcsRec_mono {a a' b b' : List α} (ha : a <+ a') (hb : b <+ b') : lcsRec a b ≤ lcsRec a' b' :=
  lcsRec_le_iff.mpr fun s h1 h2 => lcsRec_upper a' b' s (h1.trans ha) (h2.trans hb)

theorem lcsRec_cons_left_le (x : α) (a b : List α) : lcsRec (x :: a) b ≤ lcsRec a b + 1 := by
  refine lcsRec_le_iff.mpr fun s h1 h2 => ?_
  rcases List.sublist_cons_iff.mp h1 with h | ⟨r, rfl, h⟩
  · exact Nat.le_succ_of_le (lcsRec_upper a b s h h2)
  · exact Nat.succ_le_succ (lcsRec_upper a b r h ((List.sublist_cons_self x r).trans h2))

theorem lcsRec_cons_right_le (y : α) (a b : List α) : lcsRec a (y :: b) ≤ lcsRec a b + 1 := by
  rw [lcsRec_comm a b, lcsRec_comm a (y :: b)]; exact lcsRec_cons_left_le y b a

theorem lcsRec_cons_cons_le (x y : α) (a b : List α) :
    lcsRec (x :: a) (y :: b) ≤ lcsRec a b + 1 := by
  rw [lcsRec]
  split
  · omega
  · have := lcsRec_cons_right_le y a b
    have := lcsRec_cons_left_le x a b
    omega

theorem lcsRec_cons_cons_ne (x y : α) (a b : List α) (h : x ≠ y) :
    lcsRec (x :: a) (y :: b) = max (lcsRec a (y :: b)) (lcsRec (x :: a) b) := by
  rw [lcsRec]; simp [h]

theorem lcsRec_snoc_left_le (x : α) (a b : List α) : lcsRec (a ++ [x]) b ≤ lcsRec a b + 1 := by
  rw [← lcsRec_reverse a b, ← lcsRec_reverse (a ++ [x]) b]
  simpa using lcsRec_cons_left_le x a.reverse b.reverse

theorem lcsRec_snoc_snoc_ne (x y : α) (a b : List α) (h : x ≠ y) :
    lcsRec (a ++ [x]) (b ++ [y]) = max (lcsRec a (b ++ [y])) (lcsRec (a ++ [x]) b) := by
  rw [← lcsRec_reverse (a ++ [x]) (b ++ [y]), ← lcsRec_reverse a (b ++ [y]),
    ← lcsRec_reverse (a ++ [x]) b]
  simpa using lcsRec_cons_cons_ne x y a.reverse b.reverse h

theorem lcsRec_append_ge (a1 a2 b1 b2 : List α) :
    lcsRec a1 b1 + lcsRec a2 b2 ≤ lcsRec (a1 ++ a2) (b1 ++ b2) := by
  obtain ⟨s1, h1, h2, h3⟩ := lcsRec_witness a1 b1
  obtain ⟨s2, g1, g2, g3⟩ := lcsRec_witness a2 b2
  have := lcsRec_upper (a1 ++ a2) (b1 ++ b2) (s1 ++ s2) (h1.append g1) (h2.append g2)
  simp at this; omega

def Lp (A B : List α) (x y : Nat) : Nat := lcsRec (A.take x) (B.take y)

theorem Lp_zero_left (A B : List α) (y : Nat) : Lp A B 0 y = 0 := by
  simp [Lp, lcsRec_nil_left]

theorem Lp_zero_right (A B : List α) (x : Nat) : Lp A B x 0 = 0 := by
  simp [Lp, lcsRec_nil_right]

theorem Lp_le_x (A B : List α) (x y : Nat) : Lp A B x y ≤ x := by
  have := lcsRec_le_left (A.take x) (B.take y)
  simp at this; unfold Lp; omega

theorem Lp_comm (A B : List α) (x y : Nat) : Lp A B x y = Lp B A y x := lcsRec_comm _ _

theorem Lp_le_y (A B : List α) (x y : Nat) : Lp A B x y ≤ y :=
  Lp_comm A B x y ▸ Lp_le_x B A y x

/-- beyond the grid a step changes nothing: `take` saturates -/
theorem Lp_sat_x {A : List α} {x : Nat} (h : A.length ≤ x) (B : List α) (y : Nat) :
    Lp A B (x + 1) y = Lp A B x y := by
  unfold Lp; rw [List.take_of_length_le (Nat.le_succ_of_le h), List.take_of_length_le h]

theorem Lp_sat_y {B : List α} {y : Nat} (h : B.length ≤ y) (A : List α) (x : Nat) :
    Lp A B x (y + 1) = Lp A B x y := by
  rw [Lp_comm, Lp_sat_x h, ← Lp_comm]

theorem Lp_succ_x (A B : List α) (x y : Nat) :
    Lp A B x y ≤ Lp A B (x + 1) y ∧ Lp A B (x + 1) y ≤ Lp A B x y + 1 := by
  by_cases h : x < A.length
  · unfold Lp
    rw [List.take_succ_eq_append_getElem h]
    exact ⟨lcsRec_mono (List.sublist_append_left _ _) (List.Sublist.refl _), lcsRec_snoc_left_le _ _ _⟩
  · rw [Lp_sat_x (Nat.le_of_not_lt h)]
    exact ⟨Nat.le_refl _, Nat.le_succ _⟩

theorem Lp_succ_y (A B : List α) (x y : Nat) :
    Lp A B x y ≤ Lp A B x (y + 1) ∧ Lp A B x (y + 1) ≤ Lp A B x y + 1 := by
  rw [Lp_comm A B x y, Lp_comm A B x (y + 1)]
  exact Lp_succ_x B A y x

theorem Lp_match (A B : List α) (x y : Nat) (hx : x < A.length) (hy : y < B.length)
    (he : A[x] = B[y]) : Lp A B (x + 1) (y + 1) = Lp A B x y + 1 := by
  unfold Lp
  rw [List.take_succ_eq_append_getElem hx, List.take_succ_eq_append_getElem hy, he]
  exact lcsRec_suffix [B[y]] (A.take x) (B.take y)

/-- no diagonal edge leaves `(x, y)`: unequal elements, or a point outside the grid -/
def NoMatch (A B : List α) (x y : Nat) : Prop :=
  ¬ ∃ (hx : x < A.length) (hy : y < B.length), A[x] = B[y]

theorem Lp_nomatch (A B : List α) (x y : Nat) (h : NoMatch A B x y) :
    Lp A B (x + 1) (y + 1) = max (Lp A B x (y + 1)) (Lp A B (x + 1) y) := by
  by_cases hx : x < A.length
  · by_cases hy : y < B.length
    · have hne : A[x] ≠ B[y] := fun e => h ⟨hx, hy, e⟩
      unfold Lp
      rw [List.take_succ_eq_append_getElem hx, List.take_succ_eq_append_getElem hy]
      exact lcsRec_snoc_snoc_ne _ _ _ _ hne
    · -- below the grid: both sides are `Lp A B (x + 1) y`
      have hy := Nat.le_of_not_lt hy
      rw [Lp_sat_y hy, Lp_sat_y hy]
      exact (Nat.max_eq_right (Lp_succ_x A B x y).1).symm
  · -- right of the grid: both sides are `Lp A B x (y + 1)`
    have hx := Nat.le_of_not_lt hx
    rw [Lp_sat_x hx, Lp_sat_x hx]
    exact (Nat.max_eq_left (Lp_succ_y A B x y).1).symm

theorem Lp_diag (A B : List α) (x y : Nat) : Lp A B (x + 1) (y + 1) ≤ Lp A B x y + 1 := by
  by_cases h : ∃ (hx : x < A.length) (hy : y < B.length), A[x] = B[y]
  · obtain ⟨hx, hy, he⟩ := h
    rw [Lp_match A B x y hx hy he]; exact Nat.le_refl _
  · rw [Lp_nomatch A B x y h]
    have := (Lp_succ_y A B x y).2
    have := (Lp_succ_x A B x y).2
    omega

def Ls (A B : List α) (x y : Nat) : Nat := lcsRec (A.drop x) (B.drop y)

theorem Lp_add_Ls_le (A B : List α) (x y : Nat) : Lp A B x y + Ls A B x y ≤ lcsRec A B := by
  have := lcsRec_append_ge (A.take x) (A.drop x) (B.take y) (B.drop y)
  simpa [Lp, Ls] using this

theorem Lp_full (A B : List α) : Lp A B A.length B.length = lcsRec A B := by
  simp [Lp]

/-- The reverse search runs on the reversed lists: its point `(Q, Qy)`, counted from the far
corner, is the grid point `(P, Py)`. -/
theorem Lp_reverse_grid (A B : List α) (P Py Q Qy : Nat) (hx : P + Q = A.length)
    (hy : Py + Qy = B.length) : Lp A.reverse B.reverse Q Qy = Ls A B P Py := by
  have e1 : A.length - Q = P := by omega
  have e2 : B.length - Qy = Py := by omega
  unfold Lp Ls
  rw [List.take_reverse, List.take_reverse, lcsRec_reverse, e1, e2]

def Opt (A B : List α) (x y : Nat) : Prop :=
  x ≤ A.length ∧ y ≤ B.length ∧ Lp A B x y + Ls A B x y = lcsRec A B

/-- Discrete intermediate value: every `t` up to the distance is the distance between some prefixes `a1`, `b1` whose
removal loses no common subsequence. By the recursion of `lcsRec`: a match is a step that keeps the distance, and where the
heads differ dropping the one that keeps the LCS is a step of cost one on a shortest path. -/
theorem lcs_midpoint (a b : List α) (t : Nat) (ht : t + 2 * lcsRec a b ≤ a.length + b.length) :
    ∃ a1 a2 b1 b2, a = a1 ++ a2 ∧ b = b1 ++ b2 ∧ lcsRec a1 b1 + lcsRec a2 b2 = lcsRec a b ∧
      a1.length + b1.length = t + 2 * lcsRec a1 b1 := by
  fun_induction lcsRec a b generalizing t with
  | case1 b =>
    refine ⟨[], [], b.take t, b.drop t, rfl, (List.take_append_drop t b).symm, ?_, ?_⟩
    · simp only [lcsRec_nil_left]
    · simp only [lcsRec_nil_left, List.length_nil, List.length_take] at ht ⊢; omega
  | case2 x a =>
    refine ⟨(x :: a).take t, (x :: a).drop t, [], [], (List.take_append_drop t _).symm, rfl, ?_, ?_⟩
    · simp only [lcsRec_nil_right]
    · simp only [lcsRec_nil_right, List.length_nil, List.length_take] at ht ⊢; omega
  | case3 a x b ih =>
    simp only [List.length_cons] at ht
    obtain ⟨a1, a2, b1, b2, rfl, rfl, hs, hl⟩ := ih t (by omega)
    have e := lcsRec_prefix [x] a1 b1
    simp only [List.singleton_append, List.length_singleton] at e
    exact ⟨x :: a1, a2, x :: b1, b2, rfl, rfl, by omega, by simp only [List.length_cons]; omega⟩
  | case4 x a y b he ih1 ih2 =>
    simp only [List.length_cons] at ht ih1 ih2
    cases t with
    | zero =>
      exact ⟨[], _, [], _, rfl, rfl, by rw [lcsRec_cons_cons_ne x y a b he, lcsRec_nil_left, Nat.zero_add],
        by simp [lcsRec_nil_left]⟩
    | succ t =>
      rcases Nat.le_total (lcsRec (x :: a) b) (lcsRec a (y :: b)) with hc | hc
      · rw [Nat.max_eq_left hc] at ht ⊢
        obtain ⟨a1, a2, b1, b2, rfl, e2, hs, hl⟩ := ih1 t (by omega)
        have g := lcsRec_mono (List.sublist_cons_self x a1) (List.Sublist.refl b1)
        have u := lcsRec_append_ge (x :: a1) a2 b1 b2
        rw [← e2, List.cons_append, lcsRec_cons_cons_ne x y _ b he, Nat.max_eq_left hc] at u
        exact ⟨x :: a1, a2, b1, b2, rfl, e2, by omega, by rw [List.length_cons]; omega⟩
      · rw [Nat.max_eq_right hc] at ht ⊢
        obtain ⟨a1, a2, b1, b2, e1, rfl, hs, hl⟩ := ih2 t (by omega)
        have g := lcsRec_mono (List.Sublist.refl a1) (List.sublist_cons_self y b1)
        have u := lcsRec_append_ge a1 a2 (y :: b1) b2
        rw [← e1, List.cons_append, lcsRec_cons_cons_ne x y a _ he, Nat.max_eq_right hc] at u
        exact ⟨a1, a2, y :: b1, b2, e1, rfl, by omega, by rw [List.length_cons]; omega⟩

theorem opt_midpoint (A B : List α) (t : Nat) (ht : t + 2 * lcsRec A B ≤ A.length + B.length) :
    ∃ x y, Opt A B x y ∧ x + y = t + 2 * Lp A B x y := by
  obtain ⟨a1, a2, b1, b2, rfl, rfl, hs, hl⟩ := lcs_midpoint A B t ht
  refine ⟨a1.length, b1.length, ⟨by simp, by simp, ?_⟩, ?_⟩
  · simpa [Lp, Ls] using hs
  · simpa [Lp] using hl
end TmVerif.Diff
