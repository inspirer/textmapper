/-
C02: inversion of one `LRX.xstep` (no recovery, no cancellation) with the forward computation of the corresponding
`LR.step`; the simulation invariant between an accepted run of the extended runtime (`LRX.xrunLoop`, events from stack
offsets) and the core runtime (`LR.runLoop`), with the derivation forest of the trace and its stack-free layout; at acceptance
`shapeOk` makes the forest `[EOI leaves…, tree, leaves…]`, so `eventsOf` (first node tree, laid out before the lookahead
token) yields all events of the forest.
-/
import TmVerif.Proofs.Events
import TmVerif.Proofs.LRXStep
namespace TmVerif.Events
open TmVerif.LR TmVerif.LRX
variable {x : XTables} {inp : Input}

/-- `j` tokens have been consumed: token `j` is the lookahead, buffered or not -/
def Look (inp : Input) (next : Option Tok) (pos j : Nat) : Prop :=
  (next = some (inp.tok j) ∧ pos = j + 1) ∨ (next = none ∧ pos = j)

theorem xfetch_look {c : XCfg} {j : Nat} (h : Look inp c.next c.pos j) :
    c.fetch inp = ({ c with next := some (inp.tok j), pos := j + 1 }, inp.tok j) := by
  unfold XCfg.fetch
  rcases h with ⟨h1, h2⟩ | ⟨h1, h2⟩
  · rw [h1]; cases c; simp_all
  · rw [h1]; simp [h2]

theorem fetch_look {c : Cfg} {j : Nat} (h : Look inp c.next c.pos j) :
    c.fetch inp = ({ c with next := some (inp.tok j), pos := j + 1 }, inp.tok j) := by
  unfold Cfg.fetch
  rcases h with ⟨h1, h2⟩ | ⟨h1, h2⟩
  · rw [h1]; cases c; simp_all
  · rw [h1]; simp [h2]

theorem xreduceTail_cont {c2 c' : XCfg} {rule : Int} {ln : Nat} {lhs : Int} {off endo : Nat} :
    xreduceTail x c2 rule ln lhs off endo = .cont c' →
    ∃ (evs : List XEv) (endo' : Nat) (top : Entry) (rest : List Entry) (q : Int),
      applyRuleEvents x rule ln off endo c2.stack = some (evs, endo') ∧
      c2.stack.drop ln = top :: rest ∧ gotoState x.t top.state lhs = some q ∧ q ≠ -1 ∧
      c' = { c2 with evs := evs.reverse ++ c2.evs, stack := ⟨lhs, off, endo', q⟩ :: top :: rest,
                     state := q } := by
  fun_cases xreduceTail x c2 rule ln lhs off endo
  -- the one row that goes on: the calls are made, the goto is found and is not -1
  case case5 evs endo' hap top rest hrest q hq hq1 =>
    exact fun h => ⟨evs, endo', top, rest, q, hap, hrest, hq, hq1, hrest ▸ (XPre.cont.inj h).symm⟩
  all_goals nofun

theorem xstep_cont {fin : Int} {st : Bool} {c c' : XCfg}
    (hx : x.recovering = false) (h : xstep x inp fin st 0 c = .cont c') :
    ∃ c1 a, xdecode x inp c = some (c1, a) ∧ preBody x inp c1 a = .cont c' := by
  rw [xstep_pre, xpre_zero] at h
  cases hd : xdecode x inp c with
  | none => rw [hd] at h; cases h
  | some p =>
    obtain ⟨c1, a⟩ := p
    simp only [hd] at h
    refine ⟨c1, a, rfl, ?_⟩
    cases hb : preBody x inp c1 a with
    | cont c'' => rw [hb] at h; exact congrArg XPre.cont (XStep.cont.inj h)
    | done r c'' => rw [hb] at h; cases h
    -- without recovery the error branch ends the run
    | err c2 => rw [hb, XPre.run, onError_eq_norec inp fin st c2 hx] at h; cases h

theorem apply_shift_eq (t : Tables) (inp : Input) (c1 : Cfg) (q : Int) (tk : Tok)
    (h : c1.next = some tk) :
    apply t inp c1 (.shift q) =
      .cont { c1 with stack := ⟨tk.sym, tk.off, tk.endo, q⟩ :: c1.stack, state := q,
                      evs := .shift tk.sym tk.off tk.endo :: c1.evs,
                      next := if tk.sym ≠ 0 then none else c1.next } := by
  rw [apply, h]

/-- non-EOI shifts; the expression used by `eventsOf` -/
def consumed (evs : List Ev) : Nat :=
  (evs.filter fun e => match e with | .shift s _ _ => s ≠ 0 | _ => false).length

theorem consumed_nil : consumed [] = 0 := rfl

theorem consumed_shift (s : Int) (o e : Nat) (evs : List Ev) :
    consumed (.shift s o e :: evs) = if s ≠ 0 then consumed evs + 1 else consumed evs := by
  unfold consumed
  rw [List.filter_cons]
  by_cases h : s = 0
  · subst h; rfl
  · rw [if_pos (decide_eq_true h), if_pos h]; rfl

theorem consumed_reduce (r : Int) (o e : Nat) (evs : List Ev) :
    consumed (.reduce r o e :: evs) = consumed evs := rfl

/-- Origin of a stack entry. An end-of-input leaf is the current lookahead token: shifting symbol 0 does not consume it. -/
def Tag (inp : Input) (t : Tables) (j : Nat) (e : Entry) : PTree → Prop
  | .tok tk => e.sym = tk.sym ∧ (∃ i, tk = inp.tok i) ∧ (tk.sym = 0 → tk = inp.tok j)
  | .node r _ => geti t.ruleSymbol (r : Int) = some e.sym

/-- The forest of the stack: one tree per entry above the bottom; each entry's range is the range
`layout` assigns to its tree when the following token starts at the offset of the entry above it
(`after` for the top entry); `evs` are the events of all trees, bottom first. -/
inductive StackLaid (x : XTables) (inp : Input) (j : Nat) : Nat → List Entry → List PTree → List XEv → Prop
  | base (after : Nat) (b : Entry) : StackLaid x inp j after [b] [] []
  | cons {after : Nat} {e : Entry} {es : List Entry} {t : PTree} {ts : List PTree}
      {evs ev evs' : List XEv} :
      layout x t after = some ⟨e.off, e.endo, ev⟩ → Tag inp x.t j e t →
      StackLaid x inp j e.off es ts evs → evs' = evs ++ ev →
      StackLaid x inp j after (e :: es) (t :: ts) evs'

theorem StackLaid.length {x : XTables} {inp : Input} {j after : Nat} {es : List Entry} {ts : List PTree}
    {evs : List XEv} (h : StackLaid x inp j after es ts evs) : es.length = ts.length + 1 := by
  induction h with
  | base => rfl
  | cons _ _ _ _ ih => simp [ih]

variable {j after : Nat} {es : List Entry} {F : List PTree} {evs : List XEv}

theorem StackLaid.reindex {j' : Nat} (h : StackLaid x inp j after es F evs)
    (hj : (inp.tok j).sym = 0 → j' = j) : StackLaid x inp j' after es F evs := by
  induction h with
  | base => exact .base _ _
  | @cons after e es t ts evs ev evs' hl ht _ he ih =>
    refine .cons hl ?_ ih he
    cases t with
    | tok tk =>
      obtain ⟨h1, h2, h3⟩ := ht
      exact ⟨h1, h2, fun h0 => by rw [hj (h3 h0 ▸ h0)]; exact h3 h0⟩
    | node r k => exact ht

theorem StackLaid.after_irrel {x : XTables} {inp : Input} {j after after' : Nat} {e : Entry}
    {es : List Entry} {tk : Tok} {ts : List PTree} {evs : List XEv}
    (h : StackLaid x inp j after (e :: es) (.tok tk :: ts) evs) :
    StackLaid x inp j after' (e :: es) (.tok tk :: ts) evs := by
  cases h with
  | cons hl ht hs he =>
    rw [layout_tok] at hl
    exact .cons (by rw [layout_tok]; exact hl) ht hs he

theorem StackLaid.ne_nil (h : StackLaid x inp j after es F evs) : es ≠ [] := by
  cases h <;> exact List.cons_ne_nil _ _

theorem StackLaid.split (h : StackLaid x inp j after es F evs) (n : Nat) (hn : n < es.length) :
    ∃ (ll : LaidList) (evR : List XEv),
      layoutList x (F.take n).reverse after = some ll ∧
      ll.items = (es.take n).reverse.map rng ∧
      StackLaid x inp j (headOff ll.items after) (es.drop n) (F.drop n) evR ∧
      evs = evR ++ ll.evs := by
  induction n generalizing after es F evs with
  | zero => exact ⟨⟨[], []⟩, evs, layoutList_nil x after, rfl, h, (List.append_nil evs).symm⟩
  | succ n ih =>
    cases h with
    | base => exact absurd hn (by simp)
    | @cons _ e es t ts evs1 ev _ hl ht hs he =>
      obtain ⟨ll, evR, h1, h2, h3, h4⟩ := ih hs (Nat.lt_of_succ_lt_succ hn)
      refine ⟨⟨ll.items ++ [(e.off, e.endo)], ll.evs ++ ev⟩, evR, ?_, ?_, ?_, ?_⟩
      · rw [List.take_succ_cons, List.reverse_cons, layoutList_snoc, hl, Option.bind_some, h1, Option.map_some]
      · rw [List.take_succ_cons, List.reverse_cons, List.map_append, ← h2]; rfl
      · rw [headOff_snoc]; exact h3
      · rw [he, h4, List.append_assoc]

/-- The two runtimes move in lockstep (same state, position, lookahead and stack states). `F` is
the forest the core trace builds (`build`: against any continuation `rest` of the trace, so that it
extends event by event), laid out on the stack of `cx` in front of the lookahead token (`laid`),
whose index is `consumed cl.evs` (`look`). -/
structure Inv (x : XTables) (inp : Input) (cx : XCfg) (cl : Cfg) (F : List PTree) : Prop where
  state : cl.state = cx.state
  pos : cl.pos = cx.pos
  next : cl.next = cx.next
  stk : cl.stack.map (·.state) = cx.stack.map (·.state)
  build : ∀ rest, buildForest x.t.ruleLen (cl.evs.reverse ++ rest) [] = buildForest x.t.ruleLen rest F
  look : Look inp cx.next cx.pos (consumed cl.evs)
  laid : StackLaid x inp (consumed cl.evs) (inp.tok (consumed cl.evs)).off cx.stack F cx.evs.reverse

theorem inv_init (x : XTables) (inp : Input) (start : Int) :
    Inv x inp (xinit inp start) (initCfg inp start) [] where
  state := rfl
  pos := rfl
  next := rfl
  stk := rfl
  build := fun _ => rfl
  look := Or.inl ⟨rfl, rfl⟩
  laid := .base _ _

variable {cx cx' : XCfg} {cl : Cfg}

theorem inv_fetch (h : Inv x inp cx cl F) :
    Inv x inp (cx.fetch inp).1 (cl.fetch inp).1 F ∧ (cl.fetch inp).2 = (cx.fetch inp).2 ∧
    (cx.fetch inp).2 = inp.tok (consumed (cl.fetch inp).1.evs) := by
  rw [xfetch_look h.look, fetch_look (by rw [h.next, h.pos]; exact h.look)]
  exact ⟨{ h with pos := rfl, next := rfl, look := .inl ⟨rfl, rfl⟩ }, rfl, rfl⟩

theorem inv_decode {cx1 : XCfg} {a : Act}
    (h : Inv x inp cx cl F) (hd : xdecode x inp cx = some (cx1, a)) :
    ∃ cl1, decode x.t inp cl = some (cl1, a) ∧ Inv x inp cx1 cl1 F := by
  obtain ⟨hf, htk, _⟩ := inv_fetch h
  unfold decode
  rw [h.state]
  rcases xdecode_inv hd with ⟨hn, rfl, ha⟩ | ⟨hn, rfl, ha⟩
  · rw [hn]
    simp only [hf.pos, htk, ha, Option.map_some]
    exact ⟨_, rfl, hf⟩
  · rw [hn]
    simp only [ha, Option.map_some]
    exact ⟨_, rfl, h⟩

theorem inv_shift {q : Int} (h : Inv x inp cx cl F) (hs : preBody x inp cx (.shift q) = .cont cx') :
    ∃ cl' F', apply x.t inp cl (.shift q) = .cont cl' ∧ Inv x inp cx' cl' F' := by
  cases hn : cx.next with
  | none => cases (preBody_shift_none hn).symm.trans hs
  | some tk =>
  obtain rfl := XPre.cont.inj ((preBody_shift hn).symm.trans hs)
  refine ⟨_, .tok tk :: F, apply_shift_eq x.t inp cl q tk (h.next.trans hn), ?_⟩
  obtain ⟨htk, hpos⟩ : tk = inp.tok (consumed cl.evs) ∧ cx.pos = consumed cl.evs + 1 := by
    rcases h.look with ⟨h1, h2⟩ | ⟨h1, _⟩
    · exact ⟨Option.some.inj (hn.symm.trans h1), h2⟩
    · rw [hn] at h1; cases h1
  have hj : tk.sym = 0 → consumed (.shift tk.sym tk.off tk.endo :: cl.evs) = consumed cl.evs :=
    fun h0 => by rw [consumed_shift, if_neg (not_not_intro h0)]
  refine {
    state := rfl
    pos := h.pos
    next := by simp only [h.next]
    stk := by simp only [List.map_cons, h.stk]
    build := fun rest => ?build
    look := ?look
    laid := ?laid }
  case build =>
    rw [List.reverse_cons, List.append_assoc, h.build]
    rfl
  case look =>
    by_cases h0 : tk.sym = 0
    · rw [hj h0, if_neg (not_not_intro h0), hn, htk]
      exact .inl ⟨rfl, hpos⟩
    · rw [consumed_shift, if_pos h0, if_pos h0]
      exact .inr ⟨rfl, hpos⟩
  case laid =>
    have hlaid := h.laid.reindex (j' := consumed (.shift tk.sym tk.off tk.endo :: cl.evs))
      fun h0 => hj (htk ▸ h0)
    rw [← htk] at hlaid
    exact .cons (layout_tok x tk _) ⟨rfl, ⟨_, htk⟩, fun h0 => (hj h0).symm ▸ htk⟩ hlaid
      (List.append_nil _).symm

/-- The reduction after the optional fetch (`cx2`, `cl2`); `off`/`endo` are the offsets `xstep` computes for the new entry. -/
theorem inv_reduceTail {cx2 : XCfg} {cl1 cl2 : Cfg} {rule ln lhs : Int} {off endo : Nat}
    (hwf : reportsWF x = true)
    (hln : geti x.t.ruleLen rule = some ln) (hlhs : geti x.t.ruleSymbol rule = some lhs)
    (h2 : Inv x inp cx2 cl2 F)
    (hcl2 : cl2 = (redParts inp cl1 ln.toNat).1)
    (hoff : off = if ln.toNat = 0 then (inp.tok (consumed cl2.evs)).off
      else ((cx2.stack.take ln.toNat).getLast?.map (·.off)).getD 0)
    (hendo : endo = if ln.toNat = 0 then (inp.tok (consumed cl2.evs)).off
      else ((cx2.stack.take ln.toNat).head?.map (·.endo)).getD 0)
    (ht : xreduceTail x cx2 rule ln.toNat lhs off endo = .cont cx') :
    ∃ cl' F', apply x.t inp cl1 (.reduce rule) = .cont cl' ∧ Inv x inp cx' cl' F' := by
  obtain ⟨evs, endo', top, rest, q, hap, hrest, hq, hq1, rfl⟩ := xreduceTail_cont ht
  have hn := List.length_lt_of_drop_ne_nil (hrest ▸ List.cons_ne_nil top rest)
  have hrule := (geti_some hln).1
  have hdrop : (cl2.stack.drop ln.toNat).map (·.state) = (top :: rest).map (·.state) := by
    rw [← hrest, List.map_drop, List.map_drop, h2.stk]
  obtain ⟨top', rest', hrest', htop, hrs⟩ := List.map_eq_cons_iff.mp hdrop
  obtain ⟨_, off', endo'', rfl, happ⟩ := apply_reduce_goto (inp := inp) (c1 := cl1) (top := top') (q := q) hln hlhs
    (by rw [← redParts_stack inp cl1 ln.toNat, ← hcl2]; exact hrest') (htop ▸ hq)
  simp only [if_neg hq1, ← hcl2] at happ
  refine ⟨_, .node rule.toNat (F.take ln.toNat).reverse :: F.drop ln.toNat, happ, ?_⟩
  -- the popped entries carry the ranges of the children, so the new entry carries the node's
  obtain ⟨ll, evR, hll, hitems, hrestLaid, hevsEq⟩ := h2.laid.split ln.toNat hn
  have hlay := applyRule_layout x rule hrule cx2.stack ln.toNat (Nat.le_of_lt hn)
    (F.take ln.toNat).reverse _ ll hll hitems hwf off endo endo' evs hoff hendo hap
  -- the entries that stay are laid out in front of the new entry
  rw [hitems, ← (popped_offsets cx2.stack ln.toNat _ (Nat.le_of_lt hn)).1, ← hoff, hrest] at hrestLaid
  refine { h2 with state := rfl, stk := ?stk, build := fun rest0 => ?build, laid := ?laid }
  case stk => simp only [List.map_cons, htop, hrs]
  case build =>
    rw [List.reverse_cons, List.append_assoc, h2.build, List.singleton_append, buildForest, hln]
    simp only
    have hle : ln.toNat ≤ F.length := Nat.le_of_lt_succ (Nat.lt_of_lt_of_eq hn h2.laid.length)
    rw [if_neg (Nat.not_lt.2 hle)]
  case laid =>
    refine .cons hlay ?_ hrestLaid ?_
    · show geti x.t.ruleSymbol ((rule.toNat : Nat) : Int) = some lhs
      rw [Int.toNat_of_nonneg hrule]; exact hlhs
    · simp only [List.reverse_append, List.reverse_reverse, hevsEq, List.append_assoc]

theorem inv_reduce {rule : Int} (hwf : reportsWF x = true) (h : Inv x inp cx cl F) :
    xreducePre x inp cx rule = .cont cx' →
    ∃ cl' F', apply x.t inp cl (.reduce rule) = .cont cl' ∧ Inv x inp cx' cl' F' := by
  obtain ⟨hf, _, htk⟩ := inv_fetch h
  fun_cases xreducePre x inp cx rule
  -- an empty rule: both runtimes fetch the lookahead first
  case case2 ln lhs hlhs hln _ h0 =>
    exact inv_reduceTail hwf hln hlhs hf (by rw [redParts, if_pos h0]) (by rw [if_pos h0, htk]) (by rw [if_pos h0, htk])
  -- a rule with a right-hand side
  case case3 ln lhs hlhs hln _ h0 =>
    exact inv_reduceTail hwf hln hlhs h (by rw [redParts, if_neg h0]) (if_neg h0).symm (if_neg h0).symm
  all_goals nofun

theorem inv_step {fin : Int} (hx : x.recovering = false) (hwf : reportsWF x = true)
    (h : Inv x inp cx cl F) (hs : xstep x inp fin false 0 cx = .cont cx') :
    ∃ cl' F', step x.t inp cl = .cont cl' ∧ Inv x inp cx' cl' F' := by
  obtain ⟨cx1, a, hd, hb⟩ := xstep_cont hx hs
  obtain ⟨cl1, hd', hinv1⟩ := inv_decode h hd
  rw [step_of_decode hd']
  cases a with
  | shift q => exact inv_shift hinv1 hb
  | reduce rule => exact inv_reduce hwf hinv1 hb
  | error => cases hb

theorem inv_loop {fin : Int} (hx : x.recovering = false)
    (hwf : reportsWF x = true) : ∀ (fuel : Nat) {cx c : XCfg} {cl : Cfg} {F : List PTree},
    Inv x inp cx cl F → xrunLoop x inp fin false 0 fuel cx = (.accept, c) →
    ∃ cl' F', runLoop x.t inp fin fuel cl = (.accept, cl') ∧ Inv x inp c cl' F'
  | 0, _, _, _, _, _, hr => by simp [xrunLoop] at hr
  | fuel + 1, cx, c, cl, F, h, hr => by
    rw [runLoop]
    by_cases hfin : cx.state = fin
    · rw [xrunLoop_succ_fin hfin] at hr
      cases hr
      exact ⟨cl, F, if_pos (h.state.trans hfin), h⟩
    · rw [if_neg (h.state ▸ hfin)]
      cases hs : xstep x inp fin false 0 cx with
      | cont cx' =>
        obtain ⟨cl', F', hstep, hinv'⟩ := inv_step hx hwf h hs
        rw [xrunLoop_succ_cont hfin hs] at hr
        rw [hstep]
        exact inv_loop hx hwf fuel hinv' hr
      | done r c' =>
        rw [xrunLoop_succ_done hfin hs] at hr
        cases hr
        exact absurd hs xstep_done_ne_accept

/-- the predicate `eventsOf` uses to pick the tree -/
def isNode (t : PTree) : Bool := match t with | .node _ _ => true | .tok _ => false

structure SymFacts (x : XTables) (inp : Input) : Prop where
  pos : 0 < x.t.nTerms
  tok : ∀ i, (inp.tok i).sym < (x.t.nTerms : Int)
  lhs : ∀ r s, geti x.t.ruleSymbol r = some s → (x.t.nTerms : Int) ≤ s

theorem symFacts (h : symsWF x inp = true) : SymFacts x inp := by
  unfold symsWF at h
  simp only [Bool.and_eq_true, decide_eq_true_eq, List.all_eq_true] at h
  obtain ⟨⟨h1, h2⟩, h3⟩ := h
  refine ⟨h1, fun i => ?_, fun r s hr => ?_⟩
  · unfold Input.tok
    cases hi : inp.toks[i]? with
    | none => simp only; omega
    | some t =>
      simp only
      exact h2 t (mem_toList_of_getElem? hi)
  · exact h3 s (mem_toList_of_getElem? (geti_some hr).2)

theorem tag_leaf {e : Entry} {t : PTree} {ev : List XEv} (hs : SymFacts x inp)
    (ht : Tag inp x.t j e t) (hlay : layout x t after = some ⟨e.off, e.endo, ev⟩)
    (he : e.sym < (x.t.nTerms : Int)) :
    ∃ tk, t = .tok tk ∧ e.sym = tk.sym ∧ (tk.sym = 0 → tk = inp.tok j) ∧ e.off = tk.off ∧ ev = [] := by
  cases t with
  | tok tk =>
    rw [layout_tok] at hlay
    injection hlay with hlay
    injection hlay with hoff _ hev
    exact ⟨tk, rfl, ht.1, ht.2.2, hoff.symm, hev.symm⟩
  | node r k =>
    have := hs.lhs _ _ ht
    omega

theorem tag_node {e : Entry} {t : PTree} (hs : SymFacts x inp)
    (ht : Tag inp x.t j e t) (he : (x.t.nTerms : Int) ≤ e.sym) : isNode t = true := by
  cases t with
  | tok tk =>
    obtain ⟨h1, ⟨i, h2⟩, _⟩ := ht
    have := hs.tok i
    rw [← h2, ← h1] at this
    omega
  | node r k => rfl

theorem leaves_no_events (hs : SymFacts x inp) (h : StackLaid x inp j after es F evs)
    (hl : leavesOnly x.t.nTerms es = true) : evs = [] := by
  induction h with
  | base => rfl
  | @cons after e es t ts evs ev evs' hlay ht hrec he ih =>
    obtain ⟨e2, es2, rfl⟩ := List.exists_cons_of_ne_nil hrec.ne_nil
    simp only [leavesOnly, Bool.and_eq_true, decide_eq_true_eq] at hl
    obtain ⟨_, _, _, _, _, rfl⟩ := tag_leaf hs ht hlay hl.1
    rw [he, ih hl.2]
    rfl

theorem shape_events (hs : SymFacts x inp) (h : StackLaid x inp j after es F evs)
    (ha : after = (inp.tok j).off) (hsh : shapeOk x.t.nTerms es = true) :
    ∃ tree l, F.find? isNode = some tree ∧ layout x tree (inp.tok j).off = some l ∧ l.evs = evs := by
  induction h with
  | base after b => simp [shapeOk, leavesOnly] at hsh
  | @cons after e es t ts evs ev evs' hlay ht hrec he ih =>
    rw [shapeOk] at hsh
    by_cases h0 : e.sym = 0
    · rw [if_pos h0] at hsh
      -- an end-of-input leaf is the lookahead token, so the rest is laid out before it too
      obtain ⟨tk, rfl, hsym, hj, hoff, rfl⟩ := tag_leaf hs ht hlay (by have := hs.pos; omega)
      obtain ⟨tree, l, h1, h2, h3⟩ := ih (by rw [hoff, hj (hsym ▸ h0)]) hsh
      exact ⟨tree, l, h1, h2, by rw [he, h3, List.append_nil]⟩
    · rw [if_neg h0] at hsh
      simp only [Bool.and_eq_true, decide_eq_true_eq] at hsh
      obtain rfl := leaves_no_events hs hrec hsh.2
      exact ⟨t, _, by rw [List.find?_cons, tag_node hs ht hsh.1], ha ▸ hlay, he.symm⟩

/-- The extended runtime accepts ⇒ the core runtime accepts with the same fuel, and the forest of its trace, laid out
stack-free, has the ranges of the final stack entries and exactly the emitted events. -/
theorem xrun_accept_inv {input fuel : Nat} {c : XCfg}
    (hx : x.recovering = false) (hwf : reportsWF x = true)
    (hrun : xrun x inp input false 0 fuel = (XResult.accept, c)) :
    ∃ cl F, run x.t inp input fuel = (Result.accept, cl) ∧
      buildForest x.t.ruleLen cl.evs.reverse [] = some F ∧
      StackLaid x inp (consumed cl.evs) (inp.tok (consumed cl.evs)).off c.stack F c.evs.reverse := by
  unfold xrun at hrun
  unfold run
  cases hfin : x.t.finalStates[input]? with
  | none => rw [hfin] at hrun; cases hrun
  | some fin =>
    rw [hfin] at hrun
    simp only at hrun ⊢
    obtain ⟨cl, F, h1, h2⟩ := inv_loop hx hwf fuel (inv_init x inp input) hrun
    exact ⟨cl, F, h1, List.append_nil cl.evs.reverse ▸ h2.build [], h2.laid⟩

theorem eventsOf_eq {input fuel : Nat} {cl : Cfg} {F : List PTree}
    (h1 : run x.t inp input fuel = (Result.accept, cl))
    (h2 : buildForest x.t.ruleLen cl.evs.reverse [] = some F) :
    eventsOf x inp input fuel =
      match F.find? isNode with
      | some tree => (layout x tree (inp.tok (consumed cl.evs)).off).map (·.evs)
      | none => none := by
  unfold eventsOf
  rw [h1]
  simp only [h2]
  rfl

/-- Stack-free layout of a forest (top of the stack first): every tree is laid out in front of the tree above it, the top
one in front of `after`. Ranges come top first, events bottom tree first (time order). -/
def forestLayout (x : XTables) : List PTree → Nat → Option (List (Nat × Nat) × List XEv)
  | [], _ => some ([], [])
  | t :: ts, after =>
    match layout x t after with
    | none => none
    | some l =>
      match forestLayout x ts l.off with
      | none => none
      | some (rs, evs) => some ((l.off, l.endo) :: rs, evs ++ l.evs)

theorem forestLayout_of_laid (h : StackLaid x inp j after es F evs) :
    forestLayout x F after = some (es.dropLast.map rng, evs) := by
  induction h with
  | base => rfl
  | @cons after e es t ts evs ev evs' hl _ hrec he ih =>
    rw [forestLayout, hl]
    simp only
    rw [ih, he, List.dropLast_cons_of_ne_nil hrec.ne_nil]
    rfl

end TmVerif.Events
