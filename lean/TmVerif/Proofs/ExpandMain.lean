import TmVerif.Proofs.ExpandShape
/-!
C13: the plain grammar produced by the mirror of `Expand` derives, from every user nonterminal, exactly
the least solution of the extended grammar (`derives_iff_extLang`). `Derives` is the least environment closed
under the plain rules (`derives_least`, `DL_closed`); the rules `synth` gives an extracted nonterminal denote one
unfolding of its value (`stepDen`, `synth_spec`), which for lists has the list's denotation as least fixpoint
(`stepDen_lfp`). Solutions of the extended system and environments closed under the plain rules correspond
(`closed_of_preFix`, `preFix_of_closed`), so the least ones agree.
-/
namespace TmVerif.Expand
open TmVerif.CFG

theorem derives_least {G : Grammar} {ρ : Nat → Lang} (ht : ∀ a, a < G.nTerms → ρ a [a])
    (hr : ∀ r ∈ G.rules.toList, Lang.le (SeqLang ρ r.rhs) (ρ r.lhs)) {X : Nat} {w : List Nat}
    (h : Derives G X w) : ρ X w :=
  h.rec (motive_2 := fun α w _ => SeqLang ρ α w) ht (fun r w hm _ ih => hr r hm w ih) rfl
    fun _ _ u v _ _ ihX ihα => ⟨u, v, ihX, ihα, rfl⟩

theorem derivesSeq_of_seqLang {G : Grammar} : ∀ (α : List Nat) (w : List Nat),
    SeqLang (Derives G) α w → DerivesSeq G α w
  | [], w, h => by cases h; exact .nil
  | X :: α, _, ⟨u, v, hu, hv, rfl⟩ => .cons X α u v hu (derivesSeq_of_seqLang α v hv)

def TermEnv (nT : Nat) (ρ : Nat → Lang) : Prop := ∀ t, t < nT → ρ t = fun w => w = [t]

/-- the right-hand sides of the rules `synth` gives a nonterminal with value `v`, as a language -/
def stepDen (cx : Ctx) (ρ : Nat → Lang) (self : Nat) : Expr → Lang
  | .list ne rr elem sep => listStep ne rr (ρ self) (den cx.sets ρ elem) (den cx.sets ρ sep)
  | v => den cx.sets ρ v

/-- Hypothesis of `C13_expand_preserves_sentences_partial`. The driver checks the Bool form `setsOkB`
(`setsOk_of_bool`) on every `struct` case but those the harness tags as of the known empty-set class. -/
def SetsOk (cx : Ctx) : Prop :=
  ∀ i, i < cx.setTerms.length → cx.sets i ≠ [] ∧ ∀ t ∈ cx.sets i, t < cx.nT

/-- `SetsOk` without the non-emptiness; with this alone the sentence theorem is false
(`C13_empty_set_counterexample`) -/
def SetsTerm (cx : Ctx) : Prop := ∀ i, i < cx.setTerms.length → ∀ t ∈ cx.sets i, t < cx.nT

theorem valOk_refsLt {cx : Ctx} {k : Nat} {v : Expr} (h : ValOk cx k v) : refsLt (cx.base + k) v = true := by
  revert h
  -- the rows of `ValOk`: a set, a lookahead, an optional reference, a list, anything else
  fun_cases ValOk cx k v <;> intro h
  · rfl
  · rfl
  · exact decide_eq_true h
  · obtain ⟨_, helem, hsep⟩ := h
    refine refsLt_list.2 ⟨?_, hsep.2⟩
    rcases helem with h | ⟨subs, rfl, h⟩
    · exact h.2
    · exact (refsLtList_iff _ subs).2 fun a ha => (h a ha).2
  · cases h

theorem den_listRec (cx : Ctx) (ρ : Nat → Lang) (self : Nat) (rr : Bool) (sep : Expr) :
    den cx.sets ρ (listRec self rr sep) =
    if rr then Lang.cat (den cx.sets ρ sep) (ρ self) else Lang.cat (ρ self) (den cx.sets ρ sep) := by
  have hself : den cx.sets ρ (.seq [.ref self]) = ρ self := Lang.cat_eps _
  -- the rows of `listRec`: no separator, separator before the list, separator after it
  fun_cases listRec self rr sep
  · next hs =>
    rw [hself, isEmptyExpr_eq hs]
    cases rr
    · exact (Lang.cat_eps _).symm
    · exact (Lang.eps_cat _).symm
  · next hr => rw [den_concat_pair, hself, if_pos hr]
  · next hr => rw [den_concat_pair, hself, if_neg hr]

theorem good_listRec {n self : Nat} (rr : Bool) {sep : Expr} (hs : Good n sep) (hself : self < n) :
    Good n (listRec self rr sep) := by
  have hl : Good n (Expr.seq [.ref self]) :=
    ⟨rfl, by simp [refsLt, refsLtList, hself]⟩
  fun_cases listRec self rr sep
  · exact hl
  · exact concat_pair_good hs hl
  · exact concat_pair_good hl hs

def elemAlts : Expr → List Expr
  | .choice subs => subs
  | e => [e]

/-- the two branches of `synth` on a list are one: a single element is a choice of one -/
theorem synth_list (cx : Ctx) (self : Nat) (ne rr : Bool) (elem sep : Expr) :
    synth cx self (.list ne rr elem sep) =
      some ((if rr then multiConcat (elemAlts elem) [listRec self rr sep]
          else multiConcat [listRec self rr sep] (elemAlts elem)) ++
        (if ne then elemAlts elem else [.empty])) := by
  fun_cases elemAlts elem
  · rfl
  · next hnc =>
    -- not a choice: the second branch of `synth`
    rw [synth]
    · cases rr <;> cases ne <;> rfl
    · exact hnc

theorem ElemOk.alts {n : Nat} {elem : Expr} (h : ElemOk n elem) : ∀ a ∈ elemAlts elem, Good n a := by
  rcases h with h | ⟨subs, rfl, h⟩
  · cases elem with
    | choice subs => exact nomatch h.1
    | _ => exact h.single
  · exact h

theorem den_elemAlts (sets : Nat → List Nat) (ρ : Nat → Lang) (elem : Expr) :
    denAlts sets ρ (elemAlts elem) = den sets ρ elem := by
  fun_cases elemAlts elem
  · exact (denAlt_eq_denAlts sets ρ _).symm
  · exact denAlts_singleton sets ρ _

theorem synth_spec {cx : Ctx} (hsets : SetsOk cx) {k : Nat} {v : Expr} (hv : ValOk cx k v) {n self : Nat}
    (hn : cx.base + k ≤ n) (hself : self < n) :
    ∃ alts, synth cx self v = some alts ∧ (∀ a ∈ alts, Good n a) ∧
      ∀ ρ, TermEnv cx.nT ρ → denAlts cx.sets ρ alts = stepDen cx ρ self v := by
  revert hv
  -- the rows of `ValOk`: a set, a lookahead, an optional reference, a list, anything else
  fun_cases ValOk cx k v <;> intro hv
  · next i =>
    obtain ⟨hne, hts⟩ := hsets i hv
    -- the equation of `synth` for a non-empty set is conditional: `simp` discharges it by `hne`
    refine ⟨(cx.sets i).map .ref, by simp only [synth], fun a ha => ?_, fun ρ hρ => Lang.ext fun w => ⟨?_, ?_⟩⟩
    · obtain ⟨t, ht, rfl⟩ := List.mem_map.1 ha
      exact good_ref (Nat.lt_of_lt_of_le (Nat.lt_add_right _ (Nat.lt_add_right _ (hts t ht))) hn)
    · rintro ⟨_, ha, hw⟩
      obtain ⟨t, ht, rfl⟩ := List.mem_map.1 ha
      exact ⟨t, ht, (congrFun (hρ t (hts t ht)) w).mp hw⟩
    · rintro ⟨t, ht, hw⟩
      exact ⟨.ref t, List.mem_map_of_mem ht, (congrFun (hρ t (hts t ht)) w).mpr hw⟩
  · exact ⟨_, rfl, Good.single (Good.empty _), fun ρ _ => denAlts_singleton _ ρ _⟩
  · refine ⟨_, rfl, fun a ha => ?_, fun ρ _ => by rw [denAlts_cons, denAlts_singleton]; rfl⟩
    rcases List.mem_cons.1 ha with rfl | ha
    · exact good_ref (Nat.lt_of_lt_of_le hv hn)
    · exact Good.single (Good.empty _) a ha
  · next ne rr elem sep =>
    have hrec := (good_listRec rr (hv.2.2.mono hn) hself).single
    have halts : ∀ a ∈ elemAlts elem, Good n a := fun a ha => (hv.2.1.alts a ha).mono hn
    refine ⟨_, synth_list cx self ne rr elem sep, fun a ha => ?_, fun ρ _ => ?_⟩
    · rcases List.mem_append.1 ha with ha | ha
      · cases rr
        · exact multiConcat_good hrec halts a ha
        · exact multiConcat_good halts hrec a ha
      · cases ne
        · exact Good.single (Good.empty _) a ha
        · exact halts a ha
    · rw [denAlts_append]
      simp only [stepDen, listStep]
      congr 1
      · cases rr <;> simp only [Bool.false_eq_true, if_false, if_true, denAlts_multiConcat, denAlts_singleton,
          den_listRec, den_elemAlts]
      · cases ne
        · exact denAlts_singleton _ _ _
        · exact den_elemAlts _ _ _
  · cases hv

theorem stepDen_lfp {cx : Ctx} {k : Nat} {v : Expr} (hv : ValOk cx k v) {ρ : Nat → Lang} {self : Nat} :
    (ρ self = den cx.sets ρ v → Lang.le (stepDen cx ρ self v) (den cx.sets ρ v)) ∧
      (Lang.le (stepDen cx ρ self v) (ρ self) → Lang.le (den cx.sets ρ v) (ρ self)) := by
  cases v with
  | list ne rr elem sep =>
    have h : ne = true ∨ den cx.sets ρ sep = Lang.eps := hv.1.imp_right fun h => by rw [h]; rfl
    rw [den_list]
    exact ⟨fun hself => by simp only [stepDen, hself]; exact list_closed ne rr _ _ h,
      list_least ne rr _ _ _ h⟩
  | _ => exact ⟨fun _ => Lang.le_refl _, id⟩

/-- binds the symbols `n`, `n + 1`, … to the denotations of the values of the list, one after the other -/
def extendEnv (cx : Ctx) (ρ : Nat → Lang) : List NT → Nat → (Nat → Lang)
  | [], _ => ρ
  | nt :: rest, n => extendEnv cx (fun s => if s = n then den cx.sets ρ nt.value else ρ s) rest (n + 1)

theorem extendEnv_below (cx : Ctx) (l : List NT) (ρ : Nat → Lang) (n s : Nat) (h : s < n) :
    extendEnv cx ρ l n s = ρ s := by
  fun_induction extendEnv cx ρ l n with
  | case1 => rfl
  | case2 ρ nt rest n ih => exact (ih (Nat.lt_succ_of_lt h)).trans (if_neg (Nat.ne_of_lt h))

theorem extendEnv_consistent (cx : Ctx) (l : List NT) (ρ : Nat → Lang) (n : Nat)
    (hb : ∀ j nt, l[j]? = some nt → refsLt (n + j) nt.value = true) (j : Nat) (nt : NT) (h : l[j]? = some nt) :
    extendEnv cx ρ l n (n + j) = den cx.sets (extendEnv cx ρ l n) nt.value := by
  fun_induction extendEnv cx ρ l n generalizing j with
  | case1 => cases h
  | case2 ρ nt0 rest n ih =>
    cases j with
    | zero =>
      cases h
      -- `n` is bound to `⟦nt.value⟧ρ` for good, and the value mentions only symbols below, which keep `ρ`
      exact ((extendEnv_below cx rest _ (n + 1) _ (Nat.lt_succ_self _)).trans (if_pos rfl)).trans
        (den_congr cx.sets _ (extendEnv_below cx (nt :: rest) ρ n) nt.value (hb 0 nt rfl)).symm
    | succ j =>
      exact Nat.add_right_comm n 1 j ▸ ih (fun j' nt' h' => Nat.add_right_comm n 1 j' ▸ hb (j' + 1) nt' h') j h

theorem extendEnv_le (cx : Ctx) {σ : Nat → Lang} (l : List NT) (ρ : Nat → Lang) (n : Nat)
    (h : ∀ s, Lang.le (ρ s) (σ s))
    (hv : ∀ j nt, l[j]? = some nt → Lang.le (den cx.sets σ nt.value) (σ (n + j))) :
    ∀ s, Lang.le (extendEnv cx ρ l n s) (σ s) := by
  fun_induction extendEnv cx ρ l n with
  | case1 => exact h
  | case2 ρ nt0 rest n ih =>
    refine ih (fun s => ?_) fun j nt hj => Nat.add_right_comm n 1 j ▸ hv (j + 1) nt hj
    show Lang.le (if s = n then _ else _) _
    by_cases hs : s = n
    · rw [if_pos hs, hs]; exact Lang.le_trans (den_mono cx.sets h nt0.value) (hv 0 nt0 rfl)
    · rw [if_neg hs]; exact h s

theorem extendEnv_spec {cx : Ctx} {ext : List NT} (hst : StOk cx ext) (ρ : Nat → Lang) :
    (∀ s, s < cx.base → extendEnv cx ρ ext cx.base s = ρ s) ∧ Consistent cx (extendEnv cx ρ ext cx.base) ext ∧
      (TermEnv cx.nT ρ → TermEnv cx.nT (extendEnv cx ρ ext cx.base)) :=
  have hbelow : ∀ s, s < cx.base → extendEnv cx ρ ext cx.base s = ρ s := extendEnv_below cx ext ρ cx.base
  ⟨hbelow, extendEnv_consistent cx ext ρ cx.base fun j nt h => valOk_refsLt (hst j nt h),
    fun hρ t ht => (hbelow t (Nat.lt_add_right _ ht)).trans (hρ t ht)⟩

def PreFix (g : ExtGrammar) (ρ : Nat → Lang) : Prop :=
  ∀ i e, g.user[i]? = some e → Lang.le (den g.cx.sets ρ e) (ρ (g.cx.nT + i))

/-- the language of user nonterminal `i` in the extended notation: the least pre-fixpoint -/
def ExtLang (g : ExtGrammar) (i : Nat) : Lang :=
  fun w => ∀ ρ, TermEnv g.cx.nT ρ → PreFix g ρ → ρ (g.cx.nT + i) w

theorem mem_rules (g : ExtGrammar) (r : Rule) :
    r ∈ (toGrammar g).rules.toList ↔ ∃ j alts a, (altsOf g).1[j]? = some alts ∧ a ∈ alts ∧
      r = { lhs := g.cx.nT + j, rhs := flat a } := by
  simp only [toGrammar, plainRules, List.toList_toArray, List.mem_flatten, List.mem_map]
  constructor
  · rintro ⟨l, ⟨⟨alts, j⟩, hmem, rfl⟩, hr⟩
    obtain ⟨a, ha, rfl⟩ := List.mem_map.1 hr
    exact ⟨j, alts, a, List.mem_zipIdx_iff_getElem?.1 hmem, ha, rfl⟩
  · rintro ⟨j, alts, a, hj, ha, rfl⟩
    exact ⟨_, ⟨(alts, j), List.mem_zipIdx_iff_getElem?.2 hj, rfl⟩, List.mem_map.2 ⟨a, ha, rfl⟩⟩

def DL (g : ExtGrammar) : Nat → Lang := Derives (toGrammar g)

theorem DL_term (g : ExtGrammar) : TermEnv g.cx.nT (DL g) := by
  intro t ht
  refine Lang.ext fun w => ⟨fun h => ?_, fun h => h ▸ Derives.term t ht⟩
  cases h with
  | term _ _ => rfl
  | rule r w hm _ =>
    rw [mem_rules] at hm
    obtain ⟨j, _, _, _, _, rfl⟩ := hm
    exact absurd ht (Nat.not_lt.2 (Nat.le_add_right _ _))

/-- closed under the rules of the expanded grammar, read as inclusions between languages -/
def ClosedP (g : ExtGrammar) (ρ : Nat → Lang) : Prop :=
  ∀ j alts, (altsOf g).1[j]? = some alts → Lang.le (denAlts g.cx.sets ρ alts) (ρ (g.cx.nT + j))

/-- `none`: a top-level set or lookahead, kept as it is -/
def userOut (g : ExtGrammar) : List (Option (List Expr)) :=
  (expandUsers g.cx [] (g.cx.userNames.zip g.user)).1

def finalExt (g : ExtGrammar) : List NT :=
  (expandUsers g.cx [] (g.cx.userNames.zip g.user)).2

def userAltOf (cx : Ctx) (i : Nat) (o : Option (List Expr)) (v : Expr) : List Expr :=
  match o with
  | some alts => alts
  | none => (synth cx (cx.nT + i) v).getD []

def extAltOf (cx : Ctx) (k : Nat) (nt : NT) : List Expr := (synth cx (cx.base + k) nt.value).getD []

theorem altsOf_eq (g : ExtGrammar) :
    (altsOf g).1 = (((userOut g).zip g.user).zipIdx.map fun p => userAltOf g.cx p.2 p.1.1 p.1.2) ++
      ((finalExt g).zipIdx.map fun p => extAltOf g.cx p.2 p.1) := rfl

theorem wfTop_refsLt {n m : Nat} {v : Expr} (h : wfTop n m v = true) : refsLt n v = true := by
  have hr : ∀ {e : Expr}, wfRule n m e = true → refsLt n e = true := fun {e} h => by
    revert h
    fun_cases wfRule n m e <;> exact wf_refsLt n m _
  revert h
  fun_cases wfTop n m v <;> intro h
  · exact (refsLtList_iff n _).2 fun a ha => hr (List.all_eq_true.1 h a ha)
  · exact hr h

/-- What `wfGrammar g` gives about the run of `expandUsers` on `g`. -/
structure Facts (g : ExtGrammar) : Prop where
  lenUser : g.user.length = g.cx.nU
  lenOut : (userOut g).length = g.cx.nU
  st : StOk g.cx (finalExt g)
  user : ∀ (i : Nat) (v : Expr), g.user[i]? = some v →
    ∃ o, (userOut g)[i]? = some o ∧ UserOk g.cx (finalExt g) v o
  refsUser : ∀ (i : Nat) (v : Expr), g.user[i]? = some v → refsLt g.cx.base v = true

theorem facts_of_wf (g : ExtGrammar) (hwf : wfGrammar g = true) : Facts g := by
  simp only [wfGrammar, Bool.and_eq_true, beq_iff_eq, List.all_eq_true] at hwf
  obtain ⟨hlen, hall⟩ := hwf
  have h := expandUsers_spec g.cx (g.cx.userNames.zip g.user) []
    (fun u hu => hall u.2 (List.of_mem_zip hu).2) (StOk.nil _)
  have hzlen : (g.cx.userNames.zip g.user).length = g.cx.nU := by
    simp [List.length_zip, hlen, Ctx.nU]
  refine ⟨hlen, h.2.2.1.trans hzlen, h.2.1, fun i v hv => ?_,
    fun i v hv => wfTop_refsLt (hall v (List.mem_of_getElem? hv))⟩
  have hi : i < g.cx.nU := hlen ▸ (List.getElem?_eq_some_iff.1 hv).1
  exact h.2.2.2 i (g.cx.userNames[i], v) (List.getElem?_zip_eq_some.2 ⟨List.getElem?_eq_getElem hi, hv⟩)

section
variable {g : ExtGrammar} (F : Facts g) (hsets : SetsOk g.cx)
include F hsets

omit hsets in
theorem altsOf_get {j : Nat} {alts : List Expr} : (altsOf g).1[j]? = some alts ↔
    (∃ v o, j < g.cx.nU ∧ g.user[j]? = some v ∧ (userOut g)[j]? = some o ∧ alts = userAltOf g.cx j o v) ∨
    (∃ k nt, j = g.cx.nU + k ∧ (finalExt g)[k]? = some nt ∧ alts = extAltOf g.cx k nt) := by
  have hlen : (((userOut g).zip g.user).zipIdx.map fun p => userAltOf g.cx p.2 p.1.1 p.1.2).length =
      g.cx.nU := by simp [F.lenOut, F.lenUser]
  rw [altsOf_eq, List.getElem?_append, hlen]
  by_cases hj : j < g.cx.nU
  · rw [if_pos hj]
    refine Iff.trans
      (b := ∃ o v, ((userOut g)[j]? = some o ∧ g.user[j]? = some v) ∧ userAltOf g.cx j o v = alts)
      (by simp only [List.getElem?_map, List.getElem?_zipIdx, Nat.zero_add, Option.map_map,
        Option.map_eq_some_iff, List.getElem?_zip_eq_some, Function.comp_apply, Prod.exists]) ⟨?_, ?_⟩
    · rintro ⟨o, v, ⟨ho, hv⟩, rfl⟩
      exact .inl ⟨v, o, hj, hv, ho, rfl⟩
    · rintro (⟨v, o, _, hv, ho, rfl⟩ | ⟨k, _, rfl, _⟩)
      · exact ⟨o, v, ⟨ho, hv⟩, rfl⟩
      · exact absurd hj (Nat.not_lt.2 (Nat.le_add_right _ _))
  · rw [if_neg hj]
    refine Iff.trans
      (b := ∃ nt, (finalExt g)[j - g.cx.nU]? = some nt ∧ extAltOf g.cx (j - g.cx.nU) nt = alts)
      (by simp only [List.getElem?_map, List.getElem?_zipIdx, Nat.zero_add, Option.map_map,
        Option.map_eq_some_iff, Function.comp_apply]) ⟨?_, ?_⟩
    · rintro ⟨nt, hk, rfl⟩
      exact .inr ⟨j - g.cx.nU, nt, (Nat.add_sub_of_le (Nat.not_lt.1 hj)).symm, hk, rfl⟩
    · rintro (⟨_, _, h, _⟩ | ⟨k, nt, rfl, hk, rfl⟩)
      · exact absurd h hj
      · rw [Nat.add_sub_cancel_left]
        exact ⟨nt, hk, rfl⟩

theorem ext_alts {k : Nat} {nt : NT} (hk : (finalExt g)[k]? = some nt) :
    (∀ a ∈ extAltOf g.cx k nt, Good (g.cx.base + (finalExt g).length) a) ∧
      ∀ ρ, TermEnv g.cx.nT ρ →
        denAlts g.cx.sets ρ (extAltOf g.cx k nt) = stepDen g.cx ρ (g.cx.base + k) nt.value := by
  have hlt : k < (finalExt g).length := (List.getElem?_eq_some_iff.1 hk).1
  obtain ⟨alts, ha, h⟩ := synth_spec hsets (F.st k nt hk) (n := g.cx.base + (finalExt g).length)
    (self := g.cx.base + k) (Nat.add_le_add_left (Nat.le_of_lt hlt) _) (Nat.add_lt_add_left hlt _)
  rwa [extAltOf, ha]

theorem user_alts {i : Nat} {v : Expr} {o : Option (List Expr)} (hv : g.user[i]? = some v)
    (ho : (userOut g)[i]? = some o) :
    (∀ ρ, TermEnv g.cx.nT ρ → Consistent g.cx ρ (finalExt g) →
        denAlts g.cx.sets ρ (userAltOf g.cx i o v) = den g.cx.sets ρ v) ∧
      ∀ a ∈ userAltOf g.cx i o v, Good (g.cx.base + (finalExt g).length) a := by
  obtain ⟨o', ho', hu⟩ := F.user i v hv
  cases ho.symm.trans ho'
  cases o with
  | some alts => exact ⟨fun ρ _ hc => hu.1 ρ hc, hu.2⟩
  | none =>
    rcases hu with ⟨s, rfl, hs⟩ | ⟨ps, rfl⟩
    · have hi : i < g.cx.nU := F.lenUser ▸ (List.getElem?_eq_some_iff.1 hv).1
      obtain ⟨alts, ha, hg, hd⟩ := synth_spec hsets (k := 0) (v := .set s) hs
        (n := g.cx.base + (finalExt g).length) (self := g.cx.nT + i) (Nat.le_add_right _ _)
        (Nat.lt_add_right _ (Nat.add_lt_add_left hi _))
      rw [userAltOf, ha]
      exact ⟨fun ρ hρ _ => hd ρ hρ, hg⟩
    · exact ⟨fun ρ _ _ => denAlts_singleton _ ρ _, Good.single (Good.empty _)⟩

theorem alts_plain {j : Nat} {alts : List Expr} (h : (altsOf g).1[j]? = some alts) :
    ∀ a ∈ alts, plain a = true := by
  rcases (altsOf_get F).1 h with ⟨v, o, _, hv, ho, rfl⟩ | ⟨k, nt, rfl, hk, rfl⟩
  · exact fun a ha => ((user_alts F hsets hv ho).2 a ha).1
  · exact fun a ha => ((ext_alts F hsets hk).1 a ha).1

theorem DL_closed : ClosedP g (DL g) := fun j alts hj w ⟨a, ha, hw⟩ => by
  rw [den_flat _ _ a (alts_plain F hsets hj a ha)] at hw
  exact Derives.rule { lhs := g.cx.nT + j, rhs := flat a } w
    (by rw [mem_rules]; exact ⟨j, alts, a, hj, ha, rfl⟩) (derivesSeq_of_seqLang _ w hw)

theorem DL_le {ρ : Nat → Lang} (hρ : TermEnv g.cx.nT ρ) (hcl : ClosedP g ρ) (s : Nat) :
    Lang.le (DL g s) (ρ s) := by
  intro w hw
  refine derives_least (ρ := ρ) (fun a ha => by rw [hρ a ha]) ?_ hw
  intro r hr w hw
  rw [mem_rules] at hr
  obtain ⟨j, alts, a, hj, ha, rfl⟩ := hr
  exact hcl j alts hj w ⟨a, ha, by rw [den_flat _ _ a (alts_plain F hsets hj a ha)]; exact hw⟩

/-- A solution `ρ` of the extended system, extended consistently to the extracted nonterminals, is closed under the
plain rules. -/
theorem closed_of_preFix {ρ : Nat → Lang} (hρ : TermEnv g.cx.nT ρ) (hpre : PreFix g ρ) :
    ∃ ρ', TermEnv g.cx.nT ρ' ∧ ClosedP g ρ' ∧ ∀ s, s < g.cx.base → ρ' s = ρ s := by
  obtain ⟨hbelow, hcons, hterm⟩ := extendEnv_spec F.st ρ
  replace hterm := hterm hρ
  refine ⟨_, hterm, fun j alts hj w hw => ?_, hbelow⟩
  rcases (altsOf_get F).1 hj with ⟨v, o, hjU, hv, ho, rfl⟩ | ⟨k, nt, rfl, hk, rfl⟩
  · rw [(user_alts F hsets hv ho).1 _ hterm hcons,
      den_congr g.cx.sets g.cx.base hbelow v (F.refsUser j v hv)] at hw
    rw [hbelow _ (Nat.add_lt_add_left hjU _)]
    exact hpre j v hv w hw
  · rw [(ext_alts F hsets hk).2 _ hterm] at hw
    rw [show g.cx.nT + (g.cx.nU + k) = g.cx.base + k from (Nat.add_assoc _ _ _).symm, hcons k nt hk]
    exact (stepDen_lfp (F.st k nt hk)).1 (hcons k nt hk) w hw

/-- Conversely an environment `σ` closed under the plain rules solves the extended system: its consistent re-extension
`ρ'` is below it (`extendEnv_le`: a list's denotation is the least language closed under the list's rules), and on `ρ'`
the alternatives of a user nonterminal denote its value. -/
theorem preFix_of_closed {σ : Nat → Lang} (hσ : TermEnv g.cx.nT σ) (hcl : ClosedP g σ) : PreFix g σ := by
  obtain ⟨hbelow, hcons, hterm⟩ := extendEnv_spec F.st σ
  replace hterm := hterm hσ
  have hle := extendEnv_le g.cx (σ := σ) (finalExt g) σ g.cx.base (fun _ => Lang.le_refl _) fun k nt hk => by
    have := hcl _ _ ((altsOf_get F).2 (.inr ⟨k, nt, rfl, hk, rfl⟩))
    rw [(ext_alts F hsets hk).2 σ hσ, ← Nat.add_assoc] at this
    exact (stepDen_lfp (F.st k nt hk)).2 this
  intro i v hv w hw
  obtain ⟨o, ho, _⟩ := F.user i v hv
  have hi : i < g.cx.nU := F.lenUser ▸ (List.getElem?_eq_some_iff.1 hv).1
  rw [← den_congr g.cx.sets g.cx.base hbelow v (F.refsUser i v hv),
    ← (user_alts F hsets hv ho).1 _ hterm hcons] at hw
  obtain ⟨a, ha, hw⟩ := hw
  exact hcl i _ ((altsOf_get F).2 (.inl ⟨v, o, hi, hv, ho, rfl⟩)) w ⟨a, ha, den_mono g.cx.sets hle a w hw⟩

theorem derives_iff_extLang {i : Nat} (hi : i < g.cx.nU) (w : List Nat) :
    Derives (toGrammar g) (g.cx.nT + i) w ↔ ExtLang g i w := by
  constructor
  · intro hder ρ hρ hpre
    obtain ⟨ρ', hterm, hcl, hbelow⟩ := closed_of_preFix F hsets hρ hpre
    exact hbelow _ (Nat.add_lt_add_left hi _) ▸ DL_le F hsets hterm hcl (g.cx.nT + i) w hder
  · exact fun hext => hext (DL g) (DL_term g) (preFix_of_closed F hsets (DL_term g) (DL_closed F hsets))

end

end TmVerif.Expand
