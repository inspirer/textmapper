import TmVerif.Proofs.SetClosureSimple
/-!
`slowClosure`: Gauss–Seidel iteration over a component that contains an intersection node.
Invariant `SlowInv`: every stored set is below its own equation's right-hand side (so each update only
adds elements), union nodes keep their initial elements, nodes outside the component are untouched, and
everything stays below any assignment `b` that is closed under the component's equations.
A pass that leaves `dirty` false has recomputed every node to the value it already had: a fixpoint.
-/
namespace TmVerif.SetClosure
open TmVerif.IntSet TmVerif.Graph

def slowRes (sys : Sys) (x : St) (v : Nat) : IntSet :=
  match opOf sys v with
  | .inter => (edgesOf sys v).foldl (fun r w => r.inter (x.get w)) ⟨true, []⟩
  | .union => (edgesOf sys v).foldl (fun r w => r.merge (x.get w)) (x.get v)
  | .compl => x.get v

theorem foldl_merge_spec (x : St) (hS : ∀ w, Sorted (x.get w).set) :
    ∀ (ws : List Nat) (acc : IntSet), Sorted acc.set → ∀ e,
      (ws.foldl (fun r w => r.merge (x.get w)) acc).Mem e ↔ acc.Mem e ∨ ∃ w ∈ ws, (x.get w).Mem e
  | [], _, _, _ => by simp
  | w :: ws, acc, hacc, e => by
    rw [List.foldl_cons, foldl_merge_spec x hS ws _ (sorted_merge _ _ hacc (hS w)) e, mem_merge _ _ hacc (hS w)]
    simp only [List.mem_cons, exists_eq_or_imp, or_assoc]

theorem foldl_inter_spec (x : St) (hS : ∀ w, Sorted (x.get w).set) :
    ∀ (ws : List Nat) (acc : IntSet), Sorted acc.set → ∀ e,
      (ws.foldl (fun r w => r.inter (x.get w)) acc).Mem e ↔ acc.Mem e ∧ ∀ w ∈ ws, (x.get w).Mem e
  | [], _, _, _ => by simp
  | w :: ws, acc, hacc, e => by
    rw [List.foldl_cons, foldl_inter_spec x hS ws _ (sorted_inter _ _ hacc (hS w)) e, mem_inter _ _ hacc (hS w)]
    simp only [List.mem_cons, forall_eq_or_imp, and_assoc]

theorem slowRes_union {sys : Sys} {x : St} {v : Nat} (hS : ∀ w, Sorted (x.get w).set)
    (h : opOf sys v = .union) (e : Int) :
    (slowRes sys x v).Mem e ↔ (x.get v).Mem e ∨ ∃ w ∈ edgesOf sys v, (x.get w).Mem e := by
  unfold slowRes; rw [h]
  exact foldl_merge_spec x hS _ _ (hS v) e

theorem slowRes_inter {sys : Sys} {x : St} {v : Nat} (hS : ∀ w, Sorted (x.get w).set)
    (h : opOf sys v = .inter) (e : Int) :
    (slowRes sys x v).Mem e ↔ ∀ w ∈ edgesOf sys v, (x.get w).Mem e := by
  unfold slowRes; rw [h]
  rw [foldl_inter_spec x hS _ _ (by trivial) e, and_iff_right ((mem_inverse (s := ⟨true, []⟩) rfl e).2 List.not_mem_nil)]

theorem slowRes_pres {sys : Sys} {x : St} (P : IntSet → Prop) (hm : ∀ a b, P a → P b → P (a.merge b))
    (hi : ∀ a b, P a → P b → P (a.inter b)) (h0 : P ⟨true, []⟩) (hx : ∀ w, P (x.get w)) (v : Nat) :
    P (slowRes sys x v) := by
  unfold slowRes
  split
  · exact List.foldlRecOn (motive := P) _ _ h0 fun b hb w _ => hi b _ hb (hx w)
  · exact List.foldlRecOn (motive := P) _ _ (hx v) fun b hb w _ => hm b _ hb (hx w)
  · exact hx v

theorem slowRes_fix_congr {sys : Sys} {x y : St} (h : x.sets = y.sets) {v : Nat}
    (hx : slowRes sys x v = x.get v) : slowRes sys y v = y.get v := by
  have : St.get x = St.get y := by funext u; unfold St.get; rw [h]
  unfold slowRes at hx ⊢
  rw [this] at hx
  exact hx

theorem slowUpd_get (x : St) (d : Bool) (v : Nat) (res : IntSet) (hv : v < x.sets.length) (u : Nat) :
    (slowUpd x d v res).1.get u = if u = v then res else x.get u := by
  unfold slowUpd
  split
  · rename_i h
    by_cases huv : u = v
    · subst huv; simp [h]
    · simp [huv]
  · simp only
    rw [get_set]
    simp [hv]

theorem slowUpd_err (x : St) (d : Bool) (v : Nat) (res : IntSet) : (slowUpd x d v res).1.err = x.err := by
  unfold slowUpd; split <;> rfl

theorem slowUpd_timeout (x : St) (d : Bool) (v : Nat) (res : IntSet) :
    (slowUpd x d v res).1.timeout = x.timeout := by
  unfold slowUpd; split <;> rfl

theorem slowUpd_len (x : St) (d : Bool) (v : Nat) (res : IntSet) :
    (slowUpd x d v res).1.sets.length = x.sets.length := by
  unfold slowUpd; split <;> simp

theorem slowUpd_clean (x : St) (d : Bool) (v : Nat) (res : IntSet) (h : (slowUpd x d v res).2 = false) :
    d = false ∧ res = x.get v ∧ (slowUpd x d v res).1 = x := by
  revert h
  fun_cases slowUpd x d v res
  · rename_i he; exact fun h => ⟨h, he, rfl⟩
  · nofun

theorem slowUpd_dirty (x : St) (v : Nat) (res : IntSet) : (slowUpd x true v res).2 = true := by
  unfold slowUpd; split <;> rfl

theorem slowNode_of_ne_compl {sys : Sys} {snap : List Nat} {x : St} {d : Bool} {v : Nat}
    (h : opOf sys v ≠ .compl) : slowNode sys snap (x, d) v = slowUpd x d v (slowRes sys x v) := by
  cases hop : opOf sys v with
  | compl => exact absurd hop h
  | union => simp [slowNode, slowRes, hop]
  | inter => simp [slowNode, slowRes, hop]

theorem slowNode_offender {sys : Sys} {snap : List Nat} {x : St} {d : Bool} {v w : Nat}
    (h : opOf sys v = .compl) (he : edgesOf sys v = [w]) (hw : w ∈ snap) :
    slowNode sys snap (x, d) v = ({ x with err := x.err ++ [v] }, d) := by
  simp [slowNode, h, he, hw]

theorem slow_compl_offends {sys : Sys} {comp snap : List Nat} {s : St} (c : CompCtx sys comp snap s)
    (hq : ∃ q ∈ comp, opOf sys q = .inter) {v : Nat} (hv : v ∈ comp)
    (hvc : opOf sys v = .compl) : ∃ w, edgesOf sys v = [w] ∧ w ∈ snap := by
  obtain ⟨w, hw⟩ := c.wf.compl1 v (c.lt v hv) hvc
  refine ⟨w, hw, ?_⟩
  obtain ⟨q, hq, hqi⟩ := hq
  rcases scc_edge_or_single c.scc hv hq with rfl | ⟨w', hw', hwc⟩
  · rw [hqi] at hvc; cases hvc
  · have hm : w' ∈ edgesOf sys v := hw'
    rw [← c.snapIff hv hm] at hwc
    rw [hw, List.mem_singleton] at hm
    exact hm ▸ hwc

/-- `b` is closed under the equations of the union and intersection nodes of `comp`, and contains the
sets stored for successors outside `comp` -/
structure Above (sys : Sys) (comp : List Nat) (s0 : St) (b : Asg) : Prop where
  union : ∀ v ∈ comp, opOf sys v = .union → ∀ e, (e ∈ initOf sys v ∨ ∃ w ∈ edgesOf sys v, b w e) → b v e
  inter : ∀ v ∈ comp, opOf sys v = .inter → ∀ e, (∀ w ∈ edgesOf sys v, b w e) → b v e
  out : ∀ v ∈ comp, ∀ w ∈ edgesOf sys v, w ∉ comp → ∀ e, (s0.get w).Mem e → b w e

theorem above_top (sys : Sys) (comp : List Nat) (s0 : St) : Above sys comp s0 (fun _ _ => True) :=
  ⟨fun _ _ _ _ _ => trivial, fun _ _ _ _ _ => trivial, fun _ _ _ _ _ _ _ => trivial⟩

structure SlowInv (sys : Sys) (comp : List Nat) (s0 x : St) (b : Asg) : Prop where
  len : x.sets.length = sys.length
  sorted : ∀ v, Sorted (x.get v).set
  frame : ∀ u, u ∉ comp → x.get u = s0.get u
  lowU : ∀ v ∈ comp, opOf sys v = .union → ∀ e, e ∈ initOf sys v → (x.get v).Mem e
  upU : ∀ v ∈ comp, opOf sys v = .union → ∀ e, (x.get v).Mem e →
    e ∈ initOf sys v ∨ ∃ w ∈ edgesOf sys v, (x.get w).Mem e
  upI : ∀ v ∈ comp, opOf sys v = .inter → ∀ e, (x.get v).Mem e → ∀ w ∈ edgesOf sys v, (x.get w).Mem e
  keepC : ∀ v ∈ comp, opOf sys v = .compl → x.get v = ⟨false, []⟩
  below : ∀ v ∈ comp, ∀ e, (x.get v).Mem e → b v e

theorem slowInv_init {sys : Sys} {comp snap : List Nat} {s : St} (c : CompCtx sys comp snap s) (b : Asg)
    (hb : Above sys comp s b) : SlowInv sys comp s s b := by
  refine ⟨c.len, c.sorted, fun _ _ => rfl, ?_, ?_, ?_, ?_, ?_⟩
  · intro v hv _ e he; rw [c.get_mem_iff_init hv]; exact he
  · intro v hv _ e he; rw [c.get_mem_iff_init hv] at he; exact .inl he
  · intro v hv hop e he
    rw [c.get_mem_iff_init hv] at he
    rw [c.wf.union_of_mem_init he] at hop; cases hop
  · intro v hv hop
    rw [c.fresh v hv, c.wf.initE v (by rw [hop]; simp)]
  · intro v hv e he
    rw [c.get_mem_iff_init hv] at he
    exact hb.union v hv (c.wf.union_of_mem_init he) e (.inl he)

theorem slowRes_grows {sys : Sys} {comp : List Nat} {s0 x : St} {b : Asg} (I : SlowInv sys comp s0 x b)
    {v : Nat} (hv : v ∈ comp) (hop : opOf sys v ≠ .compl) :
    ∀ e, (x.get v).Mem e → (slowRes sys x v).Mem e := by
  intro e he
  cases hop' : opOf sys v with
  | compl => exact absurd hop' hop
  | union => exact (slowRes_union I.sorted hop' e).2 (.inl he)
  | inter => exact (slowRes_inter I.sorted hop' e).2 (I.upI v hv hop' e he)

theorem SlowInv.update {sys : Sys} {comp : List Nat} {s0 x : St} {b : Asg} (I : SlowInv sys comp s0 x b)
    (hb : Above sys comp s0 b) (hlt : ∀ v ∈ comp, v < sys.length) {v : Nat} (hv : v ∈ comp)
    (hop : opOf sys v ≠ .compl) (d : Bool) :
    SlowInv sys comp s0 (slowUpd x d v (slowRes sys x v)).1 b := by
  have hget := slowUpd_get x d v (slowRes sys x v) (by rw [I.len]; exact hlt v hv)
  have hlen := (slowUpd_len x d v (slowRes sys x v)).trans I.len
  generalize (slowUpd x d v (slowRes sys x v)).1 = x' at hget hlen ⊢
  have hmono : ∀ u e, (x.get u).Mem e → (x'.get u).Mem e := by
    intro u e he
    rw [hget u]
    split
    · rename_i huv; subst huv; exact slowRes_grows I hv hop e he
    · exact he
  have hcases : ∀ u e, (x'.get u).Mem e → (x.get u).Mem e ∨ u = v ∧ (slowRes sys x v).Mem e := by
    intro u e he
    rw [hget u] at he
    by_cases huv : u = v
    · rw [if_pos huv] at he; exact .inr ⟨huv, he⟩
    · rw [if_neg huv] at he; exact .inl he
  refine {
    len := hlen
    sorted := ?sorted
    frame := ?frame
    lowU := ?lowU
    upU := ?upU
    upI := ?upI
    keepC := ?keepC
    below := ?below }
  case sorted =>
    intro u
    rw [hget u]
    split
    · exact slowRes_pres (fun a => Sorted a.set) sorted_merge sorted_inter (by trivial) I.sorted v
    · exact I.sorted u
  case frame =>
    intro u hu
    rw [hget u, if_neg (fun e : u = v => hu (e ▸ hv))]
    exact I.frame u hu
  case lowU =>
    intro u hu hopu e he
    exact hmono u e (I.lowU u hu hopu e he)
  case upU =>
    intro u hu hopu e he
    have hold : e ∈ initOf sys u ∨ ∃ w ∈ edgesOf sys u, (x.get w).Mem e := by
      rcases hcases u e he with h | ⟨rfl, h⟩
      · exact I.upU u hu hopu e h
      · exact ((slowRes_union I.sorted hopu e).1 h).elim (I.upU u hu hopu e) .inr
    exact hold.imp_right fun ⟨w, hw, h⟩ => ⟨w, hw, hmono w e h⟩
  case upI =>
    intro u hu hopu e he w hw
    apply hmono w e
    rcases hcases u e he with h | ⟨rfl, h⟩
    · exact I.upI u hu hopu e h w hw
    · exact (slowRes_inter I.sorted hopu e).1 h w hw
  case keepC =>
    intro u hu hopu
    rw [hget u, if_neg (fun e : u = v => hop (e ▸ hopu))]
    exact I.keepC u hu hopu
  case below =>
    intro u hu e he
    rcases hcases u e he with h | ⟨rfl, h⟩
    · exact I.below u hu e h
    · have hbw : ∀ w ∈ edgesOf sys u, (x.get w).Mem e → b w e := by
        intro w hw he
        by_cases hwc : w ∈ comp
        · exact I.below w hwc e he
        · rw [I.frame w hwc] at he; exact hb.out u hu w hw hwc e he
      cases hopu : opOf sys u with
      | compl => exact absurd hopu hop
      | union =>
        rcases (slowRes_union I.sorted hopu e).1 h with h | ⟨w, hw, h⟩
        · exact I.below u hu e h
        · exact hb.union u hu hopu e (.inr ⟨w, hw, hbw w hw h⟩)
      | inter => exact hb.inter u hu hopu e fun w hw => hbw w hw ((slowRes_inter I.sorted hopu e).1 h w hw)

/-- the invariant speaks of the sets only -/
theorem SlowInv.sets {sys : Sys} {comp : List Nat} {s0 x : St} {b : Asg} (I : SlowInv sys comp s0 x b)
    (err : List Nat) (tmo : Bool) : SlowInv sys comp s0 { x with err := err, timeout := tmo } b :=
  ⟨I.len, I.sorted, I.frame, I.lowU, I.upU, I.upI, I.keepC, I.below⟩

/-- total size of the component's sets, measured inside the elements the system mentions plus one
point for "everything else" -/
def pot (sys : Sys) (comp : List Nat) (x : St) : Nat :=
  (comp.map fun v => mu (mlist sys) (x.get v)).sum

theorem pot_le (sys : Sys) (comp : List Nat) (x : St) :
    pot sys comp x ≤ comp.length * (mentioned sys + 1) := by
  unfold pot
  induction comp with
  | nil => exact Nat.zero_le _
  | cons v comp ih =>
    rw [List.map_cons, List.sum_cons, List.length_cons, Nat.succ_mul, Nat.add_comm]
    exact Nat.add_le_add ih (mlist_length sys ▸ mu_le (mlist sys) (x.get v))

theorem sum_map_lt (f g : Nat → Nat) (v : Nat) (h1 : ∀ u, u ≠ v → g u = f u) (h2 : f v + 1 ≤ g v)
    (l : List Nat) : (l.map f).sum ≤ (l.map g).sum ∧ (v ∈ l → (l.map f).sum + 1 ≤ (l.map g).sum) := by
  have hle : ∀ u, f u ≤ g u := fun u =>
    if e : u = v then e ▸ Nat.le_of_succ_le h2 else Nat.le_of_eq (h1 u e).symm
  induction l with
  | nil => exact ⟨Nat.le_refl _, nofun⟩
  | cons a l ih =>
    simp only [List.map_cons, List.sum_cons, List.mem_cons]
    refine ⟨Nat.add_le_add (hle a) ih.1, ?_⟩
    rintro (rfl | h)
    · rw [Nat.add_right_comm]; exact Nat.add_le_add h2 ih.1
    · rw [Nat.add_assoc]; exact Nat.add_le_add (hle a) (ih.2 h)

/-- an update that changes the set of `v` makes it strictly larger inside `mlist` (`eq_of_mu_le`): the
potential rises whenever the dirty flag does, in a form that telescopes along a pass -/
theorem slowUpd_pot {sys : Sys} {comp : List Nat} {s0 x : St} {b : Asg} (I : SlowInv sys comp s0 x b)
    (hB : Bounded sys x) (hlt : ∀ v ∈ comp, v < sys.length) {v : Nat} (hv : v ∈ comp)
    (hop : opOf sys v ≠ .compl) (d : Bool) :
    Bounded sys (slowUpd x d v (slowRes sys x v)).1 ∧
    pot sys comp x + (slowUpd x d v (slowRes sys x v)).2.toNat ≤
      pot sys comp (slowUpd x d v (slowRes sys x v)).1 + d.toNat := by
  have hget := slowUpd_get x d v (slowRes sys x v) (by rw [I.len]; exact hlt v hv)
  have hres : Tidy sys (slowRes sys x v) :=
    slowRes_pres (Tidy sys) (fun _ _ => Tidy.merge) (fun _ _ => Tidy.inter) (.nil sys true)
      (fun w => ⟨I.sorted w, hB w⟩) v
  refine ⟨fun u => ?_, ?_⟩
  · rw [hget u]
    split
    · exact hres.2
    · exact hB u
  by_cases he : slowRes sys x v = x.get v
  · rw [slowUpd, if_pos he]
    exact Nat.le_refl _
  · have hd : (slowUpd x d v (slowRes sys x v)).2 = true := by rw [slowUpd, if_neg he]
    rw [hd]
    generalize (slowUpd x d v (slowRes sys x v)).1 = x' at hget ⊢
    have hmu : mu (mlist sys) (x.get v) + 1 ≤ mu (mlist sys) (x'.get v) := by
      rw [hget v, if_pos rfl]
      apply Nat.lt_of_not_le
      exact fun hle => he (eq_of_mu_le (mlist sys) (I.sorted v) hres.1 (hB v) hres.2 (slowRes_grows I hv hop) hle).symm
    have hpot : pot sys comp x + 1 ≤ pot sys comp x' :=
      (sum_map_lt _ _ v (fun u hu => by rw [hget u, if_neg hu]) hmu comp).2 hv
    exact Nat.le_trans hpot (Nat.le_add_right _ _)

/-- facts about one pass `for _, v := range component` over a part `vs` of the component, started in
`(x, d)`. Every complement node is reported: in a component with an intersection node each of them
offends (`slow_compl_offends`). -/
structure PassOk (sys : Sys) (comp : List Nat) (s0 : St) (b : Asg) (vs : List Nat) (x : St) (d : Bool)
    (r : St × Bool) : Prop where
  inv : SlowInv sys comp s0 r.1 b
  err : r.1.err = x.err ++ vs.filter (opOf sys · = .compl)
  tmo : r.1.timeout = x.timeout
  clean : r.2 = false →
    d = false ∧ r.1.sets = x.sets ∧ ∀ v ∈ vs, opOf sys v ≠ .compl → slowRes sys x v = x.get v
  pot : Bounded sys x → Bounded sys r.1 ∧ pot sys comp x + r.2.toNat ≤ pot sys comp r.1 + d.toNat

theorem PassOk.cons {sys : Sys} {comp : List Nat} {s0 : St} {b : Asg} {v : Nat} {vs : List Nat} {x : St}
    {d : Bool} {y r : St × Bool} (S : PassOk sys comp s0 b [v] x d y) (P : PassOk sys comp s0 b vs y.1 y.2 r) :
    PassOk sys comp s0 b (v :: vs) x d r := by
  refine ⟨P.inv, ?_, P.tmo.trans S.tmo, fun h => ?_, fun hB => ?_⟩
  · rw [P.err, S.err, List.append_assoc, ← List.filter_append]; rfl
  · obtain ⟨h1, h2, h3⟩ := P.clean h
    obtain ⟨h4, h5, h6⟩ := S.clean h1
    refine ⟨h4, h2.trans h5, fun u hu hop => ?_⟩
    rcases List.mem_cons.1 hu with rfl | hu
    · exact h6 u (List.mem_singleton_self u) hop
    · exact slowRes_fix_congr h5 (h3 u hu hop)
  · obtain ⟨hB1, h1⟩ := S.pot hB
    obtain ⟨hB2, h2⟩ := P.pot hB1
    exact ⟨hB2, by omega⟩

theorem slowNode_ok {sys : Sys} {comp snap : List Nat} {s0 : St} (c : CompCtx sys comp snap s0) {b : Asg}
    (hb : Above sys comp s0 b) (hq : ∃ q ∈ comp, opOf sys q = .inter) {v : Nat} (hv : v ∈ comp)
    {x : St} (d : Bool) (I : SlowInv sys comp s0 x b) :
    PassOk sys comp s0 b [v] x d (slowNode sys snap (x, d) v) := by
  by_cases hop : opOf sys v = .compl
  · obtain ⟨w, he, hw⟩ := slow_compl_offends c hq hv hop
    rw [slowNode_offender hop he hw]
    exact ⟨I.sets _ _, by simp [hop], rfl, fun h => ⟨h, rfl, by simp [hop]⟩, fun hB => ⟨hB, Nat.le_refl _⟩⟩
  · rw [slowNode_of_ne_compl hop]
    refine ⟨I.update hb c.lt hv hop d, by simp [slowUpd_err, hop], slowUpd_timeout .., fun h => ?_,
      fun hB => slowUpd_pot I hB c.lt hv hop d⟩
    obtain ⟨h1, h2, h3⟩ := slowUpd_clean x d v _ h
    exact ⟨h1, congrArg St.sets h3, fun u hu _ => List.mem_singleton.1 hu ▸ h2⟩

theorem slow_pass {sys : Sys} {comp snap : List Nat} {s0 : St} (c : CompCtx sys comp snap s0) {b : Asg}
    (hb : Above sys comp s0 b) (hq : ∃ q ∈ comp, opOf sys q = .inter) :
    ∀ (vs : List Nat), (∀ v ∈ vs, v ∈ comp) → ∀ (x : St) (d : Bool), SlowInv sys comp s0 x b →
      PassOk sys comp s0 b vs x d (vs.foldl (slowNode sys snap) (x, d)) := by
  intro vs
  induction vs with
  | nil =>
    exact fun _ _ _ I => ⟨I, (List.append_nil _).symm, rfl, fun h => ⟨h, rfl, nofun⟩, fun hB => ⟨hB, Nat.le_refl _⟩⟩
  | cons v vs ih =>
    intro hvs x d I
    have S := slowNode_ok c hb hq (hvs v List.mem_cons_self) d I
    exact S.cons (ih (fun u hu => hvs u (List.mem_cons_of_mem _ hu)) _ _ S.inv)

structure LoopOk (sys : Sys) (comp snap : List Nat) (s0 : St) (b : Asg) (fuel : Nat) (x t : St) : Prop where
  inv : SlowInv sys comp s0 t b
  err : ∃ extra, t.err = x.err ++ extra ∧ (∀ e ∈ extra, e ∈ comp ∧ Offends sys snap e)
  /-- an offender in the component is recorded in the first pass -/
  offend : fuel ≠ 0 → (∃ v ∈ comp, opOf sys v = .compl) → t.err ≠ []
  tmo : x.timeout = true → t.timeout = true
  fix : t.timeout = false → ∀ v ∈ comp, opOf sys v ≠ .compl → slowRes sys t v = t.get v
  /-- every dirty pass raises the potential, which is bounded: enough fuel never runs out -/
  tmoF : Bounded sys x → comp.length * (mentioned sys + 1) < pot sys comp x + fuel →
    t.timeout = x.timeout ∧ Bounded sys t

theorem slow_loop {sys : Sys} {comp snap : List Nat} {s0 : St} (c : CompCtx sys comp snap s0) {b : Asg}
    (hb : Above sys comp s0 b) (hq : ∃ q ∈ comp, opOf sys q = .inter) :
    ∀ (fuel : Nat) (x : St), SlowInv sys comp s0 x b →
      LoopOk sys comp snap s0 b fuel x (slowLoop sys comp snap fuel x) := by
  intro fuel
  induction fuel with
  | zero =>
    intro x I
    exact {
      inv := I.sets _ _
      err := ⟨[], by simp [slowLoop], by simp⟩
      offend := fun h => absurd rfl h
      tmo := fun _ => rfl
      fix := fun h => by simp [slowLoop] at h
      tmoF := fun _ hf => absurd hf (Nat.not_lt.2 (pot_le sys comp x)) }
  | succ fuel ih =>
    intro x I
    have P := slow_pass c hb hq comp (fun _ h => h) x false I
    simp only [slowLoop]
    generalize comp.foldl (slowNode sys snap) (x, false) = r at P
    have hF : ∀ e ∈ comp.filter (opOf sys · = .compl), e ∈ comp ∧ Offends sys snap e := by
      intro e he
      obtain ⟨hec, hop⟩ := List.mem_filter.1 he
      have hop := of_decide_eq_true hop
      obtain ⟨w, hw, hws⟩ := slow_compl_offends c hq hec hop
      exact ⟨hec, hop, w, hw ▸ List.mem_singleton_self w, hws⟩
    have hne : (∃ v ∈ comp, opOf sys v = .compl) → r.1.err ≠ [] := fun ⟨v, hv, hop⟩ =>
      P.err ▸ List.append_ne_nil_of_right_ne_nil _
        (List.ne_nil_of_mem (List.mem_filter.2 ⟨hv, decide_eq_true hop⟩))
    by_cases hd : r.2 = true
    · rw [if_pos hd]
      have L := ih r.1 P.inv
      obtain ⟨extra', h3, h4⟩ := L.err
      refine {
        inv := L.inv
        err := ⟨comp.filter _ ++ extra', by rw [h3, P.err, List.append_assoc], ?errs⟩
        offend := ?offend
        tmo := ?tmo
        fix := L.fix
        tmoF := ?tmoF }
      case errs =>
        intro e he
        exact (List.mem_append.1 he).elim (hF e) (h4 e)
      case offend =>
        intro _ ho
        rw [h3]
        exact List.append_ne_nil_of_left_ne_nil (hne ho) _
      case tmo =>
        intro hx; apply L.tmo; rw [P.tmo]; exact hx
      case tmoF =>
        intro hB hf
        obtain ⟨hB1, hgain⟩ := P.pot hB
        rw [hd, Bool.toNat_true, Bool.toNat_false] at hgain
        obtain ⟨e1, e2⟩ := L.tmoF hB1 (by omega)
        exact ⟨by rw [e1, P.tmo], e2⟩
    · rw [if_neg hd]
      obtain ⟨-, h3, h4⟩ := P.clean (Bool.eq_false_iff.2 hd)
      exact {
        inv := P.inv
        err := ⟨_, P.err, hF⟩
        offend := fun _ => hne
        tmo := fun hx => by rw [P.tmo]; exact hx
        fix := fun _ v hv hop => slowRes_fix_congr h3.symm (h4 v hv hop)
        tmoF := fun hB _ => ⟨P.tmo, (P.pot hB).1⟩ }

/-- `StepOk` and the equations come from `L` at the trivial `b`, leastness from `L` at the `b` compared with -/
theorem slow_ok {sys : Sys} {comp snap : List Nat} {s t : St}
    (L : ∀ b, Above sys comp s b → LoopOk sys comp snap s b (slowFuel sys comp) s t) :
    StepOk sys comp snap s t ∧ (t.err = [] → t.timeout = false → CompGood sys comp t) := by
  have T := L _ (above_top sys comp s)
  have hT := fun hB => T.tmoF hB (Nat.lt_add_left _ (Nat.lt_succ_self _))
  refine ⟨{
    len := T.inv.len
    sorted := T.inv.sorted
    frame := T.inv.frame
    err := T.err
    offend := fun ⟨v, hv, ho⟩ => T.offend (Nat.succ_ne_zero _) ⟨v, hv, ho.1⟩
    tmo := T.tmo
    bounded := fun hB => (hT hB).2
    tmoF := fun hB h => by rw [(hT hB).1]; exact h }, fun herr htmo => ?_⟩
  have hnc : ∀ v ∈ comp, opOf sys v ≠ .compl :=
    fun v hv hop => T.offend (Nat.succ_ne_zero _) ⟨v, hv, hop⟩ herr
  refine ⟨?_, ?_⟩
  · intro v hv
    have hf := T.fix htmo v hv (hnc v hv)
    cases hop : opOf sys v with
    | compl => exact absurd hop (hnc v hv)
    | union =>
      rw [eqAt_union hop]
      refine fun x => ⟨T.inv.upU v hv hop x, fun h => ?_⟩
      show (t.get v).Mem x
      rw [← hf, slowRes_union T.inv.sorted hop x]
      exact h.imp_left (T.inv.lowU v hv hop x)
    | inter =>
      rw [eqAt_inter hop]
      intro x
      show (t.get v).Mem x ↔ _
      rw [← hf]
      exact slowRes_inter T.inv.sorted hop x
  · intro b hb hbo v hv x hx
    refine (L b ⟨?_, ?_, ?_⟩).inv.below v hv x hx
    · intro u hu hop e he; exact ((eqAt_union hop).1 (hb u hu) e).2 he
    · intro u hu hop e he; exact ((eqAt_inter hop).1 (hb u hu) e).2 he
    · intro u hu w hw hwc e he
      apply (hbo u hu w hw hwc).1 e
      show (t.get w).Mem e
      rw [T.inv.frame w hwc]; exact he

end TmVerif.SetClosure
