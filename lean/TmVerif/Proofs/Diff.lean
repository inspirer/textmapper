import TmVerif.Model.Diff
/-!
`Valid cs a b`: the chunks `cs` describe a way to turn `a` into `b`; every constructor of the script
in `lcsWith` preserves it, for an arbitrary split-point oracle. Then the reference LCS length
(`lcsRec`, equal to the dynamic programme `dpLcs`), the lower bound it puts on every edit list, and
minimality of the script when every split point lies on an optimal path (`OptimalSplit`).
-/
namespace TmVerif.Diff
variable {α : Type} [DecidableEq α]

def Valid : List Chunk → List α → List α → Prop
  | [], a, b => a = [] ∧ b = []
  | c :: cs, a, b =>
    c.del + c.eq ≤ a.length ∧ c.ins + c.eq ≤ b.length ∧
    (a.drop c.del).take c.eq = (b.drop c.ins).take c.eq ∧
    Valid cs (a.drop (c.del + c.eq)) (b.drop (c.ins + c.eq))

omit [DecidableEq α] in
theorem take_mid_drop (l : List α) (i n : Nat) :
    l.take i ++ (l.drop i).take n ++ l.drop (i + n) = l := by
  rw [List.append_assoc, ← List.drop_drop, List.take_append_drop, List.take_append_drop]

omit [DecidableEq α] in
theorem valid_cons_iff (c : Chunk) (cs : List Chunk) (a b : List α) :
    Valid (c :: cs) a b ↔ ∃ D I E a' b', c = ⟨D.length, I.length, E.length⟩ ∧ a = D ++ E ++ a' ∧
      b = I ++ E ++ b' ∧ Valid cs a' b' := by
  constructor
  · rintro ⟨p1, p2, p3, p4⟩
    refine ⟨a.take c.del, b.take c.ins, (a.drop c.del).take c.eq, a.drop (c.del + c.eq),
      b.drop (c.ins + c.eq), ?_, (take_mid_drop a _ _).symm, ?_, p4⟩
    · simp only [List.length_take, List.length_drop]
      rw [Nat.min_eq_left (by omega), Nat.min_eq_left (by omega), Nat.min_eq_left (by omega)]
    · rw [p3, take_mid_drop]
  · rintro ⟨D, I, E, a', b', rfl, rfl, rfl, h⟩
    simp [Valid, h]

omit [DecidableEq α] in
/-- `Valid` read as an inductive relation: a script and the two lists it relates grow chunk by chunk. -/
@[elab_as_elim]
theorem Valid.ind {motive : List Chunk → List α → List α → Prop} (nil : motive [] [] [])
    (cons : ∀ (D I E : List α) cs a b, Valid cs a b → motive cs a b →
      motive (⟨D.length, I.length, E.length⟩ :: cs) (D ++ E ++ a) (I ++ E ++ b))
    {cs : List Chunk} {a b : List α} (h : Valid cs a b) : motive cs a b := by
  induction cs generalizing a b with
  | nil => obtain ⟨rfl, rfl⟩ := h; exact nil
  | cons c cs ih =>
    obtain ⟨D, I, E, a', b', rfl, rfl, rfl, hv⟩ := (valid_cons_iff c cs a b).mp h
    exact cons D I E cs a' b' hv (ih hv)

omit [DecidableEq α] in
theorem valid_apply (cs : List Chunk) (a b : List α) (h : Valid cs a b) :
    applyEdits (toEdits cs b) a = some b ∧ editCost (toEdits cs b) = scriptCost cs := by
  refine h.ind ?_ fun D I E cs a b _ ⟨ih1, ih2⟩ => ?_
  · simp [toEdits, applyEdits, editCost, scriptCost]
  · simp [toEdits, applyEdits, editCost, scriptCost, ih1, ih2, Nat.add_assoc]

omit [DecidableEq α] in
theorem valid_append {t1 t2 : List Chunk} {a1 b1 a2 b2 : List α}
    (h1 : Valid t1 a1 b1) (h2 : Valid t2 a2 b2) : Valid (t1 ++ t2) (a1 ++ a2) (b1 ++ b2) := by
  refine h1.ind h2 fun D I E cs a b _ ih => ?_
  exact (valid_cons_iff _ _ _ _).mpr ⟨D, I, E, _, _, rfl, List.append_assoc _ _ _,
    List.append_assoc _ _ _, ih⟩

set_option linter.unusedSectionVars false in
theorem valid_nil_chunk (cs : List Chunk) (a b : List α) (h : Valid cs a b) :
    Valid (⟨0, 0, 0⟩ :: cs) a b := by
  simp [Valid, h]

theorem merge_eq_some {c o m : Chunk} : c.merge o = some m ↔
    (c.eq = 0 ∨ (o.ins = 0 ∧ o.del = 0)) ∧ ⟨c.del + o.del, c.ins + o.ins, c.eq + o.eq⟩ = m := by
  rw [Chunk.merge, Option.ite_none_right_eq_some, Option.some.injEq]

omit [DecidableEq α] in
theorem valid_merge (c o m : Chunk) (cs : List Chunk) (a b : List α)
    (hm : c.merge o = some m) (h : Valid (c :: o :: cs) a b) : Valid (m :: cs) a b := by
  obtain ⟨D, I, E, _, _, rfl, rfl, rfl, h1⟩ := (valid_cons_iff _ _ _ _).mp h
  obtain ⟨D', I', E', a', b', rfl, rfl, rfl, h2⟩ := (valid_cons_iff _ _ _ _).mp h1
  obtain ⟨hc | ⟨hc1, hc2⟩, rfl⟩ := merge_eq_some.mp hm
  · -- `c` keeps nothing: the changes of `o` join those of `c`
    obtain rfl := List.eq_nil_of_length_eq_zero hc
    exact (valid_cons_iff _ _ _ _).mpr ⟨D ++ D', I ++ I', E', a', b', by simp, by simp, by simp, h2⟩
  · -- `o` changes nothing: its equal lines extend those of `c`
    obtain rfl := List.eq_nil_of_length_eq_zero hc2
    obtain rfl := List.eq_nil_of_length_eq_zero hc1
    exact (valid_cons_iff _ _ _ _).mpr ⟨D, I, E ++ E', a', b', by simp, by simp, by simp, h2⟩

omit [DecidableEq α] in
theorem valid_mergeInto (cur : Chunk) (cs : List Chunk) (a b : List α)
    (h : Valid (cur :: cs) a b) : Valid (mergeInto cur cs) a b := by
  fun_induction mergeInto cur cs generalizing a b with
  | case1 => exact h
  | case2 cur c cs m hm ih => exact ih a b (valid_merge cur c m cs a b hm h)
  | case3 cur c cs _ ih => exact ⟨h.1, h.2.1, h.2.2.1, ih _ _ h.2.2.2⟩

omit [DecidableEq α] in
theorem valid_optimize (cs : List Chunk) (a b : List α) (h : Valid cs a b) :
    Valid (optimize cs) a b := by
  cases cs with
  | nil => simpa [optimize] using h
  | cons c cs => exact valid_mergeInto c cs a b h

theorem commonPrefix_spec (a b : List α) :
    commonPrefix a b ≤ a.length ∧ a.take (commonPrefix a b) = b.take (commonPrefix a b) := by
  fun_induction commonPrefix a b <;> simp_all

theorem commonSuffix_spec (a b : List α) :
    commonSuffix a b ≤ a.length ∧
      a.drop (a.length - commonSuffix a b) = b.drop (b.length - commonSuffix a b) := by
  have ⟨s1, s3⟩ := commonPrefix_spec a.reverse b.reverse
  rw [List.take_reverse, List.take_reverse] at s3
  exact ⟨List.length_reverse ▸ s1, List.reverse_inj.mp s3⟩

theorem snakeLen_spec (mx : Nat) (a b : List α) :
    (a.take (snakeLen mx a b)).length = snakeLen mx a b ∧
      a.take (snakeLen mx a b) = b.take (snakeLen mx a b) := by
  fun_induction snakeLen mx a b with
  | case1 mx xs y ys ih => simp only [List.take_succ_cons, List.length_cons, ih.1, ← ih.2, and_self]
  | case2 | case3 => simp

theorem findFirst_some (x : α) (l : List α) (i : Nat) (h : findFirst x l = some i) :
    ∃ l1 l2, l = l1 ++ x :: l2 ∧ l1.length = i := by
  fun_induction findFirst x l generalizing i with
  | case1 => cases h
  | case2 ys => cases h; exact ⟨[], ys, rfl, rfl⟩
  | case3 y ys hy ih =>
    obtain ⟨j, hf, rfl⟩ := Option.map_eq_some_iff.mp h
    obtain ⟨l1, l2, rfl, rfl⟩ := ih j hf
    exact ⟨y :: l1, l2, rfl, rfl⟩

omit [DecidableEq α] in
theorem valid_replace_all (a b : List α) : Valid [⟨a.length, b.length, 0⟩] a b := by
  simp [Valid]

omit [DecidableEq α] in
theorem valid_snake (snake : Nat) (k : List α) (hk : k.length = snake) :
    Valid (if snake > 0 then [⟨0, 0, snake⟩] else []) k k := by
  subst hk
  split
  · simp [Valid]
  · obtain rfl : k = [] := List.eq_nil_of_length_eq_zero (by omega)
    exact ⟨rfl, rfl⟩

theorem traceWith_valid (raw : List α → List α → Option (Nat × Nat × Nat)) (fuel : Nat)
    (a b : List α) (t : List Chunk) (h : traceWith raw fuel a b = some t) : Valid t a b := by
  fun_induction traceWith raw fuel a b generalizing t with
  -- no fuel; the oracle fails, returns a point out of range or a corner; a recursive call fails
  | case1 | case8 | case9 | case10 | case11 | case12 => cases h
  -- one side empty (2, 3) or a single element, found or not on the other side (4-7)
  | case2 _ b => cases h; exact valid_replace_all [] b
  | case3 _ a => cases h; exact valid_replace_all a []
  | case4 _ x b _ i hf =>
    cases h
    obtain ⟨l1, l2, rfl, rfl⟩ := findFirst_some _ _ _ hf
    simp [Valid]
  | case5 _ x b => cases h; exact valid_replace_all [x] b
  | case6 _ a y _ _ i hf =>
    cases h
    obtain ⟨l1, l2, rfl, rfl⟩ := findFirst_some _ _ _ hf
    simp [Valid]
  | case7 _ a y => cases h; exact valid_replace_all a [y]
  -- the split at `(ai, bi)`: script `l` of the left part, the re-checked snake, script `r` of the rest
  | case13 _ a b _ _ _ _ ai bi mx _ _ _ snake l hl r hr ihl ihr =>
    cases h
    have ⟨s1, s3⟩ := snakeLen_spec mx (a.drop ai) (b.drop bi)
    have vs := valid_snake snake ((a.drop ai).take snake) s1
    have v := valid_append (valid_append (ihl l hl) vs) (ihr r hr)
    rwa [take_mid_drop, s3, take_mid_drop] at v

theorem lcsRawWith_some (raw : List α → List α → Option (Nat × Nat × Nat)) (a b : List α)
    (t : List Chunk) (h : lcsRawWith raw a b = some t) :
    ∃ (P A B S : List α) (fuel : Nat) (tr : List Chunk), a = P ++ A ++ S ∧ b = P ++ B ++ S ∧
      traceWith raw fuel A B = some tr ∧
      t = (if P.length > 0 then [⟨0, 0, P.length⟩] else []) ++ tr ++
        (if S.length > 0 then [⟨0, 0, S.length⟩] else []) := by
  obtain ⟨p, hp⟩ : ∃ p, commonPrefix a b = p := ⟨_, rfl⟩
  obtain ⟨s, hs⟩ : ∃ s, commonSuffix (a.drop p) (b.drop p) = s := ⟨_, rfl⟩
  unfold lcsRawWith at h
  simp only [hp, hs] at h
  have ⟨p1, p3⟩ := commonPrefix_spec a b
  rw [hp] at p1 p3
  have ⟨s1, s3⟩ := commonSuffix_spec (a.drop p) (b.drop p)
  rw [hs] at s1 s3
  split at h
  case h_1 => cases h
  case h_2 tr htr =>
    cases h
    refine ⟨a.take p, _, _, (a.drop p).drop ((a.drop p).length - s), _, tr, ?_, ?_, htr, ?_⟩
    · rw [List.append_assoc, List.take_append_drop, List.take_append_drop]
    · rw [s3, p3, List.append_assoc, List.take_append_drop,
        List.take_append_drop]
    · rw [List.length_take_of_le p1, List.length_drop, Nat.sub_sub_self s1]

theorem lcsRawWith_valid (raw : List α → List α → Option (Nat × Nat × Nat)) (a b : List α)
    (t : List Chunk) (h : lcsRawWith raw a b = some t) : Valid t a b := by
  obtain ⟨P, A, B, S, fuel, tr, rfl, rfl, htr, rfl⟩ := lcsRawWith_some raw a b t h
  exact valid_append (valid_append (valid_snake _ P rfl)
    (traceWith_valid _ _ _ _ _ htr)) (valid_snake _ S rfl)

theorem lcsWith_valid (raw : List α → List α → Option (Nat × Nat × Nat)) (a b : List α)
    (t : List Chunk) (h : lcsWith raw a b = some t) : Valid t a b := by
  obtain ⟨t0, hr, rfl⟩ := Option.map_eq_some_iff.mp h
  exact valid_optimize _ _ _ (lcsRawWith_valid raw a b t0 hr)

open scoped List

theorem lcsRec_nil_left (b : List α) : lcsRec [] b = 0 := by
  rw [lcsRec]

theorem lcsRec_nil_right (a : List α) : lcsRec a [] = 0 := by
  cases a <;> simp [lcsRec]

theorem lcsRec_upper (a b s : List α) (ha : s <+ a) (hb : s <+ b) : s.length ≤ lcsRec a b := by
  fun_induction lcsRec a b generalizing s with
  | case1 b => simp_all
  | case2 x a => simp_all
  | case3 a x b ih =>
    cases s with
    | nil => simp
    | cons z s =>
      have := ih s ha.of_cons_cons hb.of_cons_cons
      simp; omega
  | case4 x a y b hxy ih1 ih2 =>
    rcases List.sublist_cons_iff.mp ha with h | ⟨r, e, h⟩
    · have := ih1 s h hb
      omega
    · subst e
      rcases List.sublist_cons_iff.mp hb with h' | ⟨r', e', h'⟩
      · have := ih2 _ ha h'
        omega
      · cases e'; exact absurd rfl hxy

theorem lcsRec_witness (a b : List α) : ∃ s, s <+ a ∧ s <+ b ∧ s.length = lcsRec a b := by
  fun_induction lcsRec a b with
  | case1 b => exact ⟨[], by simp⟩
  | case2 x a => exact ⟨[], by simp⟩
  | case3 a x b ih =>
    obtain ⟨s, h1, h2, h3⟩ := ih
    exact ⟨x :: s, List.cons_sublist_cons.mpr h1, List.cons_sublist_cons.mpr h2, by simp [h3]⟩
  | case4 x a y b hxy ih1 ih2 =>
    obtain ⟨s1, h1, h2, h3⟩ := ih1
    obtain ⟨s2, g1, g2, g3⟩ := ih2
    by_cases hle : lcsRec a (y :: b) ≤ lcsRec (x :: a) b
    · exact ⟨s2, g1, g2.cons y, by omega⟩
    · exact ⟨s1, h1.cons x, h2, by omega⟩

/-- the row of the table that belongs to `a`: `L(a, b.drop j)` for `j = 0..|b|` -/
def rowOf (a : List α) : List α → List Nat
  | [] => [lcsRec a []]
  | y :: ys => lcsRec a (y :: ys) :: rowOf a ys

theorem rowOf_headD (a b : List α) : (rowOf a b).headD 0 = lcsRec a b := by
  cases b <;> simp [rowOf]

theorem rowOf_nil (b : List α) : rowOf ([] : List α) b = List.replicate (b.length + 1) 0 := by
  induction b with
  | nil => simp [rowOf, lcsRec_nil_left]
  | cons y ys ih => simp [rowOf, lcsRec_nil_left, ih, List.replicate_succ]

theorem dpRow_rowOf (x : α) (a b : List α) : dpRow x b (rowOf a b) = rowOf (x :: a) b := by
  induction b with
  | nil => simp [dpRow, rowOf, lcsRec_nil_right]
  | cons y ys ih =>
    simp only [dpRow, rowOf, List.tail_cons, ih, rowOf_headD, List.headD_cons]
    congr 1
    rw [lcsRec]

theorem dpTable_eq (a b : List α) : dpTable a b = rowOf a b := by
  induction a with
  | nil => simp [dpTable, rowOf_nil]
  | cons x a ih => simp [dpTable, ih, dpRow_rowOf]

theorem dpLcs_eq (a b : List α) : dpLcs a b = lcsRec a b := by
  rw [dpLcs, dpTable_eq, rowOf_headD]

omit [DecidableEq α] in
theorem applyEdits_common (es : List (Edit α)) (a b : List α) (h : applyEdits es a = some b) :
    ∃ s, s <+ a ∧ s <+ b ∧ a.length + b.length = editCost es + 2 * s.length := by
  fun_induction applyEdits es a generalizing b with
  | case1 => cases h; exact ⟨[], by simp [editCost]⟩
  | case2 | case4 | case7 => cases h
  | case3 n es a hn ih =>
    obtain ⟨s, h1, h2, h3⟩ := ih b h
    refine ⟨s, h1.trans (List.drop_sublist n a), h2, ?_⟩
    simp only [List.length_drop] at h3
    simp only [editCost]; omega
  | case5 l es a ih =>
    obtain ⟨b', hr, rfl⟩ := Option.map_eq_some_iff.mp h
    obtain ⟨s, h1, h2, h3⟩ := ih b' hr
    refine ⟨s, h1, h2.trans (List.sublist_append_right l b'), ?_⟩
    simp only [editCost, List.length_append]; omega
  | case6 n es a hn ih =>
    obtain ⟨b', hr, rfl⟩ := Option.map_eq_some_iff.mp h
    obtain ⟨s, h1, h2, h3⟩ := ih b' hr
    refine ⟨a.take n ++ s, ?_, (List.Sublist.refl _).append h2, ?_⟩
    · simpa using (List.Sublist.refl (a.take n)).append h1
    · simp only [List.length_drop] at h3
      simp only [editCost, List.length_append, List.length_take]
      omega

theorem editCost_lower (es : List (Edit α)) (a b : List α) (h : applyEdits es a = some b) :
    a.length + b.length ≤ editCost es + 2 * lcsRec a b := by
  obtain ⟨s, h1, h2, h3⟩ := applyEdits_common es a b h
  have := lcsRec_upper a b s h1 h2
  omega

def eqTotal : List Chunk → Nat
  | [] => 0
  | c :: cs => c.eq + eqTotal cs

theorem eqTotal_append (t1 t2 : List Chunk) : eqTotal (t1 ++ t2) = eqTotal t1 + eqTotal t2 := by
  induction t1 with
  | nil => simp [eqTotal]
  | cons c cs ih => simp [eqTotal, ih]; omega

theorem scriptCost_append (t1 t2 : List Chunk) :
    scriptCost (t1 ++ t2) = scriptCost t1 + scriptCost t2 := by
  induction t1 with
  | nil => simp [scriptCost]
  | cons c cs ih => simp [scriptCost, ih]; omega

omit [DecidableEq α] in
theorem valid_lengths (cs : List Chunk) (a b : List α) (h : Valid cs a b) :
    a.length + b.length = scriptCost cs + 2 * eqTotal cs := by
  refine h.ind ?_ fun D I E cs a b _ ih => ?_
  · simp [scriptCost, eqTotal]
  · simp only [scriptCost, eqTotal, List.length_append]; omega

theorem mergeInto_eqTotal (cur : Chunk) (cs : List Chunk) :
    eqTotal (mergeInto cur cs) = eqTotal (cur :: cs) := by
  fun_induction mergeInto cur cs with
  | case1 => rfl
  | case2 cur c cs m hm ih =>
    obtain ⟨_, rfl⟩ := merge_eq_some.mp hm
    simp only [eqTotal] at ih ⊢
    omega
  | case3 cur c cs _ ih => exact congrArg (cur.eq + ·) ih

theorem optimize_eqTotal (cs : List Chunk) : eqTotal (optimize cs) = eqTotal cs := by
  cases cs with
  | nil => rfl
  | cons c cs => exact mergeInto_eqTotal c cs

theorem lcsRec_le_iff {a b : List α} {n : Nat} :
    lcsRec a b ≤ n ↔ ∀ s, s <+ a → s <+ b → s.length ≤ n :=
  ⟨fun h s h1 h2 => Nat.le_trans (lcsRec_upper a b s h1 h2) h,
    fun h => let ⟨s, h1, h2, h3⟩ := lcsRec_witness a b; h3 ▸ h s h1 h2⟩

theorem lcsRec_le_left (a b : List α) : lcsRec a b ≤ a.length :=
  lcsRec_le_iff.mpr fun _ h1 _ => h1.length_le

theorem lcsRec_comm (a b : List α) : lcsRec a b = lcsRec b a :=
  Nat.le_antisymm (lcsRec_le_iff.mpr fun s h1 h2 => lcsRec_upper b a s h2 h1)
    (lcsRec_le_iff.mpr fun s h1 h2 => lcsRec_upper a b s h2 h1)

theorem lcsRec_single (x : α) (b : List α) :
    lcsRec [x] b = if (findFirst x b).isSome then 1 else 0 := by
  fun_induction findFirst x b with
  | case1 => exact lcsRec_nil_right [x]
  | case2 ys => simp [lcsRec]
  | case3 y ys hy ih => simp [lcsRec, Ne.symm hy, ih]

theorem lcsRec_le_right (a b : List α) : lcsRec a b ≤ b.length :=
  lcsRec_comm a b ▸ lcsRec_le_left b a

theorem lcsRec_reverse_le (a b : List α) : lcsRec a.reverse b.reverse ≤ lcsRec a b :=
  lcsRec_le_iff.mpr fun s h1 h2 => List.length_reverse ▸ lcsRec_upper a b s.reverse
    (List.reverse_reverse a ▸ List.reverse_sublist.mpr h1)
    (List.reverse_reverse b ▸ List.reverse_sublist.mpr h2)

theorem lcsRec_reverse (a b : List α) : lcsRec a.reverse b.reverse = lcsRec a b := by
  apply Nat.le_antisymm (lcsRec_reverse_le a b)
  have := lcsRec_reverse_le a.reverse b.reverse
  simpa using this

theorem lcsRec_prefix (k a b : List α) : lcsRec (k ++ a) (k ++ b) = k.length + lcsRec a b := by
  induction k with
  | nil => simp
  | cons x k ih =>
    simp only [List.cons_append, List.length_cons]
    rw [lcsRec]
    simp [ih]; omega

theorem lcsRec_suffix (k a b : List α) : lcsRec (a ++ k) (b ++ k) = lcsRec a b + k.length := by
  rw [← lcsRec_reverse (a ++ k) (b ++ k), List.reverse_append, List.reverse_append, lcsRec_prefix,
    lcsRec_reverse]
  simp; omega

/-- The assumption on the split-point oracle: the point it returns, followed by the snake that
`trace` re-checks, lies on an optimal path. Decidable per instance (`midVerdict` in the driver). -/
def OptimalSplit (raw : List α → List α → Option (Nat × Nat × Nat)) : Prop :=
  ∀ a b ai bi mx, raw a b = some (ai, bi, mx) → ai ≤ a.length → bi ≤ b.length →
    lcsRec (a.take ai) (b.take bi) + snakeLen mx (a.drop ai) (b.drop bi) +
      lcsRec (a.drop (ai + snakeLen mx (a.drop ai) (b.drop bi)))
        (b.drop (bi + snakeLen mx (a.drop ai) (b.drop bi))) = lcsRec a b

theorem eqTotal_snake (n : Nat) : eqTotal (if n > 0 then [⟨0, 0, n⟩] else []) = n := by
  split
  · simp [eqTotal]
  · simp only [eqTotal]; omega

theorem traceWith_eqTotal (raw : List α → List α → Option (Nat × Nat × Nat)) (hraw : OptimalSplit raw)
    (fuel : Nat) (a b : List α) (t : List Chunk) (h : traceWith raw fuel a b = some t) :
    eqTotal t = lcsRec a b := by
  -- cases as in `traceWith_valid`
  fun_induction traceWith raw fuel a b generalizing t with
  | case1 | case8 | case9 | case10 | case11 | case12 => cases h
  | case2 => cases h; simp [eqTotal, lcsRec_nil_left]
  | case3 => cases h; simp [eqTotal, lcsRec_nil_right]
  | case4 _ x b _ i hf => cases h; simp [eqTotal, lcsRec_single, hf]
  | case5 _ x b _ hf => cases h; simp [eqTotal, lcsRec_single, hf]
  | case6 _ a y _ _ i hf => cases h; simp [eqTotal, lcsRec_comm a, lcsRec_single, hf]
  | case7 _ a y _ _ hf => cases h; simp [eqTotal, lcsRec_comm a, lcsRec_single, hf]
  | case13 _ a b _ _ _ _ ai bi mx hr h1 _ snake l hl r hr' ihl ihr =>
    cases h
    rw [eqTotal_append, eqTotal_append, eqTotal_snake, ihl l hl, ihr r hr',
      ← hraw a b ai bi mx hr (by omega) (by omega)]

theorem lcsRawWith_eqTotal (raw : List α → List α → Option (Nat × Nat × Nat)) (hraw : OptimalSplit raw)
    (a b : List α) (t : List Chunk) (h : lcsRawWith raw a b = some t) :
    eqTotal t = lcsRec a b := by
  obtain ⟨P, A, B, S, fuel, tr, rfl, rfl, htr, rfl⟩ := lcsRawWith_some raw a b t h
  rw [eqTotal_append, eqTotal_append, eqTotal_snake, eqTotal_snake,
    traceWith_eqTotal raw hraw _ _ _ _ htr, List.append_assoc, List.append_assoc, lcsRec_prefix,
    lcsRec_suffix, Nat.add_assoc]

theorem lcsWith_minimal (raw : List α → List α → Option (Nat × Nat × Nat)) (hraw : OptimalSplit raw)
    (a b : List α) (t : List Chunk) (h : lcsWith raw a b = some t) :
    scriptCost t + 2 * lcsRec a b = a.length + b.length := by
  have hlen := valid_lengths t a b (lcsWith_valid raw a b t h)
  obtain ⟨t0, hr, rfl⟩ := Option.map_eq_some_iff.mp h
  rw [optimize_eqTotal, lcsRawWith_eqTotal raw hraw a b t0 hr] at hlen
  exact hlen.symm

end TmVerif.Diff
