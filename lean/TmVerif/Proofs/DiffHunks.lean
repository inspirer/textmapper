import TmVerif.Proofs.Diff
/-!
`LineDiff` renders nothing only for equal texts: a valid script between different line sequences has
a chunk that changes something, that chunk makes the loop's current hunk non-empty, and a non-empty
hunk is written at the latest with the last chunk.
-/
namespace TmVerif.Diff

theorem splitLines_ne_nil (t : List Char) : splitLines t ≠ [] := by
  -- every row returns a cons
  fun_cases splitLines t <;> simp [*]

theorem joinLines_cons_cons (c : Char) (l : Line) (ls : List Line) :
    joinLines ((c :: l) :: ls) = c :: joinLines (l :: ls) := by
  cases ls <;> simp [joinLines]

theorem joinLines_splitLines (t : List Char) : joinLines (splitLines t) = t := by
  fun_induction splitLines t with
  | case1 => rfl
  -- a newline: an empty line in front of the lines of the rest
  | case2 cs ih =>
    obtain ⟨l, ls, hs⟩ := List.exists_cons_of_ne_nil (splitLines_ne_nil cs)
    rw [hs] at ih ⊢
    simp [joinLines, ih]
  -- another character joins the first line of the rest (3: there is none)
  | case3 c cs _ hs => exact absurd hs (splitLines_ne_nil cs)
  | case4 c cs _ l ls hs ih => rw [joinLines_cons_cons, ← hs, ih]

theorem splitLines_injective (s t : List Char) (h : splitLines s = splitLines t) : s = t := by
  rw [← joinLines_splitLines s, ← joinLines_splitLines t, h]

theorem renderHunk_ne_nil (h : Hunk) : renderHunk h ≠ [] := by
  simp [renderHunk, hunkLines]

theorem renderHunks_eq_nil (hs : List Hunk) : renderHunks hs = [] ↔ hs = [] := by
  cases hs with
  | nil => simp [renderHunks]
  | cons h hs => simp [renderHunks, renderHunk_ne_nil]

theorem addPlain_left (h : Hunk) (c : Char) (ls : List Line) :
    (h.addPlain c ls).leftSize = h.leftSize + (if c ≠ '+' then ls.length else 0) := rfl

theorem addPlain_right (h : Hunk) (c : Char) (ls : List Line) :
    (h.addPlain c ls).rightSize = h.rightSize + (if c ≠ '-' then ls.length else 0) := rfl

/-- `hunk.add` counts every line it is given (and, when it elides, the marker line as well) -/
theorem add_sizes_ge (h : Hunk) (c : Char) (ls : List Line) :
    h.leftSize + (if c ≠ '+' then ls.length else 0) ≤ (h.add c ls).leftSize ∧
      h.rightSize + (if c ≠ '-' then ls.length else 0) ≤ (h.add c ls).rightSize := by
  unfold Hunk.add
  by_cases hl : ls.length > 14
  · simp only [hl, if_true, addPlain_left, addPlain_right, List.length_take, List.length_drop,
      List.length_singleton]
    constructor <;> split <;> omega
  · rw [if_neg hl]
    exact ⟨Nat.le_refl _, Nat.le_refl _⟩

/-- the hunk is not "empty" in the sense of `writeTo` -/
abbrev Hunk.NonEmpty (h : Hunk) : Prop := h.leftSize ≠ 0 ∨ h.rightSize ≠ 0

theorem add_nonEmpty (h : Hunk) (c : Char) (ls : List Line) (hn : h.NonEmpty ∨ ls ≠ []) :
    (h.add c ls).NonEmpty := by
  obtain ⟨h1, h2⟩ := add_sizes_ge h c ls
  have hn := hn.imp_right List.length_pos_iff.mpr
  have hc : c ≠ '+' ∨ c ≠ '-' := by
    by_cases e : c = '+'
    · exact Or.inr (by rw [e]; decide)
    · exact Or.inl e
  rcases hc with hc | hc <;> simp only [hc, if_true, ne_eq, not_false_eq_true] at h1 h2 <;> omega

theorem writeHunk_ne_nil (out : List Hunk) (h : Hunk) (hp : out ≠ [] ∨ h.NonEmpty) :
    writeHunk out h ≠ [] := by
  unfold writeHunk
  split
  case isTrue hz =>
    rcases hp with hp | hp
    · exact hp
    · omega
  case isFalse => simp

theorem slice_length {β : Type} (l : List β) (i n : Nat) (h : n ≤ (l.drop i).length) :
    (slice l i (i + n)).length = n := by
  unfold slice
  simp only [List.length_take, List.length_drop] at h ⊢
  omega

/-- something was written already, or will be: the current hunk is not empty -/
def LDState.Progress (st : LDState) : Prop := st.out ≠ [] ∨ st.h.NonEmpty

abbrev Chunk.Changes (c : Chunk) : Prop := 0 < c.del + c.ins

def afterChanges (a b : List Line) (st : LDState) (c : Chunk) : Hunk :=
  (st.h.add '-' (slice a st.ai (st.ai + c.del))).add '+' (slice b st.bi (st.bi + c.ins))

theorem slice_ne_nil {β : Type} (l : List β) (i n : Nat) (h : n ≤ (l.drop i).length) (hn : 0 < n) :
    slice l i (i + n) ≠ [] := by
  intro e
  have := slice_length l i n h
  rw [e] at this
  exact absurd this.symm (Nat.ne_of_gt hn)

theorem afterChanges_nonEmpty (a b : List Line) (st : LDState) (c : Chunk)
    (hd : c.del ≤ (a.drop st.ai).length) (hi : c.ins ≤ (b.drop st.bi).length)
    (h : st.h.NonEmpty ∨ c.Changes) : (afterChanges a b st c).NonEmpty := by
  unfold afterChanges
  rcases h with h | h
  · exact add_nonEmpty _ _ _ (Or.inl (add_nonEmpty _ _ _ (Or.inl h)))
  · by_cases hdel : 0 < c.del
    · exact add_nonEmpty _ _ _ (Or.inl (add_nonEmpty _ _ _ (Or.inr (slice_ne_nil a _ _ hd hdel))))
    · exact add_nonEmpty _ _ _ (Or.inr (slice_ne_nil b _ _ hi (by omega)))

/-- The four branches of `ldStep`, for proofs by cases: the leading run of equal lines, a long run of equal lines (the
current hunk is written and a new one started), the last chunk, and any other. The positions, which lines of `a` become
context and the line numbers of a new hunk are left open: the invariants proved this way do not read them. -/
theorem ldStep_elim (a b : List Line) (st : LDState) (c : Chunk) (first last : Bool)
    (P : LDState → Prop)
    (lead : first = true → c.del = 0 → c.ins = 0 → ∀ ai bi L R i j,
      P { out := st.out, ai, bi, h :=
        ({ afterChanges a b st c with leftLine := L, rightLine := R } : Hunk).add ' ' (slice a i j) })
    (long : ∀ ai bi i j L R i' j',
      P { out := writeHunk st.out ((afterChanges a b st c).add ' ' (slice a i j)), ai, bi,
          h := ({ leftLine := L, rightLine := R } : Hunk).add ' ' (slice a i' j') })
    (fin : ∀ ai bi i j,
      P { out := writeHunk st.out ((afterChanges a b st c).add ' ' (slice a i j)), ai, bi,
          h := (afterChanges a b st c).add ' ' (slice a i j) })
    (mid : last = false → ∀ ai bi i j,
      P { out := st.out, ai, bi, h := (afterChanges a b st c).add ' ' (slice a i j) }) :
    P (ldStep a b st c first last) := by
  unfold ldStep
  by_cases h1 : first = true ∧ c.del = 0 ∧ c.ins = 0 ∧ c.eq > 3
  · rw [if_pos h1]; exact lead h1.1 h1.2.1 h1.2.2.1 _ _ _ _ _ _
  · rw [if_neg h1]
    by_cases h6 : c.eq > 6
    · rw [if_pos h6]; exact long _ _ _ _ _ _ _ _
    · rw [if_neg h6]
      cases last with
      | true => exact fin _ _ _ _
      | false => exact mid rfl _ _ _ _

/-- every branch of `ldStep` moves on by the chunk; here in the form in which `Valid` drops it -/
theorem ldStep_pos (a b : List Line) (st : LDState) (c : Chunk) (f l : Bool) :
    (ldStep a b st c f l).ai = st.ai + (c.del + c.eq) ∧
      (ldStep a b st c f l).bi = st.bi + (c.ins + c.eq) := by
  simp only [ldStep, apply_ite LDState.ai, apply_ite LDState.bi, ite_self]
  omega

theorem ldStep_progress (a b : List Line) (st : LDState) (c : Chunk) (first last : Bool)
    (hd : c.del ≤ (a.drop st.ai).length) (hi : c.ins ≤ (b.drop st.bi).length)
    (hf : first = true → st = {})
    (h : st.Progress ∨ c.Changes) :
    (ldStep a b st c first last).Progress ∧
      (last = true → (ldStep a b st c first last).out ≠ []) := by
  have hne : ∀ ls, st.out ≠ [] ∨ ((afterChanges a b st c).add ' ' ls).NonEmpty := fun ls =>
    (or_assoc.mp h).imp_right fun h =>
      add_nonEmpty _ _ _ (Or.inl (afterChanges_nonEmpty a b st c hd hi h))
  -- both branches that write the current hunk
  have hwr : ∀ ls ai bi h', (fun s : LDState => s.Progress ∧ (last = true → s.out ≠ []))
      { out := writeHunk st.out ((afterChanges a b st c).add ' ' ls), ai := ai, bi := bi, h := h' } :=
    fun ls _ _ _ =>
      have hw := writeHunk_ne_nil _ _ (hne ls)
      ⟨Or.inl hw, fun _ => hw⟩
  apply ldStep_elim a b st c first last (fun s => s.Progress ∧ (last = true → s.out ≠ []))
  case lead =>
    -- it changes nothing, and on the first chunk nothing was written before
    intro hfirst hdel hins
    obtain rfl := hf hfirst
    rcases h with (h | h) | h
    · exact absurd rfl h
    · simp at h
    · exact absurd h (by omega)
  case long => exact fun _ _ _ _ _ _ _ _ => hwr _ _ _ _
  case fin => exact fun _ _ _ _ => hwr _ _ _ _
  case mid => exact fun hl _ _ _ _ => ⟨hne _, fun hl' => absurd (hl'.symm.trans hl) (by decide)⟩

theorem ldLoop_out_ne_nil (a b : List Line) (cs : List Chunk) (st : LDState) (first : Bool)
    (hcs : cs ≠ []) (hv : Valid cs (a.drop st.ai) (b.drop st.bi))
    (hf : first = true → st = {})
    (h : st.Progress ∨ ∃ c ∈ cs, c.Changes) :
    (ldLoop a b st first cs).out ≠ [] := by
  induction cs generalizing st first with
  | nil => exact absurd rfl hcs
  | cons c cs ih =>
    obtain ⟨p1, p2, _, p4⟩ := hv
    have hd : c.del ≤ (a.drop st.ai).length := by omega
    have hi : c.ins ≤ (b.drop st.bi).length := by omega
    have hh : (st.Progress ∨ c.Changes) ∨ ∃ c' ∈ cs, c'.Changes := by
      simpa only [List.mem_cons, exists_eq_or_imp, or_assoc] using h
    have hstep := ldStep_progress a b st c first cs.isEmpty hd hi hf
    rw [ldLoop]
    by_cases hcs' : cs = []
    · subst hcs'
      rcases hh with hh | ⟨_, hc', _⟩
      · exact (hstep hh).2 rfl
      · cases hc'
    · refine ih _ false hcs' ?_ (fun hx => by cases hx) (hh.imp_left fun hh => (hstep hh).1)
      have ⟨e1, e2⟩ := ldStep_pos a b st c first cs.isEmpty
      simpa only [e1, e2, List.drop_drop] using p4

theorem valid_changes (cs : List Chunk) (a b : List Line) (hv : Valid cs a b) (hne : a ≠ b) :
    ∃ c ∈ cs, c.Changes := by
  revert hne
  refine hv.ind (fun hne => absurd rfl hne) fun D I E cs a b _ ih hne => ?_
  by_cases hc : 0 < D.length + I.length
  · exact ⟨_, List.mem_cons_self .., hc⟩
  · obtain rfl : D = [] := List.eq_nil_of_length_eq_zero (by omega)
    obtain rfl : I = [] := List.eq_nil_of_length_eq_zero (by omega)
    obtain ⟨c', h1, h2⟩ := ih (fun e => hne (by rw [e]))
    exact ⟨c', by simp [h1], h2⟩

theorem hunksOfChunks_ne_nil (a b : List Line) (cs : List Chunk) (hv : Valid cs a b) (hne : a ≠ b) :
    hunksOfChunks a b cs ≠ [] := by
  obtain ⟨c, hc, hch⟩ := valid_changes cs a b hv hne
  unfold hunksOfChunks
  exact ldLoop_out_ne_nil a b cs {} true (List.ne_nil_of_mem hc) (by simpa using hv) (fun _ => rfl)
    (Or.inr ⟨c, hc, hch⟩)

theorem lineDiffHunks_cases (left right : List Char) (hs : List Hunk)
    (h : lineDiffHunks left right = some hs) :
    (left = right ∧ hs = []) ∨ (left ≠ right ∧ ∃ cs,
      lcs (splitLines left) (splitLines right) = some cs ∧
        hunksOfChunks (splitLines left) (splitLines right) cs = hs) := by
  unfold lineDiffHunks at h
  by_cases he : left = right
  · rw [if_pos he] at h
    exact Or.inl ⟨he, (Option.some.inj h).symm⟩
  · rw [if_neg he] at h
    exact Or.inr ⟨he, Option.map_eq_some_iff.mp h⟩

theorem lineDiff_nil_iff (left right : List Char) : lineDiff left right = some [] ↔ left = right := by
  constructor
  · intro h
    obtain ⟨hs, hh, e⟩ := Option.map_eq_some_iff.mp h
    obtain rfl := (renderHunks_eq_nil hs).mp e
    rcases lineDiffHunks_cases left right [] hh with ⟨he, _⟩ | ⟨he, cs, hl, e⟩
    · exact he
    · exact absurd e (hunksOfChunks_ne_nil _ _ cs (lcsWith_valid _ _ _ _ hl)
        fun e => he (splitLines_injective _ _ e))
  · intro h
    simp [lineDiff, lineDiffHunks, h, renderHunks]

end TmVerif.Diff
