import TmVerif.Model.CFG
/-! Induction over `CFG.Derives`/`DerivesSeq` with both motives in one statement, its first corollaries, and
what a derivation from a given symbol or non-empty string of symbols consists of. -/
namespace TmVerif.CFG

/-- Induction over derivations of symbols (`P`) and of symbol strings (`Q`) together. -/
theorem Derives.ind {g : Grammar} {P : Nat → List Nat → Prop} {Q : List Nat → List Nat → Prop}
    (term : ∀ a, a < g.nTerms → P a [a])
    (rule : ∀ r w, r ∈ g.rules.toList → DerivesSeq g r.rhs w → Q r.rhs w → P r.lhs w)
    (nil : Q [] [])
    (cons : ∀ X α u v, Derives g X u → DerivesSeq g α v → P X u → Q α v → Q (X :: α) (u ++ v)) :
    (∀ {X w}, Derives g X w → P X w) ∧ ∀ {α w}, DerivesSeq g α w → Q α w :=
  ⟨fun h => h.rec (motive_1 := fun X w _ => P X w) (motive_2 := fun α w _ => Q α w) term rule nil cons,
   fun h => h.rec (motive_1 := fun X w _ => P X w) (motive_2 := fun α w _ => Q α w) term rule nil cons⟩

theorem Derives.nil_closed {g : Grammar} {N : Nat → Prop}
    (hcl : ∀ r ∈ g.rules.toList, (∀ s ∈ r.rhs, N s) → N r.lhs) :
    (∀ {X w}, Derives g X w → w = [] → N X) ∧ ∀ {α w}, DerivesSeq g α w → w = [] → ∀ s ∈ α, N s :=
  Derives.ind (fun _ _ e => nomatch e) (fun r _ hm _ ih e => hcl r hm (ih e)) (fun _ _ hs => nomatch hs)
    fun _ _ _ _ _ _ ihX ihα e => List.forall_mem_cons.2
      ⟨ihX (List.append_eq_nil_iff.1 e).1, ihα (List.append_eq_nil_iff.1 e).2⟩

theorem derives_terms {g : Grammar} :
    (∀ {X : Nat} {u : List Nat}, Derives g X u → ∀ a ∈ u, a < g.nTerms) ∧
      ∀ {α : List Nat} {u : List Nat}, DerivesSeq g α u → ∀ a ∈ u, a < g.nTerms :=
  Derives.ind
    (term := fun a ha b hb => by
      simp only [List.mem_singleton] at hb
      rw [hb]; exact ha)
    (rule := fun _ _ _ _ ih => ih)
    (nil := fun _ hb => nomatch hb)
    (cons := fun _ _ _ _ _ _ ihX ihα b hb => (List.mem_append.mp hb).elim (ihX b) (ihα b))

theorem derives_inv {g : Grammar} {X : Nat} {w : List Nat} (h : Derives g X w) :
    (X < g.nTerms ∧ w = [X]) ∨
    ∃ r, r ∈ g.rules.toList ∧ r.lhs = X ∧ DerivesSeq g r.rhs w := by
  cases h with
  | term a ha => exact Or.inl ⟨ha, rfl⟩
  | rule r w hm hs => exact Or.inr ⟨r, hm, rfl, hs⟩

theorem derivesSeq_cons_inv {g : Grammar} {X : Nat} {α w : List Nat}
    (h : DerivesSeq g (X :: α) w) : ∃ u v, w = u ++ v ∧ Derives g X u ∧ DerivesSeq g α v := by
  generalize hb : X :: α = β at h
  cases h with
  | nil => cases hb
  | cons X' α' u v hX hα =>
    injection hb with h1 h2
    subst h1 h2
    exact ⟨u, v, rfl, hX, hα⟩

end TmVerif.CFG
