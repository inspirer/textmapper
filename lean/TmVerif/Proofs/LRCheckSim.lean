/-
The run of the default encoding of `t` against the run of another table set `T'` whose states are the
images of the states of `t` under a map `m`: if corresponding cells decode to corresponding actions
and corresponding gotos exist (`SimHyp`), the two runs proceed in lock step (`runLoop_sim`), up to
the moment at which the lookahead token is fetched. C05 (`m = id`, `T'` the displacement encoding of
`t`) and C06 (`m` the certificate's relation, `T'` the minimized tables) are instances.
-/
import TmVerif.Proofs.LRCheckObs
namespace TmVerif.LRCheck
open TmVerif.LR

-- the tables read through the default / the displacement encoding
set_option quotPrecheck false in
scoped notation "D[" t "]" => ({ t with optimized := false } : Tables)
set_option quotPrecheck false in
scoped notation "O[" t "]" => ({ t with optimized := true } : Tables)

/-- The lookahead token and the lexer position, both after a forced fetch (so that a run that has fetched
and one that has not compare equal). -/
def Core (inp : Input) (c : Cfg) : Option Tok × Nat := ((c.fetch inp).1.next, (c.fetch inp).1.pos)

theorem core_fetch (inp : Input) (c : Cfg) : Core inp (c.fetch inp).1 = Core inp c := by
  unfold Core; rw [fetch_idem]

theorem core_upd (inp : Input) (c : Cfg) (stk : List Entry) (q : Int) (evs : List Ev) :
    Core inp { c with stack := stk, state := q, evs := evs } = Core inp c := by
  unfold Core; rw [fetch_upd]

theorem core_tok {inp : Input} {c c' : Cfg} (h : Core inp c = Core inp c') :
    (c.fetch inp).2 = (c'.fetch inp).2 := by
  have := congrArg Prod.fst h
  unfold Core at this
  rw [fetch_next, fetch_next] at this
  exact Option.some.inj this

theorem core_shift {inp : Input} {c c' : Cfg} {tk : Tok} (h : Core inp c = Core inp c')
    (hn : c.next = some tk) (hn' : c'.next = some tk) (e e' : Entry) (q q' : Int) (ev ev' : Ev) :
    Core inp { c with stack := e :: c.stack, state := q, evs := ev :: c.evs,
                      next := if tk.sym ≠ 0 then none else some tk } =
    Core inp { c' with stack := e' :: c'.stack, state := q', evs := ev' :: c'.evs,
                       next := if tk.sym ≠ 0 then none else some tk } := by
  unfold Core at h
  rw [fetch_some hn, fetch_some hn'] at h
  have hpos : c.pos = c'.pos := congrArg Prod.snd h
  unfold Core Cfg.fetch
  simp only [hpos]
  split <;> rfl

/-- `stk` (top first) is a path of the goto graph of `t` through states satisfying `G` -/
def Path (t : Tables) (G : Int → Prop) : List Entry → Prop
  | [] => True
  | e :: rest =>
    G e.state ∧
    (match rest with
     | [] => True
     | e' :: _ => 0 ≤ e.sym ∧ e.sym < (t.nSyms : Int) ∧ gotoDefault t e'.state e.sym = some e.state) ∧
    Path t G rest

theorem Path.drop {t : Tables} {G : Int → Prop} : ∀ (n : Nat) {stk : List Entry}, Path t G stk →
    Path t G (stk.drop n)
  | 0, _, h => h
  | _ + 1, [], h => h
  | n + 1, _ :: _, h => Path.drop n h.2.2

inductive TraceRel (RR : Int → Int → Prop) : List Ev → List Ev → Prop
  | nil : TraceRel RR [] []
  | shift {es es'} (s : Int) (o e : Nat) : TraceRel RR es es' →
      TraceRel RR (.shift s o e :: es) (.shift s o e :: es')
  | reduce {es es' r r'} (o e : Nat) : RR r r' → TraceRel RR es es' →
      TraceRel RR (.reduce r o e :: es) (.reduce r' o e :: es')

def mapEntry (m : Int → Int) (e : Entry) : Entry := { e with state := m e.state }

section
variable (t T' : Tables) (inp : Input)
  (m : Int → Int)                      -- state of `t` ↦ state of `T'`
  (RR : Int → Int → Prop)              -- corresponding rules
  (G : Int → Prop)                     -- what is kept about the states on the stack of the `t` run
  (Amiss Aerr : Prop)                  -- when the `t` run may stop alone: missing goto, error cell

/-- what two configurations in which the runs have stopped share -/
structure RelW (c c' : Cfg) : Prop where
  core : Core inp c = Core inp c'
  evs : TraceRel RR c.evs c'.evs

structure Rel (c c' : Cfg) : Prop extends RelW inp RR c c' where
  stack : c'.stack = c.stack.map (mapEntry m)
  state : c'.state = m c.state
  top : ∃ e rest, c.stack = e :: rest ∧ e.state = c.state
  path : Path t G c.stack
  /-- after a forced fetch, as in `Core`: so `Rel` is invariant under `fetch` (`Rel.of_fetched`) -/
  tok : 0 ≤ (c.fetch inp).2.sym ∧ (c.fetch inp).2.sym < (t.nTerms : Int)

inductive ActRel (p : Int) : Act → Act → Prop
  | shift {q q' : Int} : q' = m q → needsTok T' (m p) = some true → ActRel p (.shift q) (.shift q')
  | reduce {r r' : Int} : RR r r' → geti T'.ruleLen r' = geti t.ruleLen r →
      geti T'.ruleSymbol r' = geti t.ruleSymbol r → ActRel p (.reduce r) (.reduce r')
  | error : ActRel p .error .error

/-- the `t` run stopped with a syntax error in `c` while the `T'` run, in `cO`, goes on -/
def Abort (cO c : Cfg) : Prop := (c.state = -1 ∧ Amiss) ∨ (Aerr ∧ TraceRel RR c.evs cO.evs)

structure SimHyp : Prop where
  gStep : ∀ {p x q : Int}, G p → 0 ≤ x → x < (t.nSyms : Int) → gotoDefault t p x = some q → 0 ≤ q → G q
  gNonneg : ∀ {p}, G p → 0 ≤ p
  /-- a cell of `t` decodes, and the corresponding cell of `T'` to the corresponding action; under `Aerr` an
  error cell of `t` is exempt -/
  cell : ∀ (p a : Nat), G p → a < t.nTerms → ∃ x, (obsDefault t p a).toAct = some x ∧
    ((x = .error ∧ Aerr) ∨
      ∃ x', (∀ deep, actOf T' deep (m p) a = some x') ∧ ActRel t T' m RR p x x')
  /-- the goto a reduction of `r` in state `p` takes from the uncovered entry `top` -/
  goto : ∀ {stk : List Entry} {p a : Nat} {r ln lhs : Int} {top : Entry}, Path t G stk →
    (∃ e0 rest, stk = e0 :: rest ∧ e0.state = (p : Int)) → a < t.nTerms → obsDefault t p a = .reduce r →
    geti t.ruleLen r = some ln → geti t.ruleSymbol r = some lhs → (stk.drop ln.toNat).head? = some top →
    G top.state → (t.nTerms : Int) ≤ lhs → lhs < (t.nSyms : Int) →
    ∃ q, gotoDefault t top.state lhs = some q ∧
      ((q = -1 ∧ (gotoState T' (m top.state) lhs = some (-1) ∨ Amiss)) ∨
       (0 ≤ q ∧ gotoState T' (m top.state) lhs = some (m q) ∧ m q ≠ -1))

end

section
variable {t T' : Tables} {inp : Input} {m : Int → Int}
  {RR : Int → Int → Prop} {G : Int → Prop} {Amiss Aerr : Prop}

theorem Rel.of_fetched {c c' c1 c1' : Cfg} (h : Rel t inp m RR G c c')
    (h1 : c1 = c ∨ c1 = (c.fetch inp).1) (h1' : c1' = c' ∨ c1' = (c'.fetch inp).1) :
    Rel t inp m RR G c1 c1' := by
  obtain ⟨e1, e2, e3, e4⟩ := fetched_eq h1
  obtain ⟨e1', e2', e3', e4'⟩ := fetched_eq h1'
  refine ⟨⟨?_, ?_⟩, ?_, ?_, ?_, ?_, ?_⟩
  · unfold Core; rw [e4, e4']; exact h.core
  · rw [e3, e3']; exact h.evs
  · rw [e1, e1']; exact h.stack
  · rw [e2, e2']; exact h.state
  · rw [e1, e2]; exact h.top
  · rw [e1]; exact h.path
  · rw [e4]; exact h.tok

theorem redParts_rel {c c' : Cfg} (h : Rel t inp m RR G c c') (n : Nat) :
    Rel t inp m RR G (redParts inp c n).1 (redParts inp c' n).1 ∧
    (redParts inp c n).2 = (redParts inp c' n).2 := by
  unfold redParts
  by_cases hn : n = 0
  · rw [if_pos hn, if_pos hn]
    exact ⟨h.of_fetched (.inr rfl) (.inr rfl), by simp only [core_tok h.core]⟩
  · rw [if_neg hn, if_neg hn]
    refine ⟨h, ?_⟩
    simp only [h.stack, ← List.map_take, List.getLast?_map, List.head?_map, Option.map_map]
    rfl

theorem errorAt_rel {c c' : Cfg} (h : RelW inp RR c c') :
    (errorAt inp c).1 = (errorAt inp c').1 ∧ RelW inp RR (errorAt inp c).2 (errorAt inp c').2 := by
  unfold errorAt
  refine ⟨by simp only [core_tok h.core], ?_, ?_⟩
  · rw [core_fetch, core_fetch]; exact h.core
  · rw [fetch_evs, fetch_evs]; exact h.evs

theorem obs_of_toAct_reduce {o : Obs} {r : Int} (h : o.toAct = some (.reduce r)) : o = .reduce r := by
  cases o <;> simp [Obs.toAct] at h
  subst h; rfl

theorem Rel.good {c c' : Cfg} (hr : Rel t inp m RR G c c') : G c.state := by
  obtain ⟨e0, rest0, hstk, he0⟩ := hr.top
  rw [← he0]
  exact (hstk ▸ hr.path : Path t G (e0 :: rest0)).1

theorem Rel.init {i : Int} (hG : G i) (hm : m i = i) (hw : TablesFacts t) (hin : inputOk t inp = true) :
    Rel t inp m RR G (initCfg inp i) (initCfg inp i) :=
  ⟨⟨rfl, .nil⟩, by simp only [initCfg, List.map_cons, List.map_nil, mapEntry, hm], by simp only [initCfg, hm],
    ⟨_, _, rfl, rfl⟩, ⟨hG, trivial, trivial⟩, tok_in hin hw.nTermsPos 0⟩

variable (H : SimHyp t T' m RR G Amiss Aerr) (hw : TablesFacts t) (hin : inputOk t inp = true)
include H hw hin

omit hin in
theorem reduce_rel {c1 c1' : Cfg} (hr : Rel t inp m RR G c1 c1') (cO : Cfg) {p a : Nat}
    (hp : c1.state = (p : Int)) (ha : a < t.nTerms) {r r' : Int}
    (hobs : obsDefault t p a = .reduce r) (hRR : RR r r')
    (hlen : geti T'.ruleLen r' = geti t.ruleLen r) (hsym : geti T'.ruleSymbol r' = geti t.ruleSymbol r) :
    StepRel (Rel t inp m RR G) (RelW inp RR) (Abort RR Amiss Aerr cO)
      (apply D[t] inp c1 (.reduce r)) (apply T' inp c1' (.reduce r')) := by
  rw [apply_reduce, apply_reduce, hlen, hsym]
  cases hln : geti t.ruleLen r with
  | none => cases geti t.ruleSymbol r <;> exact .done _ hr.toRelW
  | some ln =>
  cases hlhs : geti t.ruleSymbol r with
  | none => exact .done _ hr.toRelW
  | some lhs =>
  show StepRel _ _ _ (reduceWith inp c1 r ln.toNat lhs (fun s => gotoDefault t s lhs))
    (reduceWith inp c1' r' ln.toNat lhs (fun s => gotoState T' s lhs))
  unfold reduceWith
  rw [show c1'.stack.length = c1.stack.length by rw [hr.stack, List.length_map]]
  by_cases hshort : ln.toNat > c1.stack.length
  · rw [if_pos hshort, if_pos hshort]
    exact .done _ hr.toRelW
  rw [if_neg hshort, if_neg hshort]
  obtain ⟨hP, hP2⟩ := redParts_rel hr ln.toNat
  have hstk : (redParts inp c1 ln.toNat).1.stack = c1.stack := redParts_stack _ _ _
  -- the pieces of the right run (`let P` of `reduceWith`, which `simp only` unfolds) as images of the
  -- left's: the popped stack under `mapEntry m`, the same range for the new entry
  simp only
  rw [hP.stack, ← List.map_drop, hstk, ← hP2]
  cases hdrop : c1.stack.drop ln.toNat with
  | nil => exact .done _ hP.toRelW
  | cons top rest =>
    have hpd : Path t G (top :: rest) := by rw [← hdrop]; exact hr.path.drop _
    obtain ⟨hl1, hl2⟩ := hw.ruleSym r lhs hlhs
    have hev := TraceRel.reduce (redParts inp c1 ln.toNat).2.1 (redParts inp c1 ln.toNat).2.2 hRR hP.evs
    have hcore := fun stk q evs stk' q' evs' =>
      (core_upd inp _ stk q evs).trans (hP.core.trans (core_upd inp _ stk' q' evs').symm)
    obtain ⟨q, hg, hq⟩ := H.goto hr.path (hp ▸ hr.top) ha hobs hln hlhs (by rw [hdrop]; rfl) hpd.1 hl1 hl2
    have hmS : (mapEntry m top).state = m top.state := rfl
    rcases hq with ⟨rfl, hg' | hA⟩ | ⟨hq, hg', hmq⟩
    · -- no goto in either table
      simp only [List.map_cons, hg, hmS, hg', if_true]
      exact .done _ ⟨hcore .., hev⟩
    · simp only [hg, if_true]
      exact .abort _ (.inl ⟨rfl, hA⟩)
    · have hq1 : q ≠ -1 := fun h => absurd (h ▸ hq) (by decide)
      have hl0 : 0 ≤ lhs := Int.le_trans (Int.natCast_nonneg _) hl1
      simp only [List.map_cons, hg, hmS, hg', hq1, hmq, if_false]
      exact .cont ⟨⟨hcore .., hev⟩, rfl, rfl, ⟨_, _, rfl, rfl⟩,
        ⟨H.gStep hpd.1 hl0 hl2 hg hq, ⟨hl0, hl2, hg⟩, hpd⟩, by rw [fetch_upd]; exact hP.tok⟩

theorem shift_rel {c1 c1' : Cfg} (hr : Rel t inp m RR G c1 c1') (cO : Cfg) {tk : Tok}
    (hn : c1.next = some tk) (hn' : c1'.next = some tk) {q : Int}
    (hg : gotoDefault t c1.state tk.sym = some q) (hq : 0 ≤ q) :
    StepRel (Rel t inp m RR G) (RelW inp RR) (Abort RR Amiss Aerr cO)
      (apply D[t] inp c1 (.shift q)) (apply T' inp c1' (.shift (m q))) := by
  have ht : 0 ≤ tk.sym ∧ tk.sym < (t.nTerms : Int) := by have := hr.tok; rwa [fetch_some hn] at this
  obtain ⟨e1, rest1, hstk1, he1⟩ := hr.top
  rw [apply, apply, hn, hn']
  refine .cont ⟨⟨core_shift hr.core hn hn' _ _ _ _ _ _, .shift _ _ _ hr.evs⟩, ?_, rfl,
    ⟨_, _, rfl, rfl⟩, ?_, ?_⟩
  · simp only [List.map_cons, hr.stack]; rfl
  · have hlt : tk.sym < (t.nSyms : Int) := Int.lt_of_lt_of_le ht.2 (Int.ofNat_le.2 hw.nTermsLe)
    have hp1 : Path t G (e1 :: rest1) := hstk1 ▸ hr.path
    rw [← he1] at hg
    simp only [hstk1]
    exact ⟨H.gStep hp1.1 ht.1 hlt hg hq, ⟨ht.1, hlt, hg⟩, hp1⟩
  · -- the next lookahead token: EOI stays, any other token is replaced by one from the input
    by_cases h0 : tk.sym ≠ 0
    · rw [fetch_none (if_pos h0)]; exact tok_in hin hw.nTermsPos _
    · rw [fetch_some (if_neg h0)]; exact ht

theorem step_rel {c c' : Cfg} (hr : Rel t inp m RR G c c') :
    StepRel (Rel t inp m RR G) (RelW inp RR) (Abort RR Amiss Aerr c')
      (step D[t] inp c) (step T' inp c') := by
  have hG := hr.good
  obtain ⟨ht0, ht1⟩ := hr.tok
  obtain ⟨p, hpE⟩ := Int.eq_ofNat_of_zero_le (H.gNonneg hG)
  obtain ⟨a, haE⟩ := Int.eq_ofNat_of_zero_le ht0
  have ha' : a < t.nTerms := Int.ofNat_lt.1 (haE ▸ ht1)
  obtain ⟨x, hx, hcell⟩ := H.cell p a (hpE ▸ hG) ha'
  obtain ⟨c1, hs, hc1, hc1n⟩ := step_of_act (t := D[t]) (inp := inp) (c := c) (x := x)
    (fun deep => by rw [hpE, haE]; exact actOf_of_obs hw hx deep)
  rw [hs]
  rcases hcell with ⟨rfl, hA⟩ | ⟨x', hx', hrel⟩
  · -- an error cell that the other table may answer differently
    rw [apply]
    exact .abort _ (.inr ⟨hA, (fetched_eq hc1).2.2.1 ▸ hr.evs⟩)
  obtain ⟨c1', hs', hc1', hc1n'⟩ := step_of_act (t := T') (inp := inp) (c := c') (x := x')
    (fun deep => by rw [hr.state, hpE, ← core_tok hr.core, haE]; exact hx' deep)
  rw [hs']
  have hr1 := hr.of_fetched hc1 hc1'
  cases hrel with
  | error => rw [apply, apply]; exact .done _ hr1.toRelW
  | shift hq' hnt' =>
    obtain ⟨hg, hq0, hnt⟩ := shift_of_obs hw hx
    -- both states consult the token: both sides have fetched it
    obtain rfl := hc1n (by rw [hpE]; exact hnt)
    obtain rfl := hc1n' (by rw [hr.state, hpE]; exact hnt')
    rw [hq']
    exact shift_rel H hw hin hr1 c' (fetch_next _ _) (core_tok hr.core ▸ fetch_next inp c')
      (by rw [fetch_state, hpE, haE]; exact hg) hq0
  | reduce hRR hlen hsym =>
    exact reduce_rel H hw hr1 c' ((fetched_eq hc1).2.1.trans hpE) ha' (obs_of_toAct_reduce hx) hRR hlen hsym

theorem runLoop_sim {f f' : Int} (hfin : ∀ p, G p → (f = p ↔ f' = m p)) (fuel : Nat) (c c' : Cfg)
    (hr : Rel t inp m RR G c c') :
    ((runLoop D[t] inp f fuel c).1 = (runLoop T' inp f' fuel c').1 ∧
      RelW inp RR (runLoop D[t] inp f fuel c).2 (runLoop T' inp f' fuel c').2) ∨
    ∃ c0' c0 fuel0, Abort RR Amiss Aerr c0' c0 ∧ runLoop D[t] inp f fuel c = errorAt inp c0 ∧
      runLoop T' inp f' fuel c' = runLoop T' inp f' fuel0 c0' :=
  runLoop_lockstep (fun _ _ h => by rw [h.state, eq_comm, hfin _ h.good, eq_comm]) (fun _ _ h => h.toRelW)
    (fun _ _ h => errorAt_rel h) (fun _ _ h => step_rel H hw hin h) fuel c c' hr

end

end TmVerif.LRCheck
