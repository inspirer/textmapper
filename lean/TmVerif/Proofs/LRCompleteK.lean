/-
Completeness of the LR runtime model for tables with lookahead automata that pass `complKOk`
(LR(k)-style items with sets of lookahead strings): `firstSeq` over-approximates FIRST_k when `first`
is closed; the runtime's deep lookahead (`deepLA` reading from the lexer copy) takes the decision of
the structural walk `trieWalkZ` over the same tokens; the items are an instance of the walk along a
derivation.
-/
import TmVerif.Model.LRCompleteK
import TmVerif.Proofs.LRCompleteStep
namespace TmVerif.LRCompleteK
open TmVerif.LR TmVerif.CFG TmVerif.LRSound TmVerif.LRRef TmVerif.LRK
open TmVerif.LRComplete (Reads Steps TopState Walk shift_of_decode
  reduce_of_decode reads_iff_get reads_word word word_length)

theorem subStr_sub {A B : List Str} (h : subStr A B = true) : ∀ x ∈ A, x ∈ B := by
  intro x hx
  unfold subStr at h
  rw [List.all_eq_true] at h
  simpa using h x hx

theorem cat_mem {k : Nat} {A B : List Str} {u y : Str} (hu : u.take k ∈ A) (hy : y ∈ B) :
    (u ++ y).take k ∈ catD k A B := by
  unfold catD
  rw [List.mem_flatMap]
  refine ⟨u.take k, hu, ?_⟩
  by_cases hl : k ≤ u.length
  · have h1 : (u.take k).length ≥ k := by rw [List.length_take]; omega
    rw [if_pos h1, List.take_take, Nat.min_self, List.take_append_of_le_length hl]
    exact List.mem_singleton.mpr rfl
  · have h1 : ¬ (u.take k).length ≥ k := by rw [List.length_take]; omega
    rw [if_neg h1, List.take_of_length_le (by omega)]
    exact List.mem_map.mpr ⟨y, hy, rfl⟩

theorem take_append_take (k : Nat) (a b : Str) : (a ++ b.take k).take k = (a ++ b).take k := by
  rw [List.take_append, List.take_append, List.take_take]
  congr 2
  omega

def nextK (inp : Input) : Nat → Nat → Str
  | _, 0 => []
  | p, k + 1 => symAt inp p :: nextK inp (p + 1) k

theorem nextK_length (inp : Input) : ∀ (k p : Nat), (nextK inp p k).length = k
  | 0, _ => rfl
  | k + 1, p => by simp [nextK, nextK_length inp k]

theorem nextK_get (inp : Input) : ∀ (k p j : Nat) (h : j < (nextK inp p k).length),
    (nextK inp p k)[j] = symAt inp (p + j)
  | 0, _, _, h => by simp [nextK] at h
  | k + 1, p, 0, _ => by simp [nextK]
  | k + 1, p, j + 1, h => by
    simp only [nextK, List.getElem_cons_succ]
    rw [nextK_get inp k (p + 1) j]
    congr 1
    omega

theorem nextK_reads {inp : Input} {u : Str} {p : Nat} (k : Nat) (h : Reads inp p u) :
    nextK inp p k = (u ++ nextK inp (p + u.length) k).take k := by
  apply List.ext_getElem
  · rw [nextK_length, List.length_take, List.length_append, nextK_length]; omega
  · intro j h1 h2
    rw [nextK_get, List.getElem_take]
    by_cases hj : j < u.length
    · rw [List.getElem_append_left hj]
      exact (reads_iff_get inp u p).mp h j hj
    · rw [List.getElem_append_right (by omega), nextK_get]
      congr 1
      omega

theorem nextK_eoi (inp : Input) : ∀ (k p : Nat), inp.toks.size ≤ p →
    nextK inp p k = List.replicate k 0
  | 0, _, _ => rfl
  | k + 1, p, h => by
    rw [nextK, symAt_ge inp h, nextK_eoi inp k (p + 1) (by omega)]
    rfl

theorem nextK_allStrings {t : Tables} {inp : Input} (htok : TokOk t inp) (h0 : 0 < t.nTerms) :
    ∀ (k p : Nat), nextK inp p k ∈ allStrings t.nTerms k
  | 0, _ => by simp [nextK, allStrings]
  | k + 1, p => by
    unfold allStrings
    simp only [List.mem_cons]
    rcases Nat.lt_or_ge p inp.toks.size with hp | hp
    · right
      rw [List.mem_flatMap]
      refine ⟨symAt inp p, ?_, ?_⟩
      · rw [List.mem_filter, List.mem_range]
        exact ⟨(symAt_lt_nTerms htok h0 p).1, by simpa using Nat.ne_of_gt (symAt_pos htok hp)⟩
      · rw [List.mem_map]
        exact ⟨nextK inp (p + 1) k, nextK_allStrings htok h0 k (p + 1), rfl⟩
    · left
      exact nextK_eoi inp (k + 1) p hp

def Sub (A B : List Str) : Prop := ∀ x ∈ A, x ∈ B

theorem Sub.refl (A : List Str) : Sub A A := fun _ h => h

theorem Sub.trans {A B C : List Str} (h1 : Sub A B) (h2 : Sub B C) : Sub A C :=
  fun x h => h2 x (h1 x h)

theorem hasItem_elim {cc : KCert} {s r d : Nat} {L : List Str} (h : hasItem cc s r d L = true) :
    ∃ it ∈ itemsOf cc s, it.rule = r ∧ it.dot = d ∧ Sub L it.la := by
  unfold hasItem at h
  rw [List.any_eq_true] at h
  obtain ⟨it, hm, h⟩ := h
  simp only [Bool.and_eq_true, beq_iff_eq] at h
  exact ⟨it, hm, h.1.1, h.1.2, subStr_sub h.2⟩

def Adv (cc : KCert) (q : Nat) (it : KItem) (n : Nat) (it' : KItem) : Prop :=
  it' ∈ itemsOf cc q ∧ it'.rule = it.rule ∧ it'.dot = it.dot + n ∧ Sub it.la it'.la

theorem hasItem_adv {cc : KCert} {it : KItem} {q : Int}
    (h : (decide (0 ≤ q) && hasItem cc q.toNat it.rule (it.dot + 1) it.la) = true) :
    ∃ n : Nat, q = (n : Int) ∧ ∃ it', Adv cc n it 1 it' := by
  rw [Bool.and_eq_true, decide_eq_true_eq] at h
  exact ⟨q.toNat, (Int.toNat_of_nonneg h.1).symm, hasItem_elim h.2⟩

structure KFacts (g : Grammar) (t : Tables) (k : Nat) (cc : KCert) : Prop where
  wf : g.wf = true
  nTerms : t.nTerms = g.nTerms
  kpos : 1 ≤ k
  firstC : ∀ r ∈ g.rules.toList, Sub (firstSeq g k cc.first r.rhs) (cc.first.getD r.lhs [])
  start : ∀ i inp, g.inputs[i]? = some inp →
    ∃ it ∈ itemsOf cc i, it.rule = g.rules.size + i ∧ it.dot = 0 ∧
      Sub (if inp.eoi then [List.replicate k 0] else allStrings g.nTerms k) it.la
  item : ∀ s it, it ∈ itemsOf cc s → itemOk g t k cc s it = true

theorem kFacts {g : Grammar} {t : Tables} {k : Nat} {cc : KCert}
    (h : complKOk g t k cc = true) : KFacts g t k cc := by
  unfold complKOk at h
  simp only [Bool.and_eq_true, decide_eq_true_eq, List.all_eq_true, List.mem_range] at h
  obtain ⟨⟨⟨⟨⟨h1, h2⟩, h3⟩, h4⟩, h5⟩, h7⟩ := h
  refine ⟨h1, h2, h3, ?_, ?_, fun s it hm => h7 s (lt_of_mem_getD hm) it hm⟩
  · intro r hr
    exact subStr_sub (List.all_eq_true.mp h4 r hr)
  · intro i inp hi
    obtain ⟨hlt, _⟩ := Array.getElem_of_getElem? hi
    have := List.all_eq_true.mp h5 i (List.mem_range.mpr hlt)
    rw [hi] at this
    exact hasItem_elim this

theorem KFacts.nTermsPos {g : Grammar} {t : Tables} {k : Nat} {cc : KCert}
    (hf : KFacts g t k cc) : 0 < t.nTerms :=
  nTerms_pos_of_wf hf.wf hf.nTerms

section facts
variable {g : Grammar} {t : Tables} {k : Nat} {cc : KCert} (hf : KFacts g t k cc)
include hf

theorem item_parts {s : Nat} {it : KItem} (hm : it ∈ itemsOf cc s) :
    closOk g k cc s it = true ∧ moveOk g t k cc s it = true ∧ redOk g t k s it = true ∧
      finOk g t s it = true := by
  have h := hf.item s it hm
  unfold itemOk at h
  simp only [Bool.and_eq_true, and_assoc] at h
  exact h

theorem item_shift {s : Nat} {it : KItem} (hm : it ∈ itemsOf cc s) {x : Nat}
    (hx : (rhsOf g it.rule)[it.dot]? = some x) (hlt : x < g.nTerms) :
    needsTok t s = some true ∧ ∀ u ∈ catD k [[x]] (contrib g k cc it),
      ∃ q : Nat, actOfU t s u = some (.shift q) ∧ ∃ it', Adv cc q it 1 it' := by
  have h := (item_parts hf hm).2.1
  unfold moveOk at h
  rw [hx] at h
  simp only [hlt, if_true, Bool.and_eq_true, beq_iff_eq, List.all_eq_true] at h
  refine ⟨h.1, ?_⟩
  intro u hu
  have h := h.2 u hu
  split at h
  · rename_i q hq
    obtain ⟨n, rfl, hadv⟩ := hasItem_adv h
    exact ⟨n, hq, hadv⟩
  · cases h

theorem item_goto {s x : Nat} {it : KItem} (hm : it ∈ itemsOf cc s)
    (hx : (rhsOf g it.rule)[it.dot]? = some x) (hge : g.nTerms ≤ x) :
    ∃ q : Nat, gotoState t s x = some (q : Int) ∧ ∃ it', Adv cc q it 1 it' := by
  have h := (item_parts hf hm).2.1
  unfold moveOk at h
  rw [hx] at h
  simp only [Nat.not_lt.mpr hge, if_false] at h
  split at h
  · rename_i q hq
    obtain ⟨n, rfl, hadv⟩ := hasItem_adv h
    exact ⟨n, hq, hadv⟩
  · cases h

theorem item_clos {s : Nat} {it : KItem} (hm : it ∈ itemsOf cc s) {x : Nat}
    (hx : (rhsOf g it.rule)[it.dot]? = some x) (hge : g.nTerms ≤ x)
    {r' : Nat} {rule : Rule} (hr : g.rules[r']? = some rule) (hl : rule.lhs = x) :
    ∃ it' ∈ itemsOf cc s, it'.rule = r' ∧ it'.dot = 0 ∧ Sub (contrib g k cc it) it'.la := by
  have h := (item_parts hf hm).1
  unfold closOk at h
  rw [hx] at h
  simp only [Bool.or_eq_true, decide_eq_true_eq, Nat.not_lt.mpr hge, false_or,
    List.all_eq_true] at h
  exact hasItem_elim (h r' (mem_rulesOf.mpr ⟨rule, hr, hl⟩))

theorem item_red {s : Nat} {it : KItem} (hm : it ∈ itemsOf cc s) {rule : Rule}
    (hr : g.rules[it.rule]? = some rule) (hd : it.dot = rule.rhs.length) :
    geti t.ruleLen it.rule = some (rule.rhs.length : Int) ∧
    geti t.ruleSymbol it.rule = some (rule.lhs : Int) ∧
    ((needsTok t s = some true ∧ ∀ u ∈ it.la, u.length = k →
        actOfU t s u = some (.reduce (it.rule : Int))) ∨
     (needsTok t s = some false ∧ (it.la ≠ [] → ∀ a : Int,
        actOf t noDeep s a = some (.reduce (it.rule : Int))))) := by
  have h := (item_parts hf hm).2.2.1
  unfold redOk at h
  rw [hr] at h
  simp only [Bool.or_eq_true, bne_iff_ne, ne_eq, hd, not_true_eq_false, false_or,
    Bool.and_eq_true, beq_iff_eq] at h
  refine ⟨h.1.1, h.1.2, ?_⟩
  have h := h.2
  split at h
  · cases h
  · rename_i hb
    left
    refine ⟨hb, ?_⟩
    intro u hu hlen
    rw [List.all_eq_true] at h
    have := h u hu
    simpa [hlen] using this
  · rename_i hb
    right
    refine ⟨hb, ?_⟩
    intro hne
    simp only [Bool.or_eq_true, List.isEmpty_iff, beq_iff_eq] at h
    rcases h with h | h
    · exact absurd h hne
    -- a state that does not consult the token reduces whatever the token is
    · exact fun a => (actOf_of_needsTok_false hb noDeep noDeep a 0).trans h

theorem item_fin {s i : Nat} {it : KItem} (hm : it ∈ itemsOf cc s)
    (hr : it.rule = g.rules.size + i) (hd : it.dot = (rhsOf g it.rule).length) :
    t.finalStates[i]? = some (s : Int) := by
  have h := (item_parts hf hm).2.2.2
  unfold finOk at h
  simpa [hd, hr, Nat.not_lt.mpr (Nat.le_add_right g.rules.size i)] using h

/-- the set of a single symbol inside `firstSeq` -/
def symFirst (g : Grammar) (first : Array (List Str)) (s : Nat) : List Str :=
  if s < g.nTerms then [[s]] else first.getD s []

theorem derives_firstK_seq :
    (∀ {X : Nat} {u : Str}, Derives g X u → u.take k ∈ symFirst g cc.first X) ∧
    ∀ {α : List Nat} {u : Str}, DerivesSeq g α u → u.take k ∈ firstSeq g k cc.first α :=
  Derives.ind
    (term := fun a ha => by
      unfold symFirst
      rw [if_pos ha]
      have := hf.kpos
      rw [List.take_of_length_le (by simpa using this)]
      exact List.mem_singleton.mpr rfl)
    (rule := fun r w hm _ ih => by
      have hge := ((wfFacts hf.wf).rules r hm).1
      unfold symFirst
      rw [if_neg (by omega)]
      exact hf.firstC r hm _ ih)
    (nil := by simp [firstSeq])
    (cons := fun X α u v _ _ ihX ihα => by
      rw [firstSeq, ← take_append_take]
      exact cat_mem ihX ihα)

theorem derives_firstK :
    ∀ {X : Nat} {u : Str}, Derives g X u → u.take k ∈ symFirst g cc.first X := (derives_firstK_seq hf).1

end facts

/-- The walk decides at the first EOI at the latest, and EOI comes within `size - pos + 1` reads; the
fuel bound says that `deepLA` can read that far (the runtime's fuel is `size + 2`). -/
theorem deep_of_walk (t : Tables) (inp : Input) (rest : Str) (x r : Int) (fuel pos : Nat) :
    trieWalkZ t x rest = some r →
    (∀ j (h : j < rest.length), (inp.tok (pos + j)).sym = (rest[j] : Nat)) →
    inp.toks.size ≤ pos + fuel → deepLA t inp (fuel + 2) pos x = some r := by
  fun_induction trieWalkZ t x rest generalizing fuel pos
  -- `x` is no pointer
  case case2 x hx => rintro ⟨⟩ _ _; rw [deepLA_succ, if_neg hx]
  case case7 x a rest hx => rintro ⟨⟩ _ _; rw [deepLA_succ, if_neg hx]
  -- EOI is read and the entry found for it decides
  case case5 x rest hx act hact hl =>
    rintro ⟨⟩ htoks _
    rw [deepLA_succ, if_pos hx, (toks_cons htoks).1, hl]
    exact deepLA_leaf (if_neg hact)
  -- a real token is read and the walk goes on from its entry: the position is inside the text
  case case6 x a rest hx act hl ha ih =>
    intro h htoks hsum
    obtain ⟨h0, hrest⟩ := toks_cons htoks
    rw [deepLA_succ, if_pos hx, h0, hl]
    have hpos : pos < inp.toks.size := Nat.lt_of_not_le fun hp => by
      rw [tok_of_size_le hp] at h0
      exact ha (Int.ofNat.inj h0).symm
    cases fuel with
    | zero => exact absurd hsum (Nat.not_le.mpr hpos)
    | succ f =>
      exact ih f (pos + 1) h hrest (by rw [Nat.add_right_comm]; exact hsum)
  all_goals nofun

def PosOk (inp : Input) (c : Cfg) : Prop :=
  ∀ tk, c.next = some tk → tk.sym = 0 → inp.toks.size ≤ c.pos

def NextKOk (inp : Input) (c : Cfg) (m : Nat) : Prop := NextOk inp c m ∧ PosOk inp c

section fetch
variable {t : Tables} {inp : Input} (htok : TokOk t inp)
include htok

theorem PosOk.fetched {c c2 : Cfg} (hp : PosOk inp c) (h : c2 = c ∨ c2 = (c.fetch inp).1) :
    PosOk inp c2 := by
  rcases h with rfl | rfl
  · exact hp
  cases hnext : c.next with
  | some tk => rw [fetch_some hnext]; exact hp
  | none =>
    rw [fetch_none hnext]
    intro tk htk hz
    simp only [Option.some.injEq] at htk
    subst htk
    have := tok_zero_ge htok hz
    simp only
    omega

/-- `h` is the last conjunct of `shift_of_decode` and of `reduce_of_decode` -/
theorem PosOk.step {c c' : Cfg} (hp : PosOk inp c)
    (h : ∃ c2, (c2 = c ∨ c2 = (c.fetch inp).1) ∧ c'.pos = c2.pos ∧
      ∀ tk, c'.next = some tk → c2.next = some tk) : PosOk inp c' := by
  obtain ⟨c2, h2, hpos, hnx⟩ := h
  exact fun tk htk hz => hpos ▸ hp.fetched htok h2 tk (hnx tk htk) hz

/-- the initial configuration is the first fetch -/
theorem initCfg_nextK (i : Nat) : NextKOk inp (initCfg inp i) 0 :=
  ⟨initCfg_next inp i,
    PosOk.fetched htok (c := { initCfg inp i with next := none, pos := 0 }) nofun (.inr rfl)⟩

/-- the lexer copy used by the deep lookahead reads the tokens after the current one -/
theorem fetch_tokens {c : Cfg} {m : Nat} (h : NextKOk inp c m) (j : Nat) :
    inp.tok ((c.fetch inp).1.pos + j) = inp.tok (m + 1 + j) := by
  obtain ⟨_, f2, f3⟩ := fetch_spec inp c m h.1
  rw [nextOk_some f2] at f3
  by_cases hz : (inp.tok m).sym = 0
  · -- EOI: both positions are behind the text
    have h1 := h.2.fetched htok (.inr rfl) _ f2 hz
    have h2 := tok_zero_ge htok hz
    rw [tok_of_size_le (by omega : inp.toks.size ≤ (c.fetch inp).1.pos + j),
      tok_of_size_le (by omega : inp.toks.size ≤ m + 1 + j)]
  · rw [f3.2 hz]

theorem decode_K {c : Cfg} {m s k : Nat} {act : Act} (h0 : 0 < t.nTerms) (hk : 1 ≤ k)
    (hn : NextKOk inp c m) (hst : c.state = (s : Int)) (hneeds : needsTok t s = some true)
    (hact : actOfU t s (nextK inp m k) = some act) :
    decode t inp c = some ((c.fetch inp).1, act) := by
  obtain ⟨f1, _⟩ := fetch_spec inp c m hn.1
  obtain ⟨k', rfl⟩ : ∃ k', k = k' + 1 := ⟨k - 1, by omega⟩
  rw [nextK] at hact
  unfold actOfU at hact
  unfold decode
  rw [hst, hneeds]
  simp only
  rw [f1, (symAt_lt_nTerms htok h0 m).2]
  rw [actOf_mono t _ _ _ _ _ ?_ hact]
  · rfl
  · intro p r hw
    apply deep_of_walk t inp _ p r _ _ hw
    · intro j hj
      rw [fetch_tokens htok hn j, (symAt_lt_nTerms htok h0 (m + 1 + j)).2, nextK_get]
    · omega

end fetch

section walk
variable {g : Grammar} {t : Tables} {k : Nat} {cc : KCert} {inp : Input}
  (hf : KFacts g t k cc) (htok : TokOk t inp)
include hf htok

/-- the items of the certificate as a `Walk`: what may follow is the next `k` symbols -/
def walk : Walk g t inp KItem where
  mem s it := it ∈ itemsOf cc s
  rule := KItem.rule
  dot := KItem.dot
  sub a b := Sub a.la b.la
  la it p := nextK inp p k ∈ it.la
  ctx it p := nextK inp p k ∈ contrib g k cc it
  ok := NextKOk inp
  wf := hf.wf
  sub_refl it := Sub.refl _
  sub_trans := Sub.trans
  sub_la _ h := h _
  -- the next `k` symbols: the yield of the rest of the rule, then what may follow the rule
  ctx_of {it p v} hd hr hla := by
    show nextK inp p k ∈ contrib g k cc it
    rw [nextK_reads k hr]
    exact cat_mem ((derives_firstK_seq hf).2 hd) hla
  shift {s it a c m} hm hx ha htop hn hr hctx := by
    obtain ⟨hneeds, hall⟩ := item_shift hf hm hx ha
    have hu : nextK inp m k ∈ catD k [[a]] (contrib g k cc it) := by
      rw [nextK_reads k (u := [a]) ⟨hr, trivial⟩]
      refine cat_mem ?_ hctx
      rw [List.take_of_length_le (by have := hf.kpos; simpa using this)]
      exact List.mem_singleton.mpr rfl
    obtain ⟨q, hact, it', hadv⟩ := hall _ hu
    obtain ⟨c', h1, h2, h3, h4⟩ :=
      shift_of_decode htok hn.1 (decode_K htok hf.nTermsPos hf.kpos hn htop.1 hneeds hact)
    exact ⟨q, it', c', h1, hadv, h2, h3, hn.2.step htok h4⟩
  goto := item_goto hf
  clos hm hx hge hk hl := by
    obtain ⟨it', hm', hr', hd', hsub⟩ := item_clos hf hm hx hge hk hl
    exact ⟨it', hm', hr', hd', fun p hctx => hsub _ hctx⟩
  reduce {s it r c m} _ _ _ _ hm hr hd hla hn hst hstk hents hgoto := by
    obtain ⟨hlen, hsym, hred⟩ := item_red hf hm hr hd
    obtain ⟨c1, hdec⟩ : ∃ c1, decode t inp c = some (c1, .reduce it.rule) := by
      rcases hred with ⟨hb, hall⟩ | ⟨hb, hall⟩
      · exact ⟨_, decode_K htok hf.nTermsPos hf.kpos hn hst hb (hall _ hla (nextK_length inp k _))⟩
      · exact ⟨_, decode_noDeep hn.1 (symAt_lt_nTerms htok hf.nTermsPos m).2 hst hb
          (hall (List.ne_nil_of_mem hla) _)⟩
    obtain ⟨c', h1, h2, h3, h4⟩ := reduce_of_decode hn.1 hdec hlen hsym hstk hents hgoto
    exact ⟨c', h1, h2, h3, hn.2.step htok h4⟩

theorem steps_of_derivesSeq :
    ∀ {α : List Nat} {u : List Nat}, DerivesSeq g α u →
      ∀ (s : Nat) (it : KItem) (c : Cfg) (m : Nat),
        it ∈ itemsOf cc s → (rhsOf g it.rule).drop it.dot = α →
        TopState c s → NextKOk inp c m → Reads inp m u →
        nextK inp (m + u.length) k ∈ it.la →
        ∃ (s' : Nat) (it' : KItem) (c' : Cfg) (ents : List Entry), Steps t inp c c' ∧
          Adv cc s' it α.length it' ∧ TopState c' s' ∧ c'.stack = ents ++ c.stack ∧
          ents.length = α.length ∧ NextKOk inp c' (m + u.length) :=
  fun h s it c m => (walk hf htok).derives.2 h s it c m _ rfl

theorem accept_word {i : Nat} {w : List Nat} (hsent : Sentence g i w) (hr : Reads inp 0 w)
    (hend : ∀ gi, g.inputs[i]? = some gi → gi.eoi = true → inp.toks.size ≤ w.length) :
    ∃ fuel c, run t inp i fuel = (Result.accept, c) := by
  refine (walk hf htok).accept_word (item_fin hf) ?_ (initCfg_nextK htok) hsent hr hend
  intro i gi hgi
  obtain ⟨it0, hm0, hr0, hd0, hsub0⟩ := hf.start i gi hgi
  refine ⟨it0, hm0, hr0, hd0, fun p hp => hsub0 _ ?_⟩
  cases heoi : gi.eoi with
  | true =>
    rw [if_pos rfl, nextK_eoi inp k p (Nat.le_of_lt (hp heoi))]
    exact List.mem_singleton.mpr rfl
  | false =>
    rw [if_neg Bool.false_ne_true, ← hf.nTerms]
    exact nextK_allStrings htok hf.nTermsPos k p

theorem complete_accept {i : Nat} (hsent : Sentence g i (word inp)) :
    ∃ fuel c, run t inp i fuel = (Result.accept, c) :=
  accept_word hf htok hsent (reads_word inp) fun _ _ _ => by rw [word_length]; exact Nat.le_refl _

end walk

end TmVerif.LRCompleteK
