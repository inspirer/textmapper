import TmVerif.Model.TokenSets
import TmVerif.Proofs.GraphBasic
import TmVerif.Proofs.CFG
/-!
Helper lemmas for C15:
* the mirror of syntax/nullable.go computes exactly the nonterminals that derive ε (`nullable_sound`,
  `nullable_complete`);
* the one-step operator `F cx c ·` of the token-set equations is monotone, its Kleene iterates from ⊥
  stay below every closed assignment (`iter_le_of_closed`), and what `solve` returns is a checked
  fixpoint reached by such an iteration (`solve_some`);
* the graphs `reachGraph` and `depGraph` of the specification are well formed, so that the Warshall
  closure the specification calls is graph reachability (`Graph.Matrix.closure_ofGraph`).
-/
namespace TmVerif.TokenSets
open TmVerif.CFG

theorem derivesSeq_nil_of_all {g : Grammar} :
    ∀ (rhs : List Nat), (∀ s ∈ rhs, Derives g s []) → DerivesSeq g rhs []
  | [], _ => .nil
  | X :: rest, h => by
    have h1 := h X (by simp)
    have h2 := derivesSeq_nil_of_all rest (fun s hs => h s (by simp [hs]))
    exact DerivesSeq.cons X rest [] [] h1 h2

/-- invariant of the marking loop -/
def NlSound (g : Grammar) (nl : List Bool) : Prop := ∀ X, nl.getD X false = true → Derives g X []

theorem isNullableNt_iff {g : Grammar} {nl : List Bool} {n : Nat} : isNullableNt g nl n = true ↔
    ∃ r ∈ g.rules.toList, r.lhs = n ∧ ∀ s ∈ r.rhs, nl.getD s false = true := by
  simp only [isNullableNt, seqNullable, List.any_eq_true, Bool.and_eq_true, beq_iff_eq, List.all_eq_true]

theorem isNullableNt_sound {g : Grammar} {nl : List Bool} (hs : NlSound g nl) {n : Nat}
    (h : isNullableNt g nl n = true) : Derives g n [] := by
  obtain ⟨r, hr, rfl, h2⟩ := isNullableNt_iff.1 h
  exact Derives.rule r [] hr (derivesSeq_nil_of_all r.rhs (fun s hs' => hs s (h2 s hs')))

theorem nullStep_cases (g : Grammar) (acc : List Bool × Bool) (n : Nat) :
    (nullStep g acc n = acc ∧ (acc.1.getD n false = true ∨ isNullableNt g acc.1 n = false)) ∨
    (isNullableNt g acc.1 n = true ∧ nullStep g acc n = (acc.1.set n true, true)) := by
  fun_cases nullStep g acc n
  case case1 hc => exact .inl ⟨rfl, .inl hc⟩
  case case2 _ hn => exact .inr ⟨hn, rfl⟩
  case case3 _ hn => exact .inl ⟨rfl, .inr (eq_false_of_ne_true hn)⟩

theorem nullPass_spec {g : Grammar} {nl : List Bool} (hs : NlSound g nl) (ns : List Nat) :
    NlSound g (ns.foldl (nullStep g) (nl, false)).1 ∧ ((ns.foldl (nullStep g) (nl, false)).2 = false →
      (ns.foldl (nullStep g) (nl, false)).1 = nl ∧
        ∀ n ∈ ns, nl.getD n false = true ∨ isNullableNt g nl n = false) := by
  refine foldl_inv (fun done acc => NlSound g acc.1 ∧ (acc.2 = false → acc.1 = nl ∧
    ∀ n ∈ done, nl.getD n false = true ∨ isNullableNt g nl n = false)) _ ns [] (nl, false)
    ⟨hs, fun _ => ⟨rfl, nofun⟩⟩ ?_
  intro done n acc _ ⟨hsd, hcl⟩
  rcases nullStep_cases g acc n with ⟨e, hn⟩ | ⟨hn, e⟩
  · rw [e]
    refine ⟨hsd, fun hf => ?_⟩
    obtain ⟨h1, h2⟩ := hcl hf
    exact ⟨h1, List.forall_mem_append.2 ⟨h2, List.forall_mem_singleton.2 (h1 ▸ hn)⟩⟩
  · rw [e]
    refine ⟨fun X hX => ?_, fun hf => nomatch hf⟩
    rw [List.getD_eq_getElem?_getD, getD_set] at hX
    split at hX
    · rename_i hc; rw [hc.1]; exact isNullableNt_sound hsd hn
    · exact hsd X hX

theorem nullLoop_spec {g : Grammar} : ∀ (fuel : Nat) (nl res : List Bool), NlSound g nl →
    nullLoop g fuel nl = some res →
      NlSound g res ∧ ∀ n ∈ nonterms g, res.getD n false = true ∨ isNullableNt g res n = false
  | 0, _, _, _, h => by simp [nullLoop] at h
  | fuel + 1, nl, res, hs, h => by
    obtain ⟨hsound, hclean⟩ := nullPass_spec hs (nonterms g)
    simp only [nullLoop] at h
    split at h
    · exact nullLoop_spec fuel _ res hsound h
    · rename_i hd
      obtain ⟨h1, h2⟩ := hclean (eq_false_of_ne_true hd)
      cases h
      rw [h1]
      exact ⟨hs, h2⟩

theorem nlSound_init (g : Grammar) : NlSound g (List.replicate g.nSyms false) := by
  intro X hX
  simp [List.getD_eq_getElem?_getD, List.getElem?_replicate] at hX
  split at hX <;> simp at hX

theorem nullable_sound {g : Grammar} {nl : List Bool} (h : nullable g = some nl) {X : Nat}
    (hX : nl.getD X false = true) : Derives g X [] :=
  (nullLoop_spec _ _ nl (nlSound_init g) h).1 X hX

theorem mem_nonterms (g : Grammar) (n : Nat) : n ∈ nonterms g ↔ g.nTerms ≤ n ∧ n < g.nSyms := by
  unfold nonterms
  simp only [List.mem_map, List.mem_range]
  constructor
  · rintro ⟨a, ha, rfl⟩; omega
  · intro h; exact ⟨n - g.nTerms, by omega, by omega⟩

theorem nullable_complete {g : Grammar} {nl : List Bool} (h : nullable g = some nl)
    (hlhs : ∀ r ∈ g.rules.toList, r.lhs ∈ nonterms g) {X : Nat} (hX : Derives g X []) :
    nl.getD X false = true :=
  -- the loop stopped at a marking closed under the rules
  (Derives.nil_closed (N := fun X => nl.getD X false = true) fun r hm hall =>
    ((nullLoop_spec _ _ nl (nlSound_init g) h).2 r.lhs (hlhs r hm)).resolve_right fun hf =>
      Bool.false_ne_true (hf.symm.trans (isNullableNt_iff.2 ⟨r, hm, rfl, hall⟩))).1 hX rfl

def Le (x y : State) : Prop := ∀ u t, x.mem u t = true → y.mem u t = true

theorem le_bot (y : State) : Le [] y := by
  intro u t h; simp [State.mem] at h

theorem mem_F (cx : Ctx) (c x : State) (u t : Nat) :
    (F cx c x).mem u t = true ↔ u < cx.nU ∧ t < cx.sg.nT ∧ rhsMem cx c x u t = true := by
  unfold F State.mem
  by_cases hu : u < cx.nU
  · simp [hu]
  · simp [hu]

/-! Every right-hand side is built from `x.mem` by `||`, `&&`, `List.any` and conditions that do not
read `x`; each of these preserves "true here implies true there". -/

theorem or_mono {a b a' b' : Bool} (ha : a = true → a' = true) (hb : b = true → b' = true) :
    (a || b) = true → (a' || b') = true := by
  simp only [Bool.or_eq_true]; exact Or.imp ha hb

theorem and_mono {a b a' b' : Bool} (ha : a = true → a' = true) (hb : b = true → b' = true) :
    (a && b) = true → (a' && b') = true := by
  simp only [Bool.and_eq_true]; exact And.imp ha hb

theorem any_mono {α : Type} {p q : α → Bool} (l : List α) (h : ∀ a, p a = true → q a = true) :
    l.any p = true → l.any q = true := by
  simp only [List.any_eq_true]; exact fun ⟨a, ha, hp⟩ => ⟨a, ha, h a hp⟩

theorem ite_mono {c : Prop} [Decidable c] {a b a' b' : Bool} (ha : a = true → a' = true)
    (hb : b = true → b' = true) : (if c then a else b) = true → (if c then a' else b') = true := by
  split
  · exact ha
  · exact hb

theorem firstSeq_mono {cx : Ctx} {x y : State} (h : Le x y) (k t : Nat) :
    ∀ (l : List Nat), firstSeq cx x k t l = true → firstSeq cx y k t l = true
  | [] => id
  | _ :: rest => or_mono (h _ _) (and_mono id (firstSeq_mono h k t rest))

theorem follScan_mono {cx : Ctx} {x y : State} (h : Le x y) (kF kW lhs X t : Nat) :
    ∀ (l : List Nat), follScan cx x kF kW lhs X t l = true → follScan cx y kF kW lhs X t l = true
  | [] => id
  | _ :: rest =>
    or_mono (and_mono id (or_mono (firstSeq_mono h kF t rest) (and_mono id (h _ _))))
      (follScan_mono h kF kW lhs X t rest)

theorem evalMem_mono {cx : Ctx} {c x y : State} (h : Le x y) (t : Nat) :
    ∀ (e : SExpr), evalMem cx c x t e = true → evalMem cx c y t e = true
  | .any _ | .first _ | .last _ | .precede _ | .follow _ | .ref _ => h _ _
  | .compl _ => id
  | .union a b => or_mono (evalMem_mono h t a) (evalMem_mono h t b)
  | .inter a b => and_mono (evalMem_mono h t a) (evalMem_mono h t b)

theorem setPart_mono {cx : Ctx} {x y : State} (h : Le x y) (s t : Nat) :
    setPart cx x s t = true → setPart cx y s t = true :=
  any_mono _ fun _ => and_mono id (h _ _)

theorem rhsMem_mono {cx : Ctx} {c x y : State} (h : Le x y) (u t : Nat) :
    rhsMem cx c x u t = true → rhsMem cx c y u t = true := by
  unfold rhsMem
  simp only
  refine ite_mono
    (ite_mono (ite_mono id ?any)
    (ite_mono (ite_mono id ?first)
    (ite_mono (ite_mono id ?last)
    (ite_mono ?precede ?follow))))
    ?set
  case any => exact or_mono (any_mono _ fun _ => and_mono id (any_mono _ fun _ => h _ _)) (setPart_mono h _ _)
  case first => exact or_mono (any_mono _ fun _ => and_mono id (firstSeq_mono h _ _ _)) (setPart_mono h _ _)
  case last => exact or_mono (any_mono _ fun _ => and_mono id (firstSeq_mono h _ _ _)) (setPart_mono h _ _)
  case precede => exact any_mono _ fun _ => follScan_mono h _ _ _ _ _ _
  case follow => exact any_mono _ fun _ => follScan_mono h _ _ _ _ _ _
  case set =>
    split
    · exact evalMem_mono h t _
    · exact id

/-- `y` is closed under the equations in which complements read `c` -/
def ClosedUnder (cx : Ctx) (c y : State) : Prop :=
  ∀ u t, u < cx.nU → t < cx.sg.nT → rhsMem cx c y u t = true → y.mem u t = true

theorem F_le_of_closed {cx : Ctx} {c x y : State} (h : Le x y) (hy : ClosedUnder cx c y) :
    Le (F cx c x) y := by
  intro u t hm
  obtain ⟨hu, ht, hr⟩ := (mem_F cx c x u t).1 hm
  exact hy u t hu ht (rhsMem_mono h u t hr)

theorem iter_le_of_closed {cx : Ctx} {c y : State} (hy : ClosedUnder cx c y) :
    ∀ (n : Nat) (x : State), Le x y → Le (iterF cx c n x) y
  | 0, _, h => h
  | n + 1, x, h => by
    simp only [iterF]
    exact iter_le_of_closed hy n _ (F_le_of_closed h hy)

theorem lfpG_some {cx : Ctx} {c x : State} (h : lfpG cx c = some x) :
    F cx c x = x ∧ ∃ n, x = iterF cx c n [] := by
  revert h
  fun_cases lfpG cx c
  case case1 x' hf => exact fun h => Option.some.inj h ▸ ⟨eq_of_beq hf, _, rfl⟩
  case case2 => exact nofun

theorem rounds_some {cx : Ctx} (k : Nat) (c x : State) (h : rounds cx k c = some x) :
    F cx x x = x ∧ ∃ n, x = iterF cx x n [] := by
  fun_induction rounds cx k c with
  | case1 => cases h
  | case2 k c hl => cases h
  | case3 k c x' hl he =>
    -- the round changed nothing: `x' = c`, and `x'` is the fixpoint of the round that read `c`
    cases h
    cases eq_of_beq he
    exact lfpG_some hl
  | case4 k c x' hl he ih => exact ih h

theorem solve_some {sg : SG} {cx : Ctx} {x : State} (h : solve sg = some (cx, x)) :
    (∃ nl, nullable sg.g = some nl ∧ cx = mkCtx sg nl) ∧ F cx x x = x ∧ ∃ n, x = iterF cx x n [] := by
  revert h
  fun_cases solve sg with
  | case1 hn => exact nofun
  | case2 nl hn hr => exact nofun
  | case3 nl hn cx' x' hr => 
    intro h
    obtain ⟨rfl, rfl⟩ := Prod.mk.inj (Option.some.inj h)
    exact ⟨⟨nl, hn, rfl⟩, rounds_some _ _ _ hr⟩

theorem reachGraph_length (sg : SG) : (reachGraph sg).length = sg.nS + sg.nSets := by
  simp [reachGraph, SG.nSets]

theorem reachGraph_wf (sg : SG) : Graph.Wf (reachGraph sg) := by
  rw [Graph.wf_iff_rows, reachGraph_length]
  intro es hes w hw
  unfold reachGraph at hes
  simp only [List.mem_append, List.mem_map, List.mem_range] at hes
  rcases hes with ⟨s, _, rfl⟩ | ⟨e, _, rfl⟩
  · simp only [List.mem_append, List.mem_filter, decide_eq_true_eq] at hw
    rcases hw with (hw | hw) | hw
    · omega
    · split at hw
      · split at hw
        · simp only [List.mem_singleton] at hw; omega
        · cases hw
      · cases hw
    · omega
  · simp only [List.mem_append, List.mem_filter, decide_eq_true_eq, List.mem_map] at hw
    rcases hw with hw | ⟨i, hi, rfl⟩
    · omega
    · omega

theorem unknowns_of_complArg {cx : Ctx} {a : SExpr} {w : Nat} (hw : w ∈ exprUnknowns cx a) {e : SExpr} :
    a ∈ complArgs e → w ∈ exprUnknowns cx e := by
  induction e with
  | union l r ihl ihr | inter l r ihl ihr => exact fun h => List.mem_append.2 ((List.mem_append.1 h).imp ihl ihr)
  | compl b ih => exact fun h => (List.mem_cons.1 h).elim (· ▸ hw) ih
  | _ => exact fun h => nomatch h

theorem depGraph_length (cx : Ctx) : (depGraph cx).length = cx.nU := by simp [depGraph]

theorem depGraph_wf (cx : Ctx) : Graph.Wf (depGraph cx) := by
  rw [Graph.wf_iff_rows, depGraph_length]
  intro es hes w hw
  unfold depGraph at hes
  simp only [List.mem_map, List.mem_range] at hes
  obtain ⟨u, _, rfl⟩ := hes
  exact (of_decide_eq_true (List.mem_filter.1 hw).2)

/-- The Warshall closure that `complCycle` reads is reachability among the unknowns. -/
theorem depGraph_closure (cx : Ctx) {w v : Nat} (hw : w < cx.nU) (hv : v < cx.nU) :
    (Graph.Matrix.ofGraph (depGraph cx)).closure.hasEdge w v = true ↔
      Relation.TransGen (Graph.Edge (depGraph cx)) w v :=
  Graph.Matrix.closure_ofGraph _ (depGraph_wf cx) w v (depGraph_length cx ▸ hw) (depGraph_length cx ▸ hv)

end TmVerif.TokenSets
