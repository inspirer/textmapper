/-
C18: entries with distinct keys, commuting updates of Go maps and sets, the import order of gen/post_go.go,
uniqueness of the sorted permutation, existence of a sort satisfying `SortSpec`.
-/
import TmVerif.Model.Determinism
import TmVerif.Proofs.Basic
namespace TmVerif.Determinism

theorem GoMap.alter_comm {κ ν : Type} [DecidableEq κ] (m : GoMap κ ν) {k k' : κ} (h : k ≠ k')
    (f g : Option ν → Option ν) : (m.alter k f).alter k' g = (m.alter k' g).alter k f := by
  funext x
  unfold GoMap.alter
  by_cases h1 : x = k <;> by_cases h2 : x = k' <;> simp_all

theorem GoMap.set_comm {κ ν : Type} [DecidableEq κ] (m : GoMap κ ν) {k k' : κ} (h : k ≠ k') (v v' : ν) :
    (m.set k v).set k' v' = (m.set k' v').set k v :=
  m.alter_comm h (fun _ => some v) (fun _ => some v')

theorem GoSet.add_comm {κ : Type} [DecidableEq κ] (s : GoSet κ) (k k' : κ) :
    (s.add k).add k' = (s.add k').add k := by
  funext x
  unfold GoSet.add
  by_cases h1 : x = k <;> by_cases h2 : x = k' <;> simp [h1, h2]

/-- Over entries with distinct keys a fold does not depend on their order as soon as steps at different keys commute:
two entries with one key are one entry. -/
theorem fold_distinct_perm {α σ κ : Type} (f : σ → α → σ) {key : α → κ} {xs ys : List α}
    (hd : DistinctBy key xs) (h : xs.Perm ys)
    (comm : ∀ a b s, key a ≠ key b → f (f s a) b = f (f s b) a) (s : σ) : xs.foldl f s = ys.foldl f s :=
  h.foldl_eq' (fun a ha b hb s => by
    by_cases hk : key a = key b
    · rw [nodup_key_inj hd a ha b hb hk]
    · exact comm a b s hk) s

theorem anti_of_distinct_keys {α β κ : Type} (f : α → β) (key : α → κ) (le : β → β → Prop) {xs : List α}
    (hd : DistinctBy key xs) (hk : ∀ x ∈ xs, ∀ y ∈ xs, le (f x) (f y) → le (f y) (f x) → key x = key y) :
    ∀ a ∈ xs.flatMap (fun e => [f e]), ∀ b ∈ xs.flatMap (fun e => [f e]), le a b → le b a → a = b := by
  intro a ha b hb h1 h2
  simp only [List.mem_flatMap, List.mem_singleton] at ha hb
  obtain ⟨x, hx, rfl⟩ := ha
  obtain ⟨y, hy, rfl⟩ := hb
  rw [nodup_key_inj hd x hx y hy (hk x hx y hy h1 h2)]

theorem goImpLess_antisymm {π : Type} (isStd : π → Bool) (lt : π → π → Bool)
    (tri : ∀ a b, lt a b = false → lt b a = false → a = b) (a b : GoImp π)
    (h1 : goImpLess isStd lt b a = false) (h2 : goImpLess isStd lt a b = false) : a.path = b.path := by
  unfold goImpLess at h1 h2
  by_cases hstd : isStd a.path = isStd b.path
  · simp [hstd] at h1 h2
    exact tri _ _ h2 h1
  · -- std-ness differs: each call answers `isStd` of its first argument, and the two are not both false
    simp [hstd, Ne.symm hstd] at h1 h2
    simp [h1, h2] at hstd

theorem sorted_perm_unique {α : Type} (le : α → α → Prop) (l₁ l₂ : List α)
    (anti : ∀ a ∈ l₁, ∀ b ∈ l₁, le a b → le b a → a = b)
    (h : l₁.Perm l₂) (s₁ : l₁.Pairwise le) (s₂ : l₂.Pairwise le) : l₁ = l₂ :=
  List.Perm.eq_of_pairwise (fun a b ha hb => anti a ha b (h.mem_iff.2 hb)) s₁ s₂ h

/-- Any correct sort, stable or not. -/
theorem sort_perm {β : Type} {le : β → β → Prop} {srt : List β → List β} (hs : SortSpec srt le) {l l' : List β}
    (anti : ∀ a ∈ l, ∀ b ∈ l, le a b → le b a → a = b) (h : l.Perm l') : srt l = srt l' :=
  sorted_perm_unique le _ _ (fun a ha b hb => anti a ((hs l).1.mem_iff.mp ha) b ((hs l).1.mem_iff.mp hb))
    ((hs l).1.trans (h.trans (hs l').1.symm)) (hs l).2 (hs l').2

/-- A sort satisfying `SortSpec` exists (core's merge sort), so the theorems of Props/C18.lean are not vacuous. -/
theorem sortSpec_mergeSort : SortSpec (fun l : List Nat => l.mergeSort (· ≤ ·)) (fun a b => a ≤ b) := by
  intro l
  refine ⟨List.mergeSort_perm l _, ?_⟩
  have := List.pairwise_mergeSort (le := fun (a b : Nat) => decide (a ≤ b))
    (by intro a b c; simp; omega) (by intro a b; simp; omega) l
  simpa using this

end TmVerif.Determinism
