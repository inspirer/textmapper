import TmVerif.Proofs.Basic
import TmVerif.Proofs.DiffMyersRound
/-!
The overlap test of the Myers search, the loop over the rounds, and `middleRaw`.
Soundness (`split_good`): in rounds `d`, `d'` that have not passed the distance, if the furthest forward point on a
diagonal is not left of the furthest reverse point on it, the distance is `d + d'` and the reverse point lies on a
shortest path. Completeness: if the distance is `d + d'`, some diagonal of the two rounds overlaps. So the loop stops in
round `⌈D/2⌉` with a `GoodSplit`: the search has the contract `GoodOracle` (`middleRaw_spec`).
-/
namespace TmVerif.Diff
variable {α : Type} [DecidableEq α]

/-- Diagonal `k` of the forward search and diagonal `mirror a b k` of the reverse search are the same
line of the grid (`k2 := -delta - k` in the Go code). -/
def mirror (a b : List α) (k : Int) : Int := -((b.length : Int) - a.length) - k

omit [DecidableEq α] in
theorem mirror_mirror (a b : List α) (k : Int) : mirror a b (mirror a b k) = k := by
  unfold mirror; omega

/-- While rounds `d` and `d'` have not passed the distance, a reverse point on the diagonal of a forward point lies in
the grid: it is within `d'` of the far corner, on a diagonal whose number is at most `d`. -/
theorem rev_in_grid (a b : List α) (d d' : Nat) (k : Int) (xf yf xr yr : Nat) (hkf : (xf : Int) - yf = k)
    (hkr : (xr : Int) - yr = mirror a b k) (hdf : Dle a b d xf yf)
    (hdr : Dle a.reverse b.reverse d' xr yr)
    (hlow : d + d' + 2 * lcsRec a b ≤ a.length + b.length) : xr ≤ a.length ∧ yr ≤ b.length := by
  have hb := dle_diagonal_bound a b d xf yf hdf
  have hl := Lp_add_Ls_le a.reverse b.reverse xr yr
  rw [lcsRec_reverse] at hl
  unfold Dle at hdr
  unfold mirror at hkr
  omega

/-- An overlapping pair on diagonal `k` of an `m × n` grid: the reverse point `(xr, yr)` is the grid point `(P, Py)`,
the forward point lies `mx` steps further down the diagonal. -/
theorem diag_meet (m n : Nat) (k : Int) (xf yf xr yr : Nat) (hkf : (xf : Int) - yf = k)
    (hkr : (xr : Int) - yr = -((n : Int) - m) - k) (hx : xr ≤ m) (hy : yr ≤ n)
    (hov : m ≤ xf + xr) :
    ∃ P Py mx : Nat, P + xr = m ∧ Py + yr = n ∧ P + mx = xf ∧ Py + mx = yf := by
  -- witnesses by addition: truncated subtraction doubles what `omega` has to do
  obtain ⟨P, rfl⟩ := Nat.exists_eq_add_of_le hx
  obtain ⟨Py, rfl⟩ := Nat.exists_eq_add_of_le hy
  obtain ⟨mx, rfl⟩ := Nat.exists_eq_add_of_le (show P ≤ xf by omega)
  exact ⟨P, Py, mx, by omega⟩

/-- The triangle inequality through the grid point `(P, Py)`, which is `(Q, Qy)` seen from the far corner: within `d`
of the origin and within `d'` of the far corner the distance is at most `d + d'`; so if it is not less, the point lies
on a shortest path, at distance `d`. -/
theorem dle_meet (a b : List α) (d d' P Py Q Qy : Nat) (hx : P + Q = a.length)
    (hy : Py + Qy = b.length) (h1 : Dle a b d P Py) (h2 : Dle a.reverse b.reverse d' Q Qy)
    (hlow : d + d' + 2 * lcsRec a b ≤ a.length + b.length) :
    Opt a b P Py ∧ P + Py = d + 2 * Lp a b P Py ∧
      a.length + b.length = d + d' + 2 * lcsRec a b := by
  unfold Dle at h1 h2
  rw [Lp_reverse_grid a b P Py Q Qy hx hy] at h2
  have tri := Lp_add_Ls_le a b P Py
  unfold Opt
  omega

/-- Conversely a point of a shortest path at distance `d` is at distance `D - d` from the far corner. -/
theorem opt_meet (a b : List α) (d d' P Py Q Qy : Nat) (hx : P + Q = a.length)
    (hy : Py + Qy = b.length) (ho : Opt a b P Py) (hg : P + Py = d + 2 * Lp a b P Py)
    (hc : a.length + b.length = d + d' + 2 * lcsRec a b) :
    Q + Qy = d' + 2 * Lp a.reverse b.reverse Q Qy := by
  rw [Lp_reverse_grid a b P Py Q Qy hx hy]
  have := ho.2.2
  omega

omit [DecidableEq α] in
theorem mirror_diag (a b : List α) (P Py Q Qy : Nat) (hx : P + Q = a.length)
    (hy : Py + Qy = b.length) : (Q : Int) - Qy = mirror a b ((P : Int) - Py) := by
  unfold mirror; omega

omit [DecidableEq α] in
/-- Why the parity of `delta` decides which loop tests: the mirrored diagonal has the parity of the other search's round
`d` if `delta` is even, of the round before if `delta` is odd. -/
theorem mirror_parity (a b : List α) (d d' : Nat) (k : Int) (hk : (k - (d : Int)) % 2 = 0)
    (h : ((b.length : Int) - a.length) % 2 = 0 ∧ d = d' ∨
      ((b.length : Int) - a.length) % 2 ≠ 0 ∧ d = d' + 1) :
    (mirror a b k - (d' : Int)) % 2 = 0 := by
  unfold mirror; omega

def GoodRes (a b : List α) (res : Int × Int × Int) : Prop :=
  ∃ ai bi mx : Nat, res = ((ai : Int), (bi : Int), (mx : Int)) ∧ GoodSplit a b ai bi mx

/-- Soundness of the overlap test `m - xr ≤ xf` in rounds that have not passed the distance: the distance is
`d + d'` and the reverse point is a good split. Both tests end here; the triple is the one both return. -/
theorem split_good (a b : List α) (d d' : Nat) (k : Int) (xf xr : Nat) (hdd : d = d' ∨ d = d' + 1)
    (hlow : d + d' + 2 * lcsRec a b ≤ a.length + b.length) (hf : FR a b d k xf)
    (hr : FR a.reverse b.reverse d' (mirror a b k) xr) (hov : a.length ≤ xf + xr) :
    GoodRes a b ((a.length : Int) - xr, (a.length : Int) - xr - k,
      (xf : Int) - ((a.length : Int) - xr)) := by
  have ⟨⟨yf, hkf, hdf⟩, _⟩ := hf
  have ⟨⟨yr, hkr, hdr⟩, _⟩ := hr
  obtain ⟨hxr, hyr⟩ := rev_in_grid a b d d' k xf yf xr yr hkf hkr hdf hdr hlow
  obtain ⟨P, Py, mx, hx, hy, rfl, rfl⟩ :=
    diag_meet a.length b.length k xf yf xr yr hkf hkr hxr hyr hov
  obtain ⟨hopt, hexact, htight⟩ := dle_meet a b d d' P Py xr yr hx hy
    (dle_diag_back a b d _ _ P Py hdf (Nat.le_add_right P mx) (by omega)) hdr hlow
  refine ⟨P, Py, mx, ?_, hopt, ⟨d, d', hdd, htight, hexact⟩, ?_,
    fr_noMatch a b d k (P + mx) (Py + mx) hf hkf⟩
  · simp only [Prod.mk.injEq]
    omega
  · -- the reverse point cannot be extended: no match just before the split
    rintro x y rfl rfl
    exact noMatch_of_reverse a b x y xr yr ((Nat.add_right_comm x xr 1).trans hx)
      ((Nat.add_right_comm y yr 1).trans hy) (fr_noMatch _ _ d' _ xr yr hr hkr)

/-- Completeness: at distance `d + d'` the point at distance `d` of a shortest path lies on a diagonal of both rounds,
and bounds the furthest reaching points of both from below. -/
theorem overlap_complete (a b : List α) (d d' : Nat)
    (hc : a.length + b.length = d + d' + 2 * lcsRec a b) :
    ∃ k : Int, InRange a.length b.length d k ∧
      InRange a.length b.length d' (mirror a b k) ∧
      ∀ xf xr : Nat, FR a b d k xf →
        FR a.reverse b.reverse d' (mirror a b k) xr → a.length ≤ xf + xr := by
  obtain ⟨px, py, ho, hg⟩ := opt_midpoint a b d (by omega)
  obtain ⟨qx, hqx⟩ := Nat.le.dest ho.1
  obtain ⟨qy, hqy⟩ := Nat.le.dest ho.2.1
  have hrev := opt_meet a b d d' px py qx qy hqx hqy ho hg hc
  have hm := mirror_diag a b px py qx qy hqx hqy
  refine ⟨(px : Int) - py,
    inRange_of_exact _ _ d px py _ ho.1 ho.2.1 (Lp_le_x a b px py) (Lp_le_y a b px py) hg,
    hm ▸ inRange_of_exact _ _ d' qx qy _ (hqx ▸ Nat.le_add_left qx px) (hqy ▸ Nat.le_add_left qy py)
      (Lp_le_x _ _ qx qy) (Lp_le_y _ _ qx qy) hrev,
    fun xf xr hf hr => ?_⟩
  exact hqx ▸ Nat.add_le_add (hf.2 px py rfl (Nat.le_of_eq hg)) (hr.2 qx qy hm (Nat.le_of_eq hrev))

structure EnvOK (e : MidEnv) (a b : List α) : Prop where
  hm : e.m = a.length
  hn : e.n = b.length
  hbase : e.base = (a.length + b.length + 2) / 2
  hdelta : e.delta = (b.length : Int) - a.length
  hodd : e.odd = true ↔ e.delta % 2 ≠ 0
  hF : EqSpec e.eqF a b
  hR : EqSpec e.eqR a.reverse b.reverse

omit [DecidableEq α] in
/-- the Go code compares elements, the model (arrays read with `[·]?`) options: inside both lists it is the same -/
theorem getElem?_eq_iff {a b : List α} {x y : Nat} (hx : x < a.length) (hy : y < b.length) :
    a[x]? = b[y]? ↔ a[x] = b[y] := by
  rw [List.getElem?_eq_getElem hx, List.getElem?_eq_getElem hy, Option.some.injEq]

theorem midEnv_ok (a b : List α) : EnvOK (midEnv a.toArray b.toArray) a b where
  hm := List.size_toArray
  hn := List.size_toArray
  hbase := by simp only [midEnv, List.size_toArray]
  hdelta := by simp only [midEnv, List.size_toArray]
  hodd := by simp only [midEnv, bne_iff_ne]
  hF := by
    intro x y hx hy
    simp only [midEnv, decide_eq_true_eq, List.getElem?_toArray]
    exact getElem?_eq_iff hx hy
  hR := by
    intro x y hx hy
    rw [List.length_reverse] at hx hy
    simp only [midEnv, decide_eq_true_eq, List.getElem?_toArray, List.size_toArray,
      List.getElem_reverse, Nat.sub_right_comm]
    exact getElem?_eq_iff (by omega) (by omega)

theorem lcsRec_le_sum (a b : List α) : 2 * lcsRec a b ≤ a.length + b.length := by
  have := lcsRec_le_left a b
  have := lcsRec_le_right a b
  omega

/-- the overlap tests compare `m - x' ≤ x` in `int` -/
theorem cast_sub_le_iff (m x' x : Nat) : (m : Int) - x' ≤ x ↔ m ≤ x + x' := by omega

section
variable {e : MidEnv} {a b : List α} (ok : EnvOK e a b)
include ok

omit [DecidableEq α] in
theorem fwdCheck_eq (ps pl : Int) (v2 : Array Nat) (k : Int) (x x' : Nat)
    (hx' : x' = v2.getD (vidx e.base (mirror a b k)) 0) :
    fwdCheck e ps pl v2 k x =
      if ((b.length : Int) - a.length) % 2 ≠ 0 ∧ ps ≤ mirror a b k ∧ mirror a b k ≤ pl ∧
        a.length ≤ x + x'
      then some ((a.length : Int) - x', (a.length : Int) - x' - k, (x : Int) - ((a.length : Int) - x'))
      else none := by
  subst hx'
  unfold fwdCheck mirror
  simp only [ok.hodd, ok.hdelta, ok.hm, cast_sub_le_iff]

omit [DecidableEq α] in
theorem revCheck_eq (start limit : Int) (v1 : Array Nat) (k : Int) (x x' : Nat)
    (hx' : x' = v1.getD (vidx e.base (mirror a b k)) 0) :
    revCheck e start limit v1 k x =
      if ((b.length : Int) - a.length) % 2 = 0 ∧ start ≤ mirror a b k ∧ mirror a b k ≤ limit ∧
        a.length ≤ x' + x
      then some ((a.length : Int) - x, (a.length : Int) - x - mirror a b k,
        (x' : Int) - ((a.length : Int) - x))
      else none := by
  subst hx'
  have hodd : e.odd = false ↔ ((b.length : Int) - a.length) % 2 = 0 := by
    rw [← ok.hdelta, ← Bool.not_eq_true, ok.hodd, Decidable.not_not]
  have hy : (e.n : Int) - (x - k) = (a.length : Int) - x - mirror a b k := by
    rw [ok.hn]; unfold mirror; omega
  unfold revCheck
  simp only [hodd, hy, ok.hm, ok.hdelta, cast_sub_le_iff]
  rfl

/-- state at the beginning of round `d`: the arrays hold the furthest reaching points of round
`d-1`, and no overlap was found so far, so the distance is at least `2d-1` -/
structure MidInv (e : MidEnv) (a b : List α) (d : Nat) (v1 v2 : Array Nat) (ps pl : Int) :
    Prop where
  size1 : 2 * e.base ≤ v1.size
  size2 : 2 * e.base ≤ v2.size
  dist : 2 * d + 2 * lcsRec a b ≤ a.length + b.length + 1
  zero : d = 0 → v1.getD (vidx e.base 1) 0 = 0 ∧ v2.getD (vidx e.base 1) 0 = 0 ∧ ps = 0 ∧ pl = 0
  succ : ∀ d0, d = d0 + 1 → VInv a b e.base v1 d0 ∧ VInv a.reverse b.reverse e.base v2 d0 ∧
    ps = roundStart b.length d0 ∧ pl = roundLimit a.length d0

variable {d : Nat} {v1 v2 : Array Nat} {ps pl : Int}

theorem fwd_detect_sound (hinv : MidInv e a b d v1 v2 ps pl) (k : Int)
    (hk : InRange a.length b.length d k) (x : Nat) (hfr : FR a b d k x) (res : Int × Int × Int)
    (hc : fwdCheck e ps pl v2 k x = some res) : GoodRes a b res := by
  rw [fwdCheck_eq ok _ _ _ _ _ _ rfl] at hc
  obtain ⟨⟨hodd, c2, c3, c4⟩, hres⟩ := Option.ite_none_right_eq_some.mp hc
  cases hres
  cases d with
  | zero =>
    -- round 0 compares with `pstart = plimit = 0`, and `k2 = -delta` is not 0: `delta` is odd
    obtain ⟨_, _, rfl, rfl⟩ := hinv.zero rfl
    have := inRange_zero hk
    unfold mirror at c2 c3
    omega
  | succ d0 =>
    obtain ⟨_, hv2, rfl, rfl⟩ := hinv.succ d0 rfl
    have hk2 : InRange a.length b.length d0 (mirror a b k) :=
      ⟨c2, c3, mirror_parity a b _ d0 k hk.2.2 (Or.inr ⟨hodd, rfl⟩)⟩
    have hrr := hv2 _ (by simpa using hk2)
    have := hinv.dist
    exact split_good a b (d0 + 1) d0 k _ _ (Or.inr rfl) (by omega) hfr hrr c4

theorem fwd_complete (hinv : MidInv e a b d v1 v2 ps pl)
    (hnone : ∀ k, InRange a.length b.length d k →
      ∃ x, FR a b d k x ∧ fwdCheck e ps pl v2 k x = none) :
    2 * d + 2 * lcsRec a b ≤ a.length + b.length := by
  apply Classical.byContradiction
  intro hlt
  have hl := lcsRec_le_sum a b
  have hdist := hinv.dist
  cases d with
  | zero => omega
  | succ d0 =>
    obtain ⟨_, hv2, rfl, rfl⟩ := hinv.succ d0 rfl
    obtain ⟨k, hk, hk2, hov⟩ := overlap_complete a b (d0 + 1) d0 (by omega)
    obtain ⟨x, hfr, h⟩ := hnone k hk
    have hle := hov _ _ hfr (hv2 _ (by simpa using hk2))
    -- so the test fires on diagonal `k`
    rw [fwdCheck_eq ok _ _ _ _ _ _ rfl, if_pos ⟨by omega, hk2.1, hk2.2.1, hle⟩] at h
    cases h

theorem rev_detect_sound (hge : 2 * d + 2 * lcsRec a b ≤ a.length + b.length)
    {v1' : Array Nat} (hv1 : VInv a b e.base v1' d)
    (k : Int) (hk : InRange a.length b.length d k) (x : Nat) (hfr : FR a.reverse b.reverse d k x)
    (res : Int × Int × Int)
    (hc : revCheck e (roundStart b.length d) (roundLimit a.length d) v1' k x = some res) :
    GoodRes a b res := by
  rw [revCheck_eq ok _ _ _ _ _ _ rfl] at hc
  obtain ⟨⟨heven, c2, c3, c4⟩, hres⟩ := Option.ite_none_right_eq_some.mp hc
  cases hres
  have hk1 : InRange a.length b.length d (mirror a b k) :=
    ⟨c2, c3, mirror_parity a b d d k hk.2.2 (Or.inl ⟨heven, rfl⟩)⟩
  exact split_good a b d d _ _ _ (Or.inl rfl) (by omega) (hv1 _ hk1) (by rwa [mirror_mirror]) c4

theorem rev_complete (hge : 2 * d + 2 * lcsRec a b ≤ a.length + b.length)
    {v1' : Array Nat} (hv1 : VInv a b e.base v1' d)
    (hnone : ∀ k, InRange a.length b.length d k → ∃ x, FR a.reverse b.reverse d k x ∧
      revCheck e (roundStart b.length d) (roundLimit a.length d) v1' k x = none) :
    2 * d + 1 + 2 * lcsRec a b ≤ a.length + b.length := by
  apply Classical.byContradiction
  intro hlt
  obtain ⟨k, hk, hk2, hov⟩ := overlap_complete a b d d (by omega)
  obtain ⟨x, hfr, h⟩ := hnone _ hk2
  have hle := hov _ _ (hv1 k hk) hfr
  -- so the test fires on diagonal `mirror a b k`
  rw [revCheck_eq ok _ _ _ _ _ _ rfl, mirror_mirror, if_pos ⟨by omega, hk.1, hk.2.1, hle⟩] at h
  cases h

theorem midLoop_spec (r d : Nat) (v1 v2 : Array Nat) (ps pl : Int) (hdr : d + r = e.base + 1)
    (hinv : MidInv e a b d v1 v2 ps pl) :
    ∃ res, midLoop e r d v1 v2 ps pl = some res ∧ GoodRes a b res := by
  induction r generalizing d v1 v2 ps pl with
  | zero =>
    -- after round `max` no overlap would put the distance above `m + n`
    have := hinv.dist
    have := ok.hbase
    have := lcsRec_le_sum a b
    omega
  | succ r ih =>
    have hdb : d ≤ e.base := by omega
    unfold midLoop fwdLoop revLoop
    rw [ok.hm, ok.hn]
    obtain ⟨v1', rF, hF, hszF, hnoneF, hsomeF⟩ := round_facts ok.hF rfl rfl e.base d (fwdCheck e ps pl v2) v1 hdb
      hinv.size1 (fun h => (hinv.zero h).1) (fun d0 h => (hinv.succ d0 h).1)
    simp only [hF]
    cases rF with
    | some res =>
      obtain ⟨k, x, hk, hfr, hc⟩ := hsomeF res rfl
      exact ⟨res, rfl, fwd_detect_sound ok hinv k hk x hfr res hc⟩
    | none =>
      simp only
      obtain ⟨fn, fv⟩ := hnoneF rfl
      have hge := fwd_complete ok hinv fn
      have hlt : d < e.base := by
        have := ok.hbase
        have := lcsRec_le_sum a b
        omega
      obtain ⟨v2', rR, hR, hszR, hnoneR, hsomeR⟩ := round_facts ok.hR List.length_reverse List.length_reverse
        e.base d (revCheck e (roundStart b.length d) (roundLimit a.length d) v1') v2 hdb hinv.size2
        (fun h => (hinv.zero h).2.1) (fun d0 h => (hinv.succ d0 h).2.1)
      simp only [hR]
      cases rR with
      | some res =>
        obtain ⟨k, x, hk, hfr, hc⟩ := hsomeR res rfl
        exact ⟨res, rfl, rev_detect_sound ok hge (fv hlt) k hk x hfr res hc⟩
      | none =>
        simp only
        obtain ⟨gn, gv⟩ := hnoneR rfl
        have hge2 := rev_complete ok hge (fv hlt) gn
        refine ih (d + 1) v1' v2' _ _ (by omega)
          ⟨by rw [hszF]; exact hinv.size1, by rw [hszR]; exact hinv.size2, by omega,
            fun h => by omega, ?_⟩
        intro d0 hd0
        obtain rfl : d0 = d := by omega
        exact ⟨fv hlt, gv hlt, rfl, rfl⟩

end

theorem midInv_init (a b : List α) :
    MidInv (midEnv a.toArray b.toArray) a b 0
      (Array.replicate (2 * (midEnv a.toArray b.toArray).base) 0)
      (Array.replicate (2 * (a.toArray.size + b.toArray.size + 2) -
        2 * (midEnv a.toArray b.toArray).base) 0) 0 0 := by
  have hb := (midEnv_ok a b).hbase
  have := lcsRec_le_sum a b
  refine ⟨Nat.le_of_eq Array.size_replicate.symm, ?_, by omega, ?_, ?_⟩
  · simp only [Array.size_replicate, List.size_toArray]
    rw [hb]; omega
  · intro _
    exact ⟨getD_replicate .., getD_replicate .., rfl, rfl⟩
  · intro d0 h; omega

theorem middleRaw_spec : GoodOracle (middleRaw (α := α)) := by
  intro a b
  obtain ⟨res, hres, ai, bi, mx, rfl, hgood⟩ :=
    midLoop_spec (midEnv_ok a b) ((midEnv a.toArray b.toArray).base + 1) 0 _ _ 0 0
      (Nat.zero_add _) (midInv_init a b)
  refine ⟨ai, bi, mx, ?_, hgood⟩
  unfold middleRaw middleRawArr
  simp only [hres]
  rw [if_neg (by omega)]
  simp only [Int.toNat_natCast]

end TmVerif.Diff
