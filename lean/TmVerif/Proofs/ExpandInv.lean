import TmVerif.Proofs.ExpandLang
/-!
C13: the predicates on expressions the invariants of the expansion (in `ExpandShape`) are made of, and what
the denotation does on them: on a plain body it is the language of its symbols (`den_flat`); it depends only
on the languages of the referenced symbols (`den_congr`) and is monotone in them (`den_mono`).
-/
namespace TmVerif.Expand

mutual
/-- a rule body `generateTables` can flatten without loss -/
def plain : Expr → Bool
  | .empty => true
  | .ref _ => true
  | .command _ => true
  | .marker _ => true
  | .seq es => plainList es
  | .arrow _ e => plain e
  | .assign _ e => plain e
  | .append _ e => plain e
  | .prec _ e => plain e
  | _ => false
def plainList : List Expr → Bool
  | [] => true
  | e :: es => plain e && plainList es
end

mutual
def refsLt (n : Nat) : Expr → Bool
  | .ref s => s < n
  | .opt e => refsLt n e
  | .seq es => refsLtList n es
  | .choice es => refsLtList n es
  | .list _ _ e s => refsLt n e && refsLt n s
  | .arrow _ e => refsLt n e
  | .assign _ e => refsLt n e
  | .append _ e => refsLt n e
  | .prec _ e => refsLt n e
  | _ => true
def refsLtList (n : Nat) : List Expr → Bool
  | [] => true
  | e :: es => refsLt n e && refsLtList n es
end

theorem plainList_cons {e : Expr} {es : List Expr} :
    plainList (e :: es) = true ↔ plain e = true ∧ plainList es = true :=
  Bool.and_eq_true_iff

theorem refsLtList_cons {n : Nat} {e : Expr} {es : List Expr} :
    refsLtList n (e :: es) = true ↔ refsLt n e = true ∧ refsLtList n es = true :=
  Bool.and_eq_true_iff

theorem refsLt_list {n : Nat} {ne rr : Bool} {e s : Expr} :
    refsLt n (.list ne rr e s) = true ↔ refsLt n e = true ∧ refsLt n s = true :=
  Bool.and_eq_true_iff

def SeqLang (ρ : Nat → Lang) : List Nat → Lang
  | [] => Lang.eps
  | s :: ss => Lang.cat (ρ s) (SeqLang ρ ss)

theorem SeqLang_append (ρ : Nat → Lang) (a b : List Nat) :
    SeqLang ρ (a ++ b) = Lang.cat (SeqLang ρ a) (SeqLang ρ b) := by
  induction a with
  | nil => exact (Lang.eps_cat _).symm
  | cons x a ih => exact (congrArg _ ih).trans (Lang.cat_assoc _ _ _).symm

theorem SeqLang_mono {ρ ρ' : Nat → Lang} (h : ∀ s, Lang.le (ρ s) (ρ' s)) (α : List Nat) :
    Lang.le (SeqLang ρ α) (SeqLang ρ' α) := by
  induction α with
  | nil => exact Lang.le_refl _
  | cons x α ih => exact Lang.cat_mono (h x) ih

theorem SeqLang_congr {ρ ρ' : Nat → Lang} (α : List Nat) (h : ∀ s ∈ α, ρ s = ρ' s) :
    SeqLang ρ α = SeqLang ρ' α := by
  induction α with
  | nil => rfl
  | cons x α ih =>
    obtain ⟨hx, h⟩ := List.forall_mem_cons.1 h
    show Lang.cat (ρ x) _ = Lang.cat (ρ' x) _
    rw [hx, ih h]

section
variable (sets : Nat → List Nat) (ρ : Nat → Lang)

mutual
theorem den_flat : ∀ (e : Expr), plain e = true → den sets ρ e = SeqLang ρ (flat e)
  | .empty, _ | .command _, _ | .marker _, _ => rfl
  | .ref _, _ => (Lang.cat_eps _).symm
  | .seq es, h => denSeq_flatList es h
  | .arrow _ e, h | .assign _ e, h | .append _ e, h | .prec _ e, h => den_flat e h
  | .opt _, h | .choice _, h | .list _ _ _ _, h | .set _, h | .lookahead _, h => nomatch h
theorem denSeq_flatList : ∀ (es : List Expr), plainList es = true →
    denSeq sets ρ es = SeqLang ρ (flatList es)
  | [], _ => rfl
  | e :: es, h => by
    rw [denSeq_cons, den_flat e (plainList_cons.1 h).1, denSeq_flatList es (plainList_cons.1 h).2]
    exact (SeqLang_append ρ _ _).symm
end

mutual
theorem flat_lt (n : Nat) : ∀ (e : Expr), refsLt n e = true → ∀ s ∈ flat e, s < n
  | .ref _, h => fun _ hs => List.mem_singleton.1 hs ▸ of_decide_eq_true h
  | .seq es, h => flatList_lt n es h
  | .arrow _ e, h | .assign _ e, h | .append _ e, h | .prec _ e, h => flat_lt n e h
  | .empty, _ | .command _, _ | .marker _, _ | .opt _, _ | .choice _, _ | .list _ _ _ _, _ | .set _, _
  | .lookahead _, _ => fun _ hs => nomatch hs
theorem flatList_lt (n : Nat) : ∀ (es : List Expr), refsLtList n es = true → ∀ s ∈ flatList es, s < n
  | [], _ => fun _ hs => nomatch hs
  | e :: es, h => fun s hs =>
    (List.mem_append.1 hs).elim (flat_lt n e (refsLtList_cons.1 h).1 s) (flatList_lt n es (refsLtList_cons.1 h).2 s)
end

end

section
variable (sets : Nat → List Nat)

mutual
theorem den_congr (n : Nat) {ρ ρ' : Nat → Lang} (h : ∀ s, s < n → ρ s = ρ' s) :
    ∀ (e : Expr), refsLt n e = true → den sets ρ e = den sets ρ' e
  | .ref s, hr => h s (of_decide_eq_true hr)
  | .opt e, hr => congrArg (Lang.union · Lang.eps) (den_congr n h e hr)
  | .seq es, hr => denSeq_congr n h es hr
  | .choice es, hr => denAlt_congr n h es hr
  | .list ne rr e s, hr => by
    rw [den_list, den_list, den_congr n h e (refsLt_list.1 hr).1, den_congr n h s (refsLt_list.1 hr).2]
  | .arrow _ e, hr | .assign _ e, hr | .append _ e, hr | .prec _ e, hr => den_congr n h e hr
  | .empty, _ | .set _, _ | .lookahead _, _ | .command _, _ | .marker _, _ => rfl
theorem denSeq_congr (n : Nat) {ρ ρ' : Nat → Lang} (h : ∀ s, s < n → ρ s = ρ' s) :
    ∀ (es : List Expr), refsLtList n es = true → denSeq sets ρ es = denSeq sets ρ' es
  | [], _ => rfl
  | e :: es, hr => by
    rw [denSeq_cons, denSeq_cons, den_congr n h e (refsLtList_cons.1 hr).1, denSeq_congr n h es (refsLtList_cons.1 hr).2]
theorem denAlt_congr (n : Nat) {ρ ρ' : Nat → Lang} (h : ∀ s, s < n → ρ s = ρ' s) :
    ∀ (es : List Expr), refsLtList n es = true → denAlt sets ρ es = denAlt sets ρ' es
  | [], _ => rfl
  | e :: es, hr => by
    rw [denAlt_cons, denAlt_cons, den_congr n h e (refsLtList_cons.1 hr).1, denAlt_congr n h es (refsLtList_cons.1 hr).2]
end

mutual
theorem den_mono {ρ ρ' : Nat → Lang} (h : ∀ s, Lang.le (ρ s) (ρ' s)) :
    ∀ (e : Expr), Lang.le (den sets ρ e) (den sets ρ' e)
  | .ref s => h s
  | .opt e => Lang.union_mono (den_mono h e) (Lang.le_refl _)
  | .seq es => denSeq_mono h es
  | .choice es => denAlt_mono h es
  | .list ne rr e s => by
    have := Lang.sepIter_mono (den_mono h e) (den_mono h s)
    cases ne
    · exact Lang.union_mono this (Lang.le_refl _)
    · exact this
  | .arrow _ e | .assign _ e | .append _ e | .prec _ e => den_mono h e
  | .empty | .set _ | .lookahead _ | .command _ | .marker _ => Lang.le_refl _
theorem denSeq_mono {ρ ρ' : Nat → Lang} (h : ∀ s, Lang.le (ρ s) (ρ' s)) :
    ∀ (es : List Expr), Lang.le (denSeq sets ρ es) (denSeq sets ρ' es)
  | [] => Lang.le_refl _
  | e :: es => Lang.cat_mono (den_mono h e) (denSeq_mono h es)
theorem denAlt_mono {ρ ρ' : Nat → Lang} (h : ∀ s, Lang.le (ρ s) (ρ' s)) :
    ∀ (es : List Expr), Lang.le (denAlt sets ρ es) (denAlt sets ρ' es)
  | [] => Lang.le_refl _
  | e :: es => Lang.union_mono (den_mono h e) (denAlt_mono h es)
end

end

mutual
theorem refsLt_mono {n m : Nat} (hnm : n ≤ m) : ∀ (e : Expr), refsLt n e = true → refsLt m e = true
  | .ref _, h => decide_eq_true (Nat.lt_of_lt_of_le (of_decide_eq_true h) hnm)
  | .seq es, h | .choice es, h => refsLtList_mono hnm es h
  | .list _ _ e s, h =>
    refsLt_list.2 ⟨refsLt_mono hnm e (refsLt_list.1 h).1, refsLt_mono hnm s (refsLt_list.1 h).2⟩
  | .opt e, h | .arrow _ e, h | .assign _ e, h | .append _ e, h | .prec _ e, h => refsLt_mono hnm e h
  | .empty, _ | .set _, _ | .lookahead _, _ | .command _, _ | .marker _, _ => rfl
theorem refsLtList_mono {n m : Nat} (hnm : n ≤ m) :
    ∀ (es : List Expr), refsLtList n es = true → refsLtList m es = true
  | [], _ => rfl
  | e :: es, h =>
    refsLtList_cons.2 ⟨refsLt_mono hnm e (refsLtList_cons.1 h).1, refsLtList_mono hnm es (refsLtList_cons.1 h).2⟩
end

theorem plainList_eq_all (l : List Expr) : plainList l = l.all plain := by
  induction l with
  | nil => rfl
  | cons x l ih => exact congrArg (plain x && ·) ih

theorem refsLtList_eq_all (n : Nat) (l : List Expr) : refsLtList n l = l.all (refsLt n) := by
  induction l with
  | nil => rfl
  | cons x l ih => exact congrArg (refsLt n x && ·) ih

theorem plainList_append (a b : List Expr) :
    plainList (a ++ b) = (plainList a && plainList b) := by
  simp only [plainList_eq_all, List.all_append]

theorem refsLtList_append (n : Nat) (a b : List Expr) :
    refsLtList n (a ++ b) = (refsLtList n a && refsLtList n b) := by
  simp only [refsLtList_eq_all, List.all_append]

theorem plainList_iff (l : List Expr) : plainList l = true ↔ ∀ a ∈ l, plain a = true := by
  rw [plainList_eq_all, List.all_eq_true]

theorem refsLtList_iff (n : Nat) (l : List Expr) : refsLtList n l = true ↔ ∀ a ∈ l, refsLt n a = true := by
  rw [refsLtList_eq_all, List.all_eq_true]

/-- what a rule body over the symbols `< n` must be for `plainRules` to read it off: `flat` loses nothing of it
(`den_flat`) and every symbol it yields is `< n` (`flat_lt`) -/
def Good (n : Nat) (e : Expr) : Prop := plain e = true ∧ refsLt n e = true

theorem Good.mono {n m : Nat} {e : Expr} (h : Good n e) (hnm : n ≤ m) : Good m e :=
  ⟨h.1, refsLt_mono hnm e h.2⟩

theorem Good.empty (n : Nat) : Good n .empty := ⟨rfl, rfl⟩

theorem concatPart_good {n : Nat} {e : Expr} (h : Good n e) : ∀ a ∈ concatPart e, Good n a := by
  -- a sequence gives its members, `Empty` nothing, anything else itself
  fun_cases concatPart e
  · exact fun a ha => ⟨(plainList_iff _).1 h.1 a ha, (refsLtList_iff n _).1 h.2 a ha⟩
  · exact nofun
  · exact List.forall_mem_singleton.2 h

theorem concat_good {n : Nat} {l : List Expr} (h : ∀ e ∈ l, Good n e) : Good n (concat l) := by
  have hall : ∀ a ∈ l.flatMap concatPart, Good n a := by
    intro a ha
    obtain ⟨e, he, hae⟩ := List.mem_flatMap.1 ha
    exact concatPart_good (h e he) a hae
  fun_cases concat l
  · exact Good.empty n
  · next x hx => exact hall x (hx ▸ List.mem_singleton_self x)
  · exact ⟨(plainList_iff _).2 fun a ha => (hall a ha).1, (refsLtList_iff n _).2 fun a ha => (hall a ha).2⟩

theorem concat_pair_good {n : Nat} {x y : Expr} (hx : Good n x) (hy : Good n y) : Good n (concat [x, y]) :=
  concat_good (List.forall_mem_cons.2 ⟨hx, List.forall_mem_singleton.2 hy⟩)

theorem multiConcat_good {n : Nat} {a b : List Expr} (ha : ∀ e ∈ a, Good n e) (hb : ∀ e ∈ b, Good n e) :
    ∀ e ∈ multiConcat a b, Good n e := by
  intro e he
  simp only [multiConcat, List.mem_flatMap, List.mem_map] at he
  obtain ⟨x, hx, y, hy, rfl⟩ := he
  exact concat_pair_good (ha _ hx) (hb _ hy)

end TmVerif.Expand
