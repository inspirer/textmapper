import TmVerif.Proofs.LexRunBasic
/-!
Decoding a text character by character: a character read from a prefix that contains it is the
character read from the whole text; the hash accumulated over the consumed characters is the
`runtimeHash` of the consumed text.
-/
namespace TmVerif.LexRun

theorem decodeRune_take (b0 : UInt8) (rest : List UInt8) (k : Nat)
    (h : (decodeRune (b0 :: rest)).2 ≤ k + 1) :
    decodeRune (b0 :: rest.take k) = decodeRune (b0 :: rest) := by
  by_cases h0 : b0.toNat < 0x80
  · rw [decodeRune_ascii _ h0, decodeRune_ascii _ h0]
  have hr := leadInfo_row _ b0.toNat_lt
  rcases hrow : leadInfo b0.toNat with ⟨sz, lo, hi⟩
  simp only [hrow] at hr
  rcases hr with hz | ⟨hsz2, hsz4, -⟩
  · rw [decodeRune_err h0 hrow (Or.inl hz), decodeRune_err h0 hrow (Or.inl hz)]
  have hsz' : sz = 2 ∨ sz = 3 ∨ sz = 4 := by omega
  match rest, k with
  | [], _ => rw [List.take_nil]
  | b1 :: r2, k =>
    by_cases hb1 : b1.toNat < lo ∨ hi < b1.toNat
    · rw [decodeRune_err h0 hrow (Or.inr (Or.inr ⟨b1, r2, rfl, hb1⟩))]
      cases k with
      | zero => exact decodeRune_err h0 hrow (Or.inr (Or.inl rfl))
      | succ k => exact decodeRune_err h0 hrow (Or.inr (Or.inr ⟨b1, _, rfl, hb1⟩))
    rw [decodeRune_cont h0 hrow hsz' hb1] at h ⊢
    -- `res` yields a character of `sz` bytes, which `h` allows only if `sz ≤ k + 1`
    generalize hres : readCont (sz - 2) (b0.toNat % 2 ^ (7 - sz) * 64 + b1.toNat % 64) r2 = res at h
    have hshort : ¬ sz ≤ k + 1 → res = none := fun hk => by
      cases res with
      | none => rfl
      | some v => exact absurd h hk
    cases k with
    | zero =>
      rw [List.take_zero, decodeRune_err h0 hrow (Or.inr (Or.inl rfl)), hshort (by omega)]
    | succ k =>
      rw [List.take_succ_cons, decodeRune_cont h0 hrow hsz' hb1, readCont_take, hres]
      by_cases hk : sz - 2 ≤ k
      · rw [if_pos hk]
      · rw [if_neg hk, hshort (by omega)]

theorem readChar_take (sb : Bool) (s : List UInt8) (k : Nat) (h : (readChar sb s).2 ≤ k) :
    readChar sb (s.take k) = readChar sb s := by
  cases s with
  | nil => simp
  | cons b rest =>
    have hw := (readChar_spec sb b rest).1
    obtain ⟨k, rfl⟩ : ∃ k', k = k' + 1 := ⟨k - 1, by omega⟩
    rw [List.take_succ_cons, readChar_cons, readChar_cons]
    rw [readChar_cons] at h
    split
    · rename_i hb
      rw [if_pos hb] at h
      exact decodeRune_take b rest k h
    · rfl

def chars (sb : Bool) (s : List UInt8) : List (Int × Nat) := decodeAll sb s.length s

theorem decodeAll_nil (sb : Bool) (n : Nat) : decodeAll sb n [] = [] := by
  cases n <;> rfl

theorem decodeAll_fuel (sb : Bool) (n m : Nat) (s : List UInt8) (hn : s.length ≤ n) (hm : s.length ≤ m) :
    decodeAll sb n s = decodeAll sb m s := by
  fun_induction decodeAll sb n s generalizing m
  case case1 s =>
    -- no fuel: the text is empty
    rw [List.length_eq_zero_iff.mp (Nat.le_zero.mp hn), decodeAll_nil]
  case case2 => rw [decodeAll_nil]
  case case3 fuel b rest c ih =>
    -- a character `c`: what is left behind it is shorter than either fuel
    have hw : 1 ≤ c.2 := (readChar_spec sb b rest).1
    have hl : ((b :: rest).drop c.2).length ≤ rest.length := by
      simp only [List.length_drop, List.length_cons]; omega
    simp only [List.length_cons] at hn hm
    obtain ⟨m, rfl⟩ : ∃ m', m = m' + 1 := ⟨m - 1, by omega⟩
    rw [ih m (by omega) (by omega)]
    rfl

theorem chars_nil (sb : Bool) : chars sb [] = [] := rfl

theorem chars_cons (sb : Bool) {s : List UInt8} (hs : s ≠ []) :
    chars sb s = readChar sb s :: chars sb (s.drop (readChar sb s).2) := by
  obtain ⟨b, rest, rfl⟩ := List.exists_cons_of_ne_nil hs
  have hw := (readChar_spec sb b rest).1
  unfold chars
  simp only [List.length_cons, decodeAll]
  congr 1
  apply decodeAll_fuel _ _ _ _ ?_ (Nat.le_refl _)
  simp only [List.length_drop, List.length_cons]; omega

theorem runtimeHash_chars (sb : Bool) (s : List UInt8) :
    runtimeHash sb s = ((chars sb s).map (·.1)).foldl hashStep 0 := rfl

/-- `k` is the offset of a character boundary of `s` (as the lexer reads it). -/
inductive Boundary (sb : Bool) : List UInt8 → Nat → Prop
  | zero (s : List UInt8) : Boundary sb s 0
  | step (b : UInt8) (rest : List UInt8) (k : Nat) :
      Boundary sb ((b :: rest).drop (readChar sb (b :: rest)).2) k →
      Boundary sb (b :: rest) ((readChar sb (b :: rest)).2 + k)

theorem Boundary.le {sb : Bool} {s : List UInt8} {k : Nat} (h : Boundary sb s k) : k ≤ s.length := by
  induction h with
  | zero s => exact Nat.zero_le _
  | step b rest k _ ih =>
    have hw := (readChar_spec sb b rest).2.1
    simp only [List.length_drop, List.length_cons] at ih ⊢
    omega

theorem chars_take_cons (sb : Bool) (b : UInt8) (rest : List UInt8) (n : Nat) :
    chars sb ((b :: rest).take ((readChar sb (b :: rest)).2 + n)) =
      readChar sb (b :: rest) :: chars sb (((b :: rest).drop (readChar sb (b :: rest)).2).take n) := by
  have hw := (readChar_spec sb b rest).1
  have hne : (b :: rest).take ((readChar sb (b :: rest)).2 + n) ≠ [] := fun h =>
    (List.take_eq_nil_iff.mp h).elim (by omega) (List.cons_ne_nil _ _)
  rw [chars_cons sb hne, readChar_take sb (b :: rest) _ (Nat.le_add_right _ _), List.drop_take,
    Nat.add_sub_cancel_left]

theorem chars_take_extend (sb : Bool) {s : List UInt8} {k : Nat} (h : Boundary sb s k) :
    ∀ (b : UInt8) (rest : List UInt8), s.drop k = b :: rest →
    Boundary sb s (k + (readChar sb (b :: rest)).2) ∧
    chars sb (s.take (k + (readChar sb (b :: rest)).2)) = chars sb (s.take k) ++ [readChar sb (b :: rest)] := by
  induction h with
  | zero s =>
    intro b rest hd
    rw [List.drop_zero] at hd
    subst hd
    refine ⟨?_, ?_⟩
    · have := Boundary.step (sb := sb) b rest 0 (Boundary.zero _)
      simpa [Nat.add_comm] using this
    · rw [Nat.zero_add, ← Nat.add_zero (readChar sb (b :: rest)).2, chars_take_cons]
      rfl
  | step b0 rest0 k' hb ih =>
    intro b rest hd
    rw [← List.drop_drop] at hd
    obtain ⟨i1, i2⟩ := ih b rest hd
    refine ⟨?_, ?_⟩
    · have := Boundary.step (sb := sb) b0 rest0 _ i1
      simpa [Nat.add_assoc] using this
    · rw [Nat.add_assoc, chars_take_cons, chars_take_cons, i2]
      rfl

theorem runtimeHash_extend (sb : Bool) {s : List UInt8} {k : Nat} (h : Boundary sb s k)
    (b : UInt8) (rest : List UInt8) (hd : s.drop k = b :: rest) :
    runtimeHash sb (s.take (k + (readChar sb (b :: rest)).2)) =
      hashStep (runtimeHash sb (s.take k)) (readChar sb (b :: rest)).1 := by
  rw [runtimeHash_chars, runtimeHash_chars, (chars_take_extend sb h b rest hd).2]
  simp [List.foldl_append]

end TmVerif.LexRun
