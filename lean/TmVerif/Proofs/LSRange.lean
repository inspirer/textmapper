import TmVerif.Proofs.LSPos
/-!
C23 — outgoing ranges of the language server model: slices and `cutNL`, `lineCol` and `utf16Pos` along a
line, the `uint32` arithmetic shared by `typecheck` and `id.Location`, `diagRange`.
-/
namespace TmVerif.LS

theorem slice_length (c : Bytes) {a b : Nat} (hb : b ≤ c.length) : (slice c a b).length = b - a := by
  unfold slice
  rw [List.length_take, List.length_drop, Nat.min_eq_left (Nat.sub_le_sub_right hb a)]

theorem slice_take (c : Bytes) (a b n : Nat) (h : n ≤ b - a) : (slice c a b).take n = slice c a (a + n) := by
  unfold slice
  rw [List.take_take, Nat.min_eq_left h, Nat.add_sub_cancel_left]

theorem mem_slice_of_le (c : Bytes) (a : Nat) {b b' x : Nat} (h : b ≤ b') (hx : x ∈ slice c a b) :
    x ∈ slice c a b' := by
  unfold slice at hx ⊢
  rw [← Nat.min_eq_left (Nat.sub_le_sub_right h a), ← List.take_take] at hx
  exact List.mem_of_mem_take hx

theorem slice_at (pre seg post : Bytes) (n : Nat) :
    slice (pre ++ seg ++ post) (pre.length + seg.length) (pre.length + seg.length + n) = post.take n := by
  unfold slice
  rw [drop_decomp, Nat.add_sub_cancel_left]

theorem cutNL_spec (x : Bytes) : cutNL x = x.take (cutNL x).length ∧ NoNL (cutNL x) := by
  induction x with
  | nil => exact ⟨rfl, fun x hx => nomatch hx⟩
  | cons b t ih =>
    by_cases hb : b = 10
    · simp only [cutNL, if_pos hb]; exact ⟨rfl, fun x hx => nomatch hx⟩
    · simp only [cutNL, if_neg hb, List.length_cons, List.take_succ_cons]
      exact ⟨by rw [← ih.1], List.forall_mem_cons.2 ⟨hb, ih.2⟩⟩

/-- `rng` of `typecheck` in terms of offsets: `content[a:b]` up to its first newline is `content[a:a+n]`. -/
theorem slice_cutNL (c : Bytes) {a b : Nat} (hab : a ≤ b) (hb : b ≤ c.length) :
    a + (cutNL (slice c a b)).length ≤ c.length ∧
    slice c a (a + (cutNL (slice c a b)).length) = cutNL (slice c a b) := by
  have hs := (cutNL_spec (slice c a b)).1
  have hle : (cutNL (slice c a b)).length ≤ b - a := by
    have := congrArg List.length hs
    rw [List.length_take, slice_length c hb] at this
    exact this ▸ Nat.min_le_right _ _
  exact ⟨Nat.le_trans (Nat.add_le_add_left hle a) (Nat.le_trans (Nat.le_of_eq (Nat.add_sub_cancel' hab)) hb),
    by rw [← slice_take c a b _ hle, ← hs]⟩

theorem lineCol_le (c : Bytes) (off : Nat) : (lineCol c off).1 ≤ nlCount c ∧ (lineCol c off).2 ≤ off := by
  have hle := lineColFrom_le c 0 0 off
  rwa [Nat.zero_add, Nat.zero_add] at hle

theorem lineCol_along_line (c : Bytes) (off n : Nat) (hn : off + n ≤ c.length)
    (hnl : NoNL (slice c off (off + n))) :
    lineCol c (off + n) = ((lineCol c off).1, (lineCol c off).2 + n) := by
  refine lineColFrom_add off c 0 0 n hn ?_
  unfold slice at hnl
  rwa [Nat.add_sub_cancel_left] at hnl

theorem utf16Len_append_Bnd {seg post : Bytes} {u : Nat} (h : Bnd (seg ++ post) seg.length u) (n : Nat) :
    utf16Len (seg ++ post.take n) = utf16Len seg + utf16Len (post.take n) := by
  have h1 := Bnd_take h (seg.length + n) (Nat.le_add_right _ _)
  rw [List.take_length_add_append] at h1
  rw [utf16Len_Bnd h1, List.drop_left, Bnd_seg_units h]

theorem utf16Pos_along_line (c : Bytes) (off n : Nat) (hb : RuneBoundary c off) (hn : off + n ≤ c.length)
    (hnl : NoNL (slice c off (off + n))) :
    utf16Pos c (off + n) = ((utf16Pos c off).1, (utf16Pos c off).2 + utf16Len (slice c off (off + n))) := by
  obtain ⟨pre, seg, post, u, rfl, rfl, hp, hbnd⟩ := hb
  rw [slice_at] at hnl ⊢
  have hs := Bnd_seg_noNL hbnd
  have hlen : (post.take n).length = n := by
    simp only [List.length_append] at hn
    rw [List.length_take]; omega
  have hs2 : NoNL (seg ++ post.take n) := List.forall_mem_append.2 ⟨hs, hnl⟩
  have h2 := utf16Pos_decomp pre (seg ++ post.take n) (post.drop n) hp hs2
  rw [List.append_assoc pre, List.append_assoc seg, List.take_append_drop, ← List.append_assoc,
    List.length_append, hlen, ← Nat.add_assoc] at h2
  rw [utf16Pos_decomp pre seg post hp hs, h2, utf16Len_append_Bnd hbnd n]

theorem utf16Pos_col_le (c : Bytes) (off : Nat) (h : off ≤ c.length) : (utf16Pos c off).2 ≤ off := by
  have := utf16Len_le_length (slice c (off - (lineCol c off).2) off)
  rw [slice_length c h] at this
  exact Nat.le_trans this (Nat.sub_le _ _)

theorem utf16Pos_ascii (c : Bytes) (off : Nat) (h : off ≤ c.length)
    (ha : ∀ x ∈ slice c (off - (lineCol c off).2) off, x < 0x80) : utf16Pos c off = lineCol c off := by
  unfold utf16Pos
  simp only
  rw [utf16Len_ascii _ ha, slice_length c h, Nat.sub_sub_self (lineCol_le c off).2]

theorem toU32_cast (k : Nat) (h : k < 4294967296) : toU32 (k : Int) = k :=
  congrArg Int.toNat (Int.emod_eq_of_lt (Int.natCast_nonneg k) (Int.ofNat_lt.2 h))

/-- A 1-based line number and a 0-based start column `s` of something inside a text of less than 2^32 bytes
survive the conversions `uint32(line - 1)`, `uint32(s)`, `uint32(s + n)`. -/
theorem u32_range {line s : Int} {l k : Nat} (n : Nat) (hl : line = l + 1) (hs : s = k)
    (hl32 : l < 4294967296) (hk32 : k + n < 4294967296) :
    (⟨⟨toU32 (line - 1), toU32 s⟩, ⟨toU32 (line - 1), toU32 (s + n)⟩⟩ : Range) = ⟨⟨l, k⟩, ⟨l, k + n⟩⟩ := by
  rw [hl, hs, Int.add_sub_cancel, ← Int.natCast_add, toU32_cast l hl32, toU32_cast k (by omega),
    toU32_cast (k + n) hk32]

theorem utf16Col_eq (c : Bytes) (off k : Nat) (hle : k ≤ off) (hoff : off ≤ c.length) :
    utf16Col c off k = utf16Len (slice c (off - k) off) := by
  unfold utf16Col
  by_cases h0 : k = 0
  · simp [h0, slice, utf16Len_nil]
  · have h1 : ¬ ((k : Int) ≤ 0 ∨ (k : Int) > off ∨ (off : Int) > c.length) := by omega
    rw [if_neg h1, Int.toNat_sub, Int.toNat_natCast]

theorem mapM?_ne_none {α β : Type} (f : α → Option β) (l : List α) (h : ∀ a ∈ l, f a ≠ none) :
    mapM? f l ≠ none := by
  induction l with
  | nil => exact fun h => nomatch h
  | cons a l ih =>
    cases hfa : f a with
    | none => exact absurd hfa (h a (by simp))
    | some b =>
      cases hml : mapM? f l with
      | none => exact absurd hml (ih fun x hx => h x (by simp [hx]))
      | some r => simp [mapM?, hfa, hml]

/-- The origin of a problem is a valid slice of the text (`0 ≤ Offset ≤ EndOffset ≤ len`). -/
def Problem.SliceOk (c : Bytes) : Problem → Prop
  | .status o => 0 ≤ o.off ∧ o.off ≤ o.stop ∧ o.stop ≤ c.length
  | .syntax _ _ => True

def mkPos (p : Nat × Nat) : Pos := ⟨p.1, p.2⟩

/-- Length of the part of `content[off:stop]` before the first newline (`len(rng)` in `typecheck`). -/
def rngLen (c : Bytes) (o : Origin) : Nat := (cutNL (slice c o.off.toNat o.stop.toNat)).length

/-- An origin of the document as a stretch of one line: the `rngLen c o` bytes from `o.off`. -/
theorem Origin.inDoc_stretch {c : Bytes} {o : Origin} (h : o.inDoc c = true) :
    0 ≤ o.off ∧ o.off.toNat + rngLen c o ≤ c.length ∧
    slice c o.off.toNat (o.off.toNat + rngLen c o) = cutNL (slice c o.off.toNat o.stop.toNat) ∧
    NoNL (slice c o.off.toNat (o.off.toNat + rngLen c o)) ∧
    o.line = (lineCol c o.off.toNat).1 + 1 ∧ o.col = (lineCol c o.off.toNat).2 + 1 := by
  simp only [Origin.inDoc, decide_eq_true_eq] at h
  obtain ⟨h0, h1, h2, h3, h4⟩ := h
  obtain ⟨hle, hs⟩ := slice_cutNL c (Int.toNat_le_toNat h1) (Int.toNat_le.2 h2)
  exact ⟨h0, hle, hs, by rw [rngLen, hs]; exact (cutNL_spec _).2, h3, h4⟩

/-- What `typecheck` publishes for an origin of the text: the slice is valid and the line is at least 1, so one of
the two column computations is reached. -/
theorem diagRange_inDoc (m : Mode) (c : Bytes) (o : Origin) (h : o.inDoc c = true) :
    diagRange m c o = some (if m.diagUtf16 = true then
        ⟨⟨toU32 (o.line - 1), toU32 (utf16Col c o.off (o.col - 1))⟩, ⟨toU32 (o.line - 1),
          toU32 (utf16Col c o.off (o.col - 1) + utf16Len (cutNL (slice c o.off.toNat o.stop.toNat)))⟩⟩
      else ⟨⟨toU32 (o.line - 1), toU32 (o.col - 1)⟩, ⟨toU32 (o.line - 1), toU32 (o.col - 1 + rngLen c o)⟩⟩) := by
  simp only [Origin.inDoc, decide_eq_true_eq] at h
  obtain ⟨h0, h1, h2, h3, _⟩ := h
  have hline : ¬ (m.synFixed = true ∧ o.line ≤ 0) := fun hc => by rw [h3] at hc; omega
  unfold diagRange
  rw [if_pos ⟨h0, h1, h2⟩]
  simp only [hline, if_false, rngLen]
  split <;> rfl

theorem diagRange_ne_none (m : Mode) (c : Bytes) (o : Origin)
    (h : 0 ≤ o.off ∧ o.off ≤ o.stop ∧ o.stop ≤ c.length) : diagRange m c o ≠ none := by
  fun_cases diagRange m c o
  case case4 hn => exact absurd h hn -- the slice expression panics
  all_goals nofun

/-! A stretch `off .. off + n` of one line of a text below 4 GiB, `line` and `col` the 1-based line and byte
column of `off` as origins and identifiers carry them. -/
section stretch
variable (c : Bytes) (off n : Nat) {line col : Int} (hlen : c.length < 4294967296)
  (hn : off + n ≤ c.length) (hnl : NoNL (slice c off (off + n)))
  (hline : line = (lineCol c off).1 + 1) (hcol : col = (lineCol c off).2 + 1)
include hlen hn hnl hline hcol

/-- The column arithmetic of the code as it is yields `(line, byte column)` of both ends. -/
theorem u32_range_bytes :
    (⟨⟨toU32 (line - 1), toU32 (col - 1)⟩, ⟨toU32 (line - 1), toU32 (col - 1 + n)⟩⟩ : Range) =
      ⟨mkPos (lineCol c off), mkPos (lineCol c (off + n))⟩ := by
  obtain ⟨hl3, hl2⟩ := lineCol_le c off
  rw [lineCol_along_line c off n hn hnl]
  exact u32_range n hline (by rw [hcol, Int.add_sub_cancel])
    (Nat.lt_of_le_of_lt (Nat.le_trans hl3 (nlCount_le_length c)) hlen)
    (Nat.lt_of_le_of_lt (Nat.le_trans (Nat.add_le_add_right hl2 n) hn) hlen)

/-- The repaired column arithmetic, when the stretch starts on a rune boundary, yields the UTF-16 positions
of both ends (line and column stay below 2^32 because neither exceeds the byte offset). -/
theorem u32_range_utf16 (hb : RuneBoundary c off) :
    (⟨⟨toU32 (line - 1), toU32 (utf16Col c off (col - 1))⟩,
      ⟨toU32 (line - 1), toU32 (utf16Col c off (col - 1) + utf16Len (slice c off (off + n)))⟩⟩ : Range) =
      ⟨mkPos (utf16Pos c off), mkPos (utf16Pos c (off + n))⟩ := by
  obtain ⟨hl3, hl2⟩ := lineCol_le c off
  have hoff : off ≤ c.length := Nat.le_trans (Nat.le_add_right off n) hn
  have hlu := utf16Len_le_length (slice c off (off + n))
  rw [slice_length c hn, Nat.add_sub_cancel_left] at hlu
  rw [utf16Pos_along_line c off n hb hn hnl]
  exact u32_range _ hline (by rw [hcol, Int.add_sub_cancel, utf16Col_eq c off _ hl2 hoff]; rfl)
    (Nat.lt_of_le_of_lt (Nat.le_trans hl3 (nlCount_le_length c)) hlen)
    (Nat.lt_of_le_of_lt (Nat.le_trans (Nat.add_le_add (utf16Pos_col_le c off hoff) hlu) hn) hlen)

end stretch

/-- An identifier of the document as a stretch of one line: `stop = off + n`, in the terms of the section above. -/
theorem Ident.inDoc_stretch {c : Bytes} {i : Ident} (h : i.inDoc c = true) :
    ∃ n, i.stop = i.off + n ∧ i.off + n ≤ c.length ∧ NoNL (slice c i.off (i.off + n)) ∧
      i.line = (lineCol c i.off).1 + 1 ∧ i.col = (lineCol c i.off).2 + 1 := by
  simp only [Ident.inDoc, decide_eq_true_eq] at h
  obtain ⟨h1, h2, h3, h4, h5⟩ := h
  have hst := (Nat.add_sub_cancel' h1).symm
  exact ⟨i.stop - i.off, hst, hst ▸ h2, hst ▸ h3, h4, h5⟩

end TmVerif.LS
