import TmVerif.Proofs.GraphScc
/-!
C26: the mirror of `Tarjan` (tarjan.go) reports exactly the strongly connected
components in reverse topological order, for every well-formed graph with at least two vertices.
The invariants follow Chen, Cohen, Lévy, Merz, Théry, "Formal proofs of Tarjan's strongly connected
components algorithm in Why3, Coq and Isabelle" (ITP 2019), adapted to the imperative state
(index / lowLink / onStack arrays, explicit stack, implicit call chain passed as a ghost list `gs`).
-/
namespace TmVerif.Graph

@[simp] theorem TS.setLow_idx (s : TS) (v : Nat) (x : Int) (w : Nat) : (s.setLow v x).idx w = s.idx w := rfl
@[simp] theorem TS.setLow_on (s : TS) (v : Nat) (x : Int) (w : Nat) : (s.setLow v x).on w = s.on w := rfl
@[simp] theorem TS.setLow_stack (s : TS) (v : Nat) (x : Int) : (s.setLow v x).stack = s.stack := rfl
@[simp] theorem TS.setLow_out (s : TS) (v : Nat) (x : Int) : (s.setLow v x).out = s.out := rfl
@[simp] theorem TS.setLow_curr (s : TS) (v : Nat) (x : Int) : (s.setLow v x).curr = s.curr := rfl
@[simp] theorem TS.setLow_index (s : TS) (v : Nat) (x : Int) : (s.setLow v x).index = s.index := rfl
@[simp] theorem TS.setLow_onStack (s : TS) (v : Nat) (x : Int) : (s.setLow v x).onStack = s.onStack := rfl

theorem TS.setLow_low (s : TS) (v : Nat) (x : Int) (w : Nat) :
    (s.setLow v x).low w = if w = v ∧ v < s.lowLink.length then x else s.low w := by
  unfold TS.setLow TS.low
  exact getD_set _ _ _ _ _

theorem TS.push_idx (s : TS) {v : Nat} (hv : v < s.index.length) (w : Nat) :
    (s.push v).idx w = if w = v then s.curr else s.idx w := by
  unfold TS.push TS.idx
  simp only [getD_set, hv, and_true]

theorem TS.push_low (s : TS) {v : Nat} (hv : v < s.lowLink.length) (w : Nat) :
    (s.push v).low w = if w = v then s.curr else s.low w := by
  unfold TS.push TS.low
  simp only [getD_set, hv, and_true]

theorem TS.push_on (s : TS) {v : Nat} (hv : v < s.onStack.length) (w : Nat) :
    (s.push v).on w = if w = v then true else s.on w := by
  unfold TS.push TS.on
  simp only [getD_set, hv, and_true]

@[simp] theorem TS.push_stack (s : TS) (v : Nat) : (s.push v).stack = v :: s.stack := rfl
@[simp] theorem TS.push_out (s : TS) (v : Nat) : (s.push v).out = s.out := rfl
@[simp] theorem TS.push_curr (s : TS) (v : Nat) : (s.push v).curr = s.curr + 1 := rfl

theorem clearAll_length (on : List Bool) (l : List Nat) : (clearAll on l).length = on.length := by
  induction l generalizing on with
  | nil => rfl
  | cons v vs ih => simp [clearAll, ih]

theorem clearAll_getD (on : List Bool) (l : List Nat) (w : Nat) :
    (clearAll on l)[w]?.getD false = true ↔ on[w]?.getD false = true ∧ w ∉ l := by
  induction l generalizing on with
  | nil => simp [clearAll]
  | cons v vs ih =>
    rw [clearAll, ih, getD_set, List.mem_cons, not_or]
    by_cases h1 : w = v
    · subst h1
      by_cases h2 : w < on.length
      · simp [h2]
      · simp [h2]
    · simp [h1]

def TS.unv (s : TS) : Nat := s.index.countP (· == -1)

theorem countP_set_succ {α} {p : α → Bool} {l : List α} {i : Nat} (hi : i < l.length) {a : α}
    (h1 : p l[i] = true) (h2 : p a = false) : (l.set i a).countP p + 1 = l.countP p := by
  rw [List.countP_set hi, h1, h2, if_pos rfl, if_neg Bool.false_ne_true, Nat.add_zero]
  exact Nat.sub_add_cancel (List.countP_pos_iff.2 ⟨_, List.getElem_mem hi, h1⟩)

theorem TS.unv_le (s : TS) : s.unv ≤ s.index.length := List.countP_le_length

def TS.comps (s : TS) : List (List Nat) := s.out.map (·.1)
def TS.D (s : TS) : List Nat := s.comps.flatten

def Closed (g : Graph) (S : List Nat) : Prop := ∀ u ∈ S, ∀ w, Edge g u w → w ∈ S

theorem Closed.reach {g : Graph} {S : List Nat} (h : Closed g S) {u w : Nat} (hu : u ∈ S)
    (r : Reach g u w) : w ∈ S :=
  r.elim (· ▸ hu) (transGen_closed h hu)

/-- `cs` (most recent first): strongly connected components reported in reverse topological order -/
def OutOk (g : Graph) : List (List Nat) → Prop
  | [] => True
  | c :: rest => OutOk g rest ∧ c ≠ [] ∧ c.Nodup ∧ (∀ x ∈ c, x ∉ rest.flatten) ∧
      (∀ u ∈ c, ∀ w, w ∈ c ↔ SC g u w) ∧ Closed g (c ++ rest.flatten)

theorem OutOk.closed {g : Graph} : ∀ {cs : List (List Nat)}, OutOk g cs → Closed g cs.flatten
  | [], _ => fun u hu => by cases hu
  | c :: rest, h => by simpa using h.2.2.2.2.2

theorem OutOk.nodup {g : Graph} : ∀ {cs : List (List Nat)}, OutOk g cs → cs.flatten.Nodup
  | [], _ => by simp
  | c :: rest, h => by
    simp only [List.flatten_cons]
    rw [List.nodup_append]
    exact ⟨h.2.2.1, OutOk.nodup h.1, fun a ha b hb hab => h.2.2.2.1 a ha (hab ▸ hb)⟩

theorem OutOk.order {g : Graph} : ∀ {cs : List (List Nat)}, OutOk g cs →
    cs.Pairwise fun c d => ∀ u ∈ d, ∀ v ∈ c, ¬ Reach g u v
  | [], _ => .nil
  | _ :: _, h => List.pairwise_cons.2 ⟨fun d hd _ hu v hv r =>
      h.2.2.2.1 v hv (h.1.closed.reach (List.mem_flatten.2 ⟨d, hd, hu⟩) r), OutOk.order h.1⟩

theorem OutOk.scc {g : Graph} : ∀ {cs : List (List Nat)}, OutOk g cs →
    ∀ c ∈ cs, c ≠ [] ∧ ∀ u ∈ c, ∀ w, w ∈ c ↔ SC g u w
  | [], _, c, hc => by cases hc
  | c' :: rest, h, c, hc => by
    simp only [List.mem_cons] at hc
    rcases hc with rfl | hc
    · exact ⟨h.2.1, h.2.2.2.2.1⟩
    · exact OutOk.scc h.1 c hc

theorem OutOk.isSccOrder {g : Graph} {cs : List (List Nat)} (h : OutOk g cs)
    (hcov : ∀ v, v ∈ cs.flatten ↔ v < g.length) : IsSccOrder g cs.reverse := by
  have hnd := h.nodup
  refine ⟨(List.reverse_perm cs).flatten.nodup_iff.2 hnd, ?_, ?_, ?_, ?_⟩
  · intro v
    rw [← hcov v]
    simp only [List.mem_flatten, List.mem_reverse]
  · intro c hc; exact (h.scc c (List.mem_reverse.1 hc)).1
  · intro c hc; exact (h.scc c (List.mem_reverse.1 hc)).2
  · intro i j hi hj u v hu hv r
    exact Nat.le_of_not_lt fun hlt =>
      List.pairwise_iff_getElem.1 (List.pairwise_reverse.2 h.order) i j hi hj hlt u hu v hv r

/-- the `onStack` argument of one callback invocation is exact on the successors of the component:
what `set.Closure.closure` relies on when it asks `onStack.Get(w)` for a successor `w` of a vertex of the
component it was just given. (`onStack` also holds the vertices of unfinished components further down the
stack, but no edge of the reported component leads there: such an edge would make the two components one.) -/
def SnapOk (g : Graph) (e : List Nat × List Nat) : Prop :=
  ∀ v ∈ e.1, ∀ w, Edge g v w → (w ∈ e.2 ↔ w ∈ e.1)

/-- The invariant of the whole run. `gs` is a ghost: the vertices whose `strongConnect` call is still
open, innermost first (the "gray" vertices of Chen et al.); the stack also holds finished vertices that
wait for the root of their component ("black"). `s.D` are the vertices already reported. -/
structure TInv (g : Graph) (gs : List Nat) (s : TS) : Prop where
  lenI : s.index.length = g.length
  lenL : s.lowLink.length = g.length
  lenO : s.onStack.length = g.length
  currNN : 0 ≤ s.curr
  stCurr : ∀ v ∈ s.stack, s.idx v < s.curr
  /-- the stack is in visiting order, newest on top, and each vertex on it reaches the newer ones -/
  stOrd : s.stack.Pairwise (fun a b => s.idx b < s.idx a ∧ Reach g b a)
  onIff : ∀ v, s.on v = true ↔ v ∈ s.stack
  vis : ∀ v, v ∈ s.stack ∨ v ∈ s.D ↔ v < g.length ∧ s.idx v ≠ -1
  disj : ∀ v ∈ s.stack, v ∉ s.D
  outOk : OutOk g s.comps
  gsSub : ∀ z ∈ gs, z ∈ s.stack
  /-- every stack vertex reaches back to an open call that is not newer: it may still join that call's component -/
  gray : ∀ y ∈ s.stack, ∃ z ∈ gs, s.idx z ≤ s.idx y ∧ Reach g y z
  /-- a finished ("black") vertex has no unvisited successor: whoever has one is an open call -/
  black : ∀ u ∈ s.stack, ∀ w, Edge g u w → s.idx w = -1 → u ∈ gs
  snap : ∀ e ∈ s.out, SnapOk g e

section
variable {g : Graph} {gs : List Nat} {s : TS}

theorem TInv.stLt (h : TInv g gs s) : ∀ v ∈ s.stack, v < g.length :=
  fun v hv => ((h.vis v).1 (.inl hv)).1

theorem TInv.stVis (h : TInv g gs s) : ∀ v ∈ s.stack, s.idx v ≠ -1 :=
  fun v hv => ((h.vis v).1 (.inl hv)).2

theorem TInv.setLow (h : TInv g gs s) (v : Nat) (x : Int) : TInv g gs (s.setLow v x) :=
  { h with lenL := by simp [TS.setLow, h.lenL] }

theorem TInv.setLow_low (h : TInv g gs s) {u : Nat} (hu : u < g.length) (m : Int) :
    (s.setLow u m).low u = m := by
  rw [TS.setLow_low]; simp [h.lenL, hu]

theorem TInv.nodup (h : TInv g gs s) : s.stack.Nodup :=
  h.stOrd.imp (fun hab e => by subst e; exact Int.lt_irrefl _ hab.1)

theorem TInv.stReach (h : TInv g gs s) : ∀ a ∈ s.stack, ∀ b ∈ s.stack, s.idx a ≤ s.idx b → Reach g a b :=
  fun _ ha _ hb => List.Pairwise.forall_of_forall_of_flip (R := fun a b => s.idx a ≤ s.idx b → Reach g a b)
    (fun _ _ _ => Reach.refl _ _) (h.stOrd.imp fun hab hle => absurd hle (Int.not_le.2 hab.1))
    (h.stOrd.imp fun hab _ => hab.2) ha hb

theorem TInv.curr_ne (h : TInv g gs s) : s.curr ≠ -1 := by
  have := h.currNN; omega

theorem TInv.push_unv (h : TInv g gs s) {v : Nat} (hv : v < g.length) (hidx : s.idx v = -1) :
    (s.push v).unv + 1 ≤ s.unv := by
  have hv : v < s.index.length := h.lenI ▸ hv
  refine Nat.le_of_eq (countP_set_succ hv ?_ (beq_eq_false_iff_ne.2 h.curr_ne))
  unfold TS.idx at hidx
  rw [List.getElem?_eq_getElem hv] at hidx
  exact beq_iff_eq.2 hidx

theorem TInv.push (h : TInv g gs s) {v : Nat}
    (hv : v < g.length) (hidx : s.idx v = -1) (hreach : ∀ y ∈ s.stack, Reach g y v) :
    TInv g (v :: gs) (s.push v) := by
  have hI := s.push_idx (h.lenI ▸ hv)
  have hO := s.push_on (h.lenO ▸ hv)
  have hcur := h.currNN
  have hnew : (s.push v).idx v = s.curr := by rw [hI, if_pos rfl]
  have hnew' : (s.push v).idx v ≠ -1 := by rw [hnew]; exact h.curr_ne
  have hold : ∀ y ∈ s.stack, (s.push v).idx y = s.idx y := fun y hy => by
    rw [hI, if_neg fun e : y = v => h.stVis y hy (e ▸ hidx)]
  refine ⟨by simp [TS.push, h.lenI], by simp [TS.push, h.lenL], by simp [TS.push, h.lenO],
    Int.le_add_one hcur, ?stCurr, ?stOrd, ?onIff, ?vis, ?disj, h.outOk, ?gsSub, ?gray, ?black, h.snap⟩
  case stCurr =>
    refine List.forall_mem_cons.2 ⟨?_, fun y hy => ?_⟩
    · rw [hnew]; exact Int.lt_succ _
    · rw [hold y hy]; exact Int.lt_trans (h.stCurr y hy) (Int.lt_succ _)
  case stOrd =>
    refine List.pairwise_cons.2 ⟨fun b hb => ⟨?_, hreach b hb⟩, h.stOrd.imp_of_mem fun {a b} ha hb hab => ?_⟩
    · rw [hnew, hold b hb]; exact h.stCurr b hb
    · rw [hold a ha, hold b hb]; exact hab
  case onIff =>
    intro w
    rw [hO, TS.push_stack, List.mem_cons]
    by_cases e : w = v
    · simp [e]
    · simp only [e, if_false, false_or]; exact h.onIff w
  case vis =>
    intro w
    rw [TS.push_stack, List.mem_cons]
    by_cases e : w = v
    · subst e; exact ⟨fun _ => ⟨hv, hnew'⟩, fun _ => .inl (.inl rfl)⟩
    · rw [hI, if_neg e]; simp only [e, false_or]; exact h.vis w
  case disj =>
    exact List.forall_mem_cons.2 ⟨fun hd => ((h.vis v).1 (.inr hd)).2 hidx, h.disj⟩
  case gsSub =>
    exact List.forall_mem_cons.2 ⟨List.mem_cons_self, fun z hz => List.mem_cons_of_mem _ (h.gsSub z hz)⟩
  case gray =>
    intro y hy
    rcases List.mem_cons.1 hy with rfl | hy
    · exact ⟨y, List.mem_cons_self, Int.le_refl _, Reach.refl _ _⟩
    · obtain ⟨z, hz, h1, h2⟩ := h.gray y hy
      exact ⟨z, List.mem_cons_of_mem _ hz, by rw [hold y hy, hold z (h.gsSub z hz)]; exact h1, h2⟩
  case black =>
    intro u hu w e hw
    rcases List.mem_cons.1 hu with rfl | hu
    · exact List.mem_cons_self
    · have hwv : w ≠ v := by rintro rfl; exact hnew' hw
      rw [hI, if_neg hwv] at hw
      exact List.mem_cons_of_mem _ (h.black u hu w e hw)

end

/-- `gray` when the innermost open call is `u`: `y` leans on `u` itself or on an outer call -/
theorem TInv.gray_cons {g : Graph} {gs : List Nat} {t : TS} {u : Nat} (h : TInv g (u :: gs) t) {y : Nat}
    (hy : y ∈ t.stack) : (t.idx u ≤ t.idx y ∧ Reach g y u) ∨ ∃ z ∈ gs, t.idx z ≤ t.idx y ∧ Reach g y z := by
  obtain ⟨z, hz, h1⟩ := h.gray y hy
  rcases List.mem_cons.1 hz with rfl | hz
  · exact .inl h1
  · exact .inr ⟨z, hz, h1⟩

/-- the vertex `u` finishes without being a root: it stays on the stack -/
theorem TInv.finish {g : Graph} {gs : List Nat} {t : TS} {u : Nat} (h : TInv g (u :: gs) t)
    (hsucc : ∀ w, Edge g u w → t.idx w ≠ -1) (hlt : t.low u < t.idx u)
    (hwit : ∃ y ∈ t.stack, t.idx y = t.low u ∧ Reach g u y) : TInv g gs t := by
  refine { h with gsSub := fun z hz => h.gsSub z (List.mem_cons_of_mem _ hz), gray := ?_, black := ?_ }
  · intro y hy
    rcases h.gray_cons hy with ⟨h1, h2⟩ | hz
    · -- `y` leaned on the call of `u` that closes: it passes to the open call of `u`'s older witness `y'`
      obtain ⟨y', hy', e, h4⟩ := hwit
      have h3 : t.idx y' < t.idx u := e ▸ hlt
      rcases h.gray_cons hy' with ⟨h5, _⟩ | ⟨z', hz', h5, h6⟩
      · exact absurd h5 (Int.not_le.2 h3)
      · exact ⟨z', hz', Int.le_trans h5 (Int.le_trans (Int.le_of_lt h3) h1), (h2.trans h4).trans h6⟩
    · exact hz
  · intro x hx w e hw
    exact (List.mem_cons.1 (h.black x hx w e hw)).resolve_left fun hxu => hsucc w (hxu ▸ e) hw

def TS.popped (t : TS) (comp snap old : List Nat) : TS :=
  { t with out := (comp, snap) :: t.out, onStack := clearAll t.onStack comp, stack := old }

theorem TS.mem_popped_D (t : TS) (comp snap old : List Nat) (v : Nat) :
    v ∈ (t.popped comp snap old).D ↔ (v ∈ comp ∨ v ∈ t.D) := by
  simp only [TS.popped, TS.D, TS.comps, List.map_cons, List.flatten_cons, List.mem_append]

theorem TS.popped_on (t : TS) (comp snap old : List Nat) (w : Nat) :
    (t.popped comp snap old).on w = true ↔ t.on w = true ∧ w ∉ comp :=
  clearAll_getD _ _ _

theorem scPop_root {t : TS} {u : Nat} {seg old : List Nat} (hst : t.stack = seg ++ old)
    (hroot : t.low u = t.idx u) :
    scPop old.length u t = t.popped seg.reverse ((List.range t.onStack.length).filter t.on) old := by
  unfold scPop TS.popped
  have hk : t.stack.length - old.length = seg.length := by
    rw [hst, List.length_append, Nat.add_sub_cancel]
  rw [if_pos hroot]
  simp only [hk]
  rw [hst, List.take_left' rfl, List.drop_left' rfl]

theorem scPop_nonroot {t : TS} {u : Nat} (base : Nat) (h : t.low u ≠ t.idx u) : scPop base u t = t := by
  unfold scPop; rw [if_neg h]

/-- The vertex `u` finishes as a root: `comp`, the part `seg` of the stack above `old` (in the order of the
report), is reported and popped.
None of its vertices has a successor in `old` (that would have lowered `lowLink[u]`, see `hedges`). -/
theorem TInv.pop {g : Graph} (hwf : Wf g) {gs : List Nat} {t : TS} {u : Nat} {seg comp old : List Nat}
    (h : TInv g (u :: gs) t) (hst : t.stack = seg ++ old) (hperm : comp.Perm seg) (hu : u ∈ comp)
    (hgs : ∀ z ∈ gs, z ∈ old) (hsucc : ∀ w, Edge g u w → t.idx w ≠ -1) (hroot : t.low u = t.idx u)
    (hedges : ∀ x ∈ seg, ∀ y ∈ old, Edge g x y → t.low u ≤ t.idx y) :
    TInv g gs (t.popped comp ((List.range t.onStack.length).filter t.on) old) := by
  have hmem : ∀ x, x ∈ t.stack ↔ x ∈ comp ∨ x ∈ old := fun x => by
    rw [hst, List.mem_append, hperm.mem_iff]
  have hCst : ∀ x ∈ comp, x ∈ t.stack := fun x hx => (hmem x).2 (.inl hx)
  have hOst : ∀ x ∈ old, x ∈ t.stack := fun x hx => (hmem x).2 (.inr hx)
  have hnd := h.nodup
  rw [hst, List.nodup_append] at hnd
  have hsorted := h.stOrd
  rw [hst, List.pairwise_append] at hsorted
  have hdisj : ∀ x ∈ comp, x ∉ old := fun x hx ho => hnd.2.2 x (hperm.mem_iff.1 hx) x ho rfl
  have hbelow : ∀ y ∈ old, t.idx y < t.idx u := fun y hy => (hsorted.2.2 u (hperm.mem_iff.1 hu) y hy).1
  have hstay : ∀ x ∈ comp, ∀ y ∈ t.stack, Edge g x y → y ∈ comp := fun x hx y hy e =>
    ((hmem y).1 hy).resolve_right fun ho =>
      Int.not_le.2 (hbelow y ho) (hroot ▸ hedges x (hperm.mem_iff.1 hx) y ho e)
  have hCD : ∀ x ∈ comp, x ∉ t.D := fun x hx => h.disj x (hCst x hx)
  -- apart from `u`, the vertices of `comp` are finished: the open calls of `gs` lie in `old`
  have hfin : ∀ x ∈ comp, ∀ w, Edge g x w → t.idx w ≠ -1 := fun x hx w e hw =>
    (List.mem_cons.1 (h.black x (hCst x hx) w e hw)).elim (fun hxu => hsucc w (hxu ▸ e) hw)
      fun hg => hdisj x hx (hgs x hg)
  have hclosed : Closed g (comp ++ t.D) := by
    intro x hx w e
    rw [List.mem_append] at hx ⊢
    rcases hx with hx | hx
    · rcases (h.vis w).2 ⟨hwf _ _ e, hfin x hx w e⟩ with hw | hw
      · exact .inl (hstay x hx w hw e)
      · exact .inr hw
    · exact .inr (h.outOk.closed x hx w e)
  -- the open call that `x` reaches is `u`, since those of `gs` lie outside the closed set `comp ++ t.D`;
  -- `u` is then not newer than `x`, so it reaches `x`
  have hreachU : ∀ x ∈ comp, Reach g u x ∧ Reach g x u := by
    intro x hx
    rcases h.gray_cons (hCst x hx) with ⟨hux, hxu⟩ | ⟨z, hz, _, hxz⟩
    · exact ⟨h.stReach u (hCst u hu) x (hCst x hx) hux, hxu⟩
    · rcases List.mem_append.1 (hclosed.reach (List.mem_append_left _ hx) hxz) with hzS | hzS
      · exact absurd (hgs z hz) (hdisj z hzS)
      · exact absurd hzS (h.disj z (hOst z (hgs z hz)))
  refine ⟨h.lenI, h.lenL, by simp [TS.popped, clearAll_length, h.lenO], h.currNN,
    fun v hv => h.stCurr v (hOst v hv), hsorted.2.1, ?onIff, ?vis, ?disj, ?outOk,
    hgs, ?gray, ?black, ?snap⟩
  case onIff =>
    intro v
    rw [TS.popped_on, h.onIff v, hmem]
    exact ⟨fun ⟨h1, h2⟩ => h1.resolve_left h2, fun h1 => ⟨.inr h1, fun hc => hdisj v hc h1⟩⟩
  case vis =>
    intro v
    show v ∈ old ∨ _ ↔ _ ∧ t.idx v ≠ -1
    rw [t.mem_popped_D, ← h.vis v, hmem, or_comm (a := v ∈ comp) (b := v ∈ old), or_assoc]
  case disj =>
    intro v hv hd
    rcases (t.mem_popped_D _ _ _ v).1 hd with h1 | h1
    · exact hdisj v h1 hv
    · exact h.disj v (hOst v hv) h1
  case outOk =>
    show OutOk g (comp :: t.comps)
    refine ⟨h.outOk, List.ne_nil_of_mem hu, hperm.nodup_iff.2 hnd.1, hCD,
      fun a ha w => ⟨fun hw => ?_, fun ⟨r1, r2⟩ => ?_⟩, hclosed⟩
    · exact ⟨(hreachU a ha).2.trans (hreachU w hw).1, (hreachU w hw).2.trans (hreachU a ha).1⟩
    · -- `w` is in `comp ++ t.D`, and from `t.D` there is no way back to `a`
      exact (List.mem_append.1 (hclosed.reach (List.mem_append_left _ ha) r1)).resolve_right
        fun hw => hCD a ha (h.outOk.closed.reach hw r2)
  case gray =>
    intro y hy
    exact (h.gray_cons (hOst y hy)).resolve_left fun h1 => Int.not_le.2 (hbelow y hy) h1.1
  case black =>
    intro x hx w e hw
    exact (List.mem_cons.1 (h.black x (hOst x hx) w e hw)).resolve_left fun e' => hdisj u hu (e' ▸ hx)
  case snap =>
    intro e he
    rcases List.mem_cons.1 he with rfl | he
    · intro x hx y hxy
      show y ∈ (List.range t.onStack.length).filter t.on ↔ y ∈ comp
      rw [List.mem_filter, List.mem_range, h.lenO, h.onIff y]
      exact ⟨fun ⟨_, hy⟩ => hstay x hx y hy hxy, fun hy => ⟨hwf _ _ hxy, hCst y hy⟩⟩
    · exact h.snap e he

structure Frame (g : Graph) (s t : TS) : Prop where
  idx : ∀ x, x < g.length → s.idx x ≠ -1 → t.idx x = s.idx x
  low : ∀ x, x < g.length → s.idx x ≠ -1 → t.low x = s.low x
  curr : s.curr ≤ t.curr
  newIdx : ∀ x, x < g.length → s.idx x = -1 → t.idx x ≠ -1 → s.curr ≤ t.idx x
  out : ∃ nc, t.out = nc ++ s.out
  unv : t.unv ≤ s.unv

theorem Frame.refl (g : Graph) (s : TS) : Frame g s s :=
  ⟨fun _ _ _ => rfl, fun _ _ _ => rfl, Int.le_refl _, fun _ _ h1 h2 => absurd h1 h2, ⟨[], rfl⟩, Nat.le_refl _⟩

theorem Frame.trans {g : Graph} {a b c : TS} (h1 : Frame g a b) (h2 : Frame g b c) : Frame g a c := by
  refine ⟨?_, ?_, Int.le_trans h1.curr h2.curr, ?_, ?_, Nat.le_trans h2.unv h1.unv⟩
  · intro x hx hv
    have e := h1.idx x hx hv
    rw [h2.idx x hx (by rw [e]; exact hv), e]
  · intro x hx hv
    have e := h1.idx x hx hv
    rw [h2.low x hx (by rw [e]; exact hv), h1.low x hx hv]
  · intro x hx h0 hc
    by_cases hb : b.idx x = -1
    · exact Int.le_trans h1.curr (h2.newIdx x hx hb hc)
    · rw [h2.idx x hx hb]
      exact h1.newIdx x hx h0 hb
  · obtain ⟨n1, e1⟩ := h1.out
    obtain ⟨n2, e2⟩ := h2.out
    exact ⟨n2 ++ n1, by rw [e2, e1, List.append_assoc]⟩

theorem Frame.setLow {g : Graph} {s t : TS} (h : Frame g s t) {u : Nat} (hu : s.idx u = -1) (m : Int) :
    Frame g s (t.setLow u m) := by
  refine ⟨h.idx, ?_, h.curr, h.newIdx, h.out, h.unv⟩
  intro x hx hv
  rw [TS.setLow_low]
  have : x ≠ u := fun e => hv (e ▸ hu)
  simp only [this, false_and, if_false]
  exact h.low x hx hv

theorem TS.setLow_self (s : TS) (u : Nat) : s.setLow u (s.low u) = s := by
  unfold TS.setLow TS.low
  by_cases hu : u < s.lowLink.length
  · rw [List.getElem?_eq_getElem hu]; simp
  · rw [List.set_eq_of_length_le (Nat.le_of_not_lt hu)]

theorem TS.ite_setLow (s : TS) (u : Nat) (c : Prop) [Decidable c] (x : Int) :
    (if c then s.setLow u x else s) = s.setLow u (if c then x else s.low u) := by
  by_cases h : c
  · rw [if_pos h, if_pos h]
  · rw [if_neg h, if_neg h, TS.setLow_self]

/-- what one call `strongConnect(v)` guarantees (`new`: what it leaves on the stack) -/
structure SCPost (g : Graph) (gs : List Nat) (v : Nat) (s s' : TS) (new : List Nat) : Prop where
  inv : TInv g gs s'
  frame : Frame g s s'
  stack : s'.stack = new ++ s.stack
  idxV : s'.idx v = s.curr
  /-- the `lowLink` of a non-root is the index of a stack vertex that it reaches -/
  lowWit : s'.low v < s'.idx v → ∃ y ∈ s'.stack, s'.idx y = s'.low v ∧ Reach g v y
  newEdges : ∀ x ∈ new, ∀ y ∈ s.stack, Edge g x y → s'.low v ≤ s'.idx y

/-- the induction hypothesis on the fuel -/
def SCSpec (g : Graph) (fuel : Nat) : Prop :=
  ∀ gs v s, TInv g gs s → v < g.length → s.idx v = -1 → s.unv < fuel →
    (∀ y ∈ s.stack, Reach g y v) → ∃ new, SCPost g gs v s (strongConnect g fuel v s) new

/-- loop invariant of `for _, w := range t.graph[u]` (`s0`: state when `strongConnect(u)` was entered,
`done`: successors already handled, `seg`: what the call has put on the stack so far, `u` at its bottom) -/
structure SLoop (g : Graph) (gs : List Nat) (u : Nat) (s0 : TS) (done : List Nat) (t : TS)
    (seg : List Nat) : Prop where
  inv : TInv g (u :: gs) t
  frame : Frame g s0 t
  stack : t.stack = seg ++ s0.stack
  uSeg : u ∈ seg
  new0 : s0.idx u = -1
  idxU : t.idx u = s0.curr
  unv : t.unv + 1 ≤ s0.unv
  lowLe : t.low u ≤ t.idx u
  lowWit : ∃ y ∈ t.stack, t.idx y = t.low u ∧ Reach g u y
  doneVis : ∀ w ∈ done, w < g.length ∧ t.idx w ≠ -1
  edges : ∀ x ∈ seg, ∀ y ∈ s0.stack, Edge g x y → (x = u → y ∈ done) → t.low u ≤ t.idx y

theorem ite_lt_le (a b : Int) : (if a < b then a else b) ≤ a ∧ (if a < b then a else b) ≤ b := by
  split <;> omega

section
variable {g : Graph} {gs : List Nat} {u : Nat} {s0 : TS} {done : List Nat} {t : TS} {seg : List Nat}

theorem SLoop.lower (L : SLoop g gs u s0 done t seg) (hu : u < g.length)
    (m : Int) (hm : m ≤ t.low u) (hwit : ∃ y ∈ t.stack, t.idx y = m ∧ Reach g u y) :
    SLoop g gs u s0 done (t.setLow u m) seg := by
  have hlow := L.inv.setLow_low hu m
  refine ⟨L.inv.setLow u m, L.frame.setLow L.new0 m, L.stack, L.uSeg, L.new0, L.idxU, L.unv,
    ?_, ?_, L.doneVis, ?_⟩
  · rw [hlow]; exact Int.le_trans hm L.lowLe
  · rw [hlow]; exact hwit
  · intro x hx y hy e hd
    rw [hlow]
    exact Int.le_trans hm (L.edges x hx y hy e hd)

theorem SLoop.addDone (L : SLoop g gs u s0 done t seg) (w : Nat) (hvis : w < g.length ∧ t.idx w ≠ -1)
    (hle : w ∈ s0.stack → t.low u ≤ t.idx w) : SLoop g gs u s0 (done ++ [w]) t seg := by
  refine { L with doneVis := List.forall_mem_append.2 ⟨L.doneVis, List.forall_mem_singleton.2 hvis⟩,
                   edges := ?_ }
  intro x hx y hy e hd
  by_cases hyw : y = w
  · exact hyw ▸ hle (hyw ▸ hy)
  · exact L.edges x hx y hy e fun e' =>
      (List.mem_append.1 (hd e')).resolve_right fun h => hyw (List.mem_singleton.1 h)

theorem SLoop.mem_stack (L : SLoop g gs u s0 done t seg) : u ∈ t.stack ∧ ∀ y ∈ s0.stack, y ∈ t.stack := by
  rw [L.stack]
  exact ⟨List.mem_append_left _ L.uSeg, fun y hy => List.mem_append_right _ hy⟩

/-- the recursive call on the unvisited successor `w`, followed by
`t.lowLink[u] = min(t.lowLink[u], t.lowLink[w])` -/
theorem SLoop.call (L : SLoop g gs u s0 done t seg) (hu : u < g.length) {w : Nat} (hw : Edge g u w)
    {t' : TS} {new : List Nat} (P : SCPost g (u :: gs) w t t' new) :
    SLoop g gs u s0 done (t'.setLow u (if t'.low w < t'.low u then t'.low w else t'.low u))
      (new ++ seg) := by
  have hut := L.mem_stack.1
  have hs0t := L.mem_stack.2
  have hkeep : ∀ y ∈ t.stack, t'.idx y = t.idx y :=
    fun y hy => P.frame.idx y (L.inv.stLt y hy) (L.inv.stVis y hy)
  have hsub : ∀ y ∈ t.stack, y ∈ t'.stack := fun y hy => by rw [P.stack]; exact List.mem_append_right _ hy
  have e_low_u : t'.low u = t.low u := P.frame.low u hu (L.inv.stVis u hut)
  have hmin := ite_lt_le (t'.low w) (t'.low u)
  generalize hm : (if t'.low w < t'.low u then t'.low w else t'.low u) = m at hmin
  have hm1 : m ≤ t.low u := e_low_u ▸ hmin.2
  have hlow := P.inv.setLow_low hu m
  refine ⟨P.inv.setLow u m, (L.frame.trans P.frame).setLow L.new0 m, ?stack,
    List.mem_append_right _ L.uSeg, L.new0, (hkeep u hut).trans L.idxU,
    Nat.le_trans (Nat.add_le_add_right P.frame.unv 1) L.unv, ?lowLe, ?lowWit, ?doneVis, ?edges⟩
  case stack =>
    show t'.stack = new ++ seg ++ s0.stack
    rw [P.stack, L.stack, List.append_assoc]
  case lowLe =>
    rw [hlow, TS.setLow_idx, hkeep u hut]
    exact Int.le_trans hm1 L.lowLe
  case lowWit =>
    rw [hlow]
    by_cases hlt : t'.low w < t'.low u
    · -- then `w` is not a root: its index is newer than that of `u`
      have : t'.low w < t'.idx w := calc
        t'.low w < t.low u := e_low_u ▸ hlt
        _ ≤ t.idx u := L.lowLe
        _ < t.curr := L.inv.stCurr u hut
        _ = t'.idx w := P.idxV.symm
      obtain ⟨y, hy, h1, h2⟩ := P.lowWit this
      exact ⟨y, hy, by rw [← hm, if_pos hlt]; exact h1, (Reach.edge hw).trans h2⟩
    · obtain ⟨y, hy, h1, h2⟩ := L.lowWit
      exact ⟨y, hsub y hy, by rw [← hm, if_neg hlt, e_low_u, ← h1]; exact hkeep y hy, h2⟩
  case doneVis =>
    intro x hx
    have := L.doneVis x hx
    exact ⟨this.1, by rw [TS.setLow_idx, P.frame.idx x this.1 this.2]; exact this.2⟩
  case edges =>
    intro x hx y hy e hd
    rw [hlow, TS.setLow_idx]
    rcases List.mem_append.1 hx with hx | hx
    · exact Int.le_trans hmin.1 (P.newEdges x hx y (hs0t y hy) e)
    · rw [hkeep y (hs0t y hy)]
      exact Int.le_trans hm1 (L.edges x hx y hy e hd)

/-- every vertex on the stack reaches each successor `w` of `u`: through `u` itself, or through an
older vertex of the call chain, which reaches `u` -/
theorem SLoop.reach_succ (L : SLoop g gs u s0 done t seg) (hgs : ∀ z ∈ gs, Reach g z u) {w : Nat}
    (hw : Edge g u w) : ∀ y ∈ t.stack, Reach g y w := by
  intro y hy
  refine Reach.trans ?_ (Reach.edge hw)
  rcases L.inv.gray_cons hy with ⟨_, h⟩ | ⟨z, hz, _, h⟩
  · exact h
  · exact h.trans (hgs z hz)

end

theorem sc_step {g : Graph} (hwf : Wf g) {fuel : Nat} (ih : SCSpec g fuel) {gs : List Nat} {u : Nat}
    {s0 : TS} (hgs : ∀ z ∈ gs, Reach g z u) (hu : u < g.length) (hfuel : s0.unv < fuel + 1)
    (done : List Nat) (w : Nat) (t : TS) (hw : Edge g u w)
    (hL : ∃ seg, SLoop g gs u s0 done t seg) :
    ∃ seg, SLoop g gs u s0 (done ++ [w]) (scStep (strongConnect g fuel) u t w) seg := by
  obtain ⟨seg, L⟩ := hL
  have hwn : w < g.length := hwf _ _ hw
  have hs0t := L.mem_stack.2
  unfold scStep
  by_cases hA : t.idx w = -1
  · rw [if_pos hA]
    obtain ⟨new, P⟩ := ih (u :: gs) w t L.inv hwn hA
      (Nat.lt_of_lt_of_le L.unv (Nat.le_of_lt_succ hfuel)) (L.reach_succ hgs hw)
    rw [TS.ite_setLow]
    refine ⟨new ++ seg, (L.call hu hw P).addDone w ⟨hwn, ?_⟩
      fun hws => absurd hA (L.inv.stVis w (hs0t w hws))⟩
    rw [TS.setLow_idx, P.idxV]
    exact L.inv.curr_ne
  · rw [if_neg hA]
    by_cases hc : (t.on w && decide (t.idx w < t.low u)) = true
    · rw [if_pos hc]
      simp only [Bool.and_eq_true, decide_eq_true_eq] at hc
      refine ⟨seg, (L.lower hu (t.idx w) (Int.le_of_lt hc.2)
        ⟨w, (L.inv.onIff w).1 hc.1, rfl, Reach.edge hw⟩).addDone w ⟨hwn, hA⟩ fun _ => ?_⟩
      rw [L.inv.setLow_low hu]; exact Int.le_refl _
    · rw [if_neg hc]
      refine ⟨seg, L.addDone w ⟨hwn, hA⟩ fun hws => ?_⟩
      have hon := (L.inv.onIff w).2 (hs0t w hws)
      simp only [hon, Bool.true_and, decide_eq_true_eq] at hc
      exact Int.not_lt.1 hc

theorem Frame.push {g : Graph} {gs : List Nat} {s : TS} (h : TInv g gs s) {v : Nat}
    (hv : v < g.length) (hidx : s.idx v = -1) : Frame g s (s.push v) := by
  have hne : ∀ x, s.idx x ≠ -1 → x ≠ v := fun x hx e => hx (e ▸ hidx)
  refine ⟨?_, ?_, Int.le_add_one (Int.le_refl _), ?_, ⟨[], rfl⟩, ?_⟩
  · intro x _ hx
    rw [s.push_idx (h.lenI ▸ hv), if_neg (hne x hx)]
  · intro x _ hx
    rw [s.push_low (h.lenL ▸ hv), if_neg (hne x hx)]
  · intro x _ hx hx'
    rw [s.push_idx (h.lenI ▸ hv)] at hx' ⊢
    by_cases e : x = v
    · rw [if_pos e]; exact Int.le_refl _
    · rw [if_neg e] at hx'; exact absurd hx hx'
  · exact Nat.le_of_succ_le (h.push_unv hv hidx)

theorem Frame.popped {g : Graph} {s t : TS} (h : Frame g s t) (comp snap old : List Nat) :
    Frame g s (t.popped comp snap old) := by
  refine ⟨h.idx, h.low, h.curr, h.newIdx, ?_, h.unv⟩
  obtain ⟨nc, e⟩ := h.out
  exact ⟨(comp, snap) :: nc, by simp [TS.popped, e]⟩

theorem SLoop.init {g : Graph} {gs : List Nat} {v : Nat} {s : TS} (h : TInv g gs s) (hv : v < g.length)
    (hidx : s.idx v = -1) (hreach : ∀ y ∈ s.stack, Reach g y v) : SLoop g gs v s [] (s.push v) [v] := by
  have hI : (s.push v).idx v = s.curr := by rw [s.push_idx (h.lenI ▸ hv), if_pos rfl]
  have hLw : (s.push v).low v = s.curr := by rw [s.push_low (h.lenL ▸ hv), if_pos rfl]
  refine {
    inv := h.push hv hidx hreach
    frame := Frame.push h hv hidx
    stack := rfl
    uSeg := List.mem_singleton_self v
    new0 := hidx
    idxU := hI
    unv := h.push_unv hv hidx
    lowLe := by rw [hI, hLw]; exact Int.le_refl _
    lowWit := ⟨v, by simp, by rw [hI, hLw], Reach.refl _ _⟩
    doneVis := nofun
    edges := ?_ }
  intro x hx y _ _ hd
  cases hd (List.mem_singleton.1 hx)

theorem sc_spec {g : Graph} (hwf : Wf g) : ∀ fuel, SCSpec g fuel := by
  intro fuel
  induction fuel with
  | zero => intro gs v s _ _ _ hf; omega
  | succ fuel ih =>
    intro gs v s h hv hidx hfuel hreach
    simp only [strongConnect]
    have hloop := foldl_inv (fun done t => ∃ seg, SLoop g gs v s done t seg)
      (scStep (strongConnect g fuel) v) (succs g v) [] (s.push v) ⟨[v], .init h hv hidx hreach⟩
      (sc_step hwf ih (fun z hz => hreach z (h.gsSub z hz)) hv hfuel)
    simp only [List.nil_append] at hloop
    generalize (succs g v).foldl (scStep (strongConnect g fuel) v) (s.push v) = t at hloop
    obtain ⟨seg, L⟩ := hloop
    have hsucc : ∀ w, Edge g v w → t.idx w ≠ -1 := fun w e => (L.doneVis w e).2
    have hedges : ∀ x ∈ seg, ∀ y ∈ s.stack, Edge g x y → t.low v ≤ t.idx y :=
      fun x hx y hy e => L.edges x hx y hy e fun e' => e' ▸ e
    by_cases hroot : t.low v = t.idx v
    · rw [scPop_root L.stack hroot]
      refine ⟨[], ?_, L.frame.popped _ _ _, rfl, L.idxU, fun hlt => absurd hroot (Int.ne_of_lt hlt),
        nofun⟩
      exact L.inv.pop hwf L.stack (List.reverse_perm seg) (List.mem_reverse.2 L.uSeg) h.gsSub hsucc hroot hedges
    · rw [scPop_nonroot _ hroot]
      have hlt : t.low v < t.idx v := Int.lt_iff_le_and_ne.2 ⟨L.lowLe, hroot⟩
      exact ⟨seg, L.inv.finish hsucc hlt L.lowWit, L.frame, L.stack, L.idxU,
        fun _ => L.lowWit, hedges⟩

theorem tarjanInit_idx (n v : Nat) (hv : v < n) : (tarjanInit n).idx v = -1 := by
  simp [tarjanInit, TS.idx, hv]

theorem tarjanInit_on (n v : Nat) : (tarjanInit n).on v = false := by
  simp only [tarjanInit, TS.on, List.getElem?_replicate]
  split <;> rfl

theorem tInv_init (g : Graph) : TInv g [] (tarjanInit g.length) where
  lenI := by simp [tarjanInit]
  lenL := by simp [tarjanInit]
  lenO := by simp [tarjanInit]
  currNN := Int.le_refl 0
  stCurr := nofun
  stOrd := List.Pairwise.nil
  onIff v := by rw [tarjanInit_on]; simp [tarjanInit]
  vis v := ⟨by simp [tarjanInit, TS.D, TS.comps], fun ⟨hv, hi⟩ => absurd (tarjanInit_idx _ v hv) hi⟩
  disj := nofun
  outOk := trivial
  gsSub := nofun
  gray := nofun
  black := nofun
  snap := nofun

theorem TInv.stack_nil {g : Graph} {s : TS} (h : TInv g [] s) : s.stack = [] := by
  cases hs : s.stack with
  | nil => rfl
  | cons y l =>
    obtain ⟨z, hz, _⟩ := h.gray y (by rw [hs]; simp)
    cases hz

theorem tarjan_top {g : Graph} (hwf : Wf g) (h2 : 2 ≤ g.length) :
    ∃ s, tarjanRun g = s.out.reverse ∧ TInv g [] s ∧ ∀ v, v < g.length → s.idx v ≠ -1 := by
  refine ⟨_, by unfold tarjanRun; rw [if_neg (by omega)], ?_⟩
  refine forUpTo_inv (fun k s => TInv g [] s ∧ ∀ v, v < k → s.idx v ≠ -1) g.length _ _
    ⟨tInv_init g, fun v hv => absurd hv (Nat.not_lt_zero v)⟩ ?_
  intro k s hk ⟨h1, hvis⟩
  by_cases hidx : s.idx k = -1
  · rw [if_pos hidx]
    obtain ⟨new, P⟩ := sc_spec hwf (g.length + 1) [] k s h1 hk hidx
      (Nat.lt_succ_of_le (h1.lenI ▸ s.unv_le)) (by rw [h1.stack_nil]; nofun)
    refine ⟨P.inv, Nat.forall_lt_succ_right.2 ⟨fun v hv => ?_, ?_⟩⟩
    · rw [P.frame.idx v (Nat.lt_trans hv hk) (hvis v hv)]; exact hvis v hv
    · rw [P.idxV]; exact h1.curr_ne
  · rw [if_neg hidx]
    exact ⟨h1, Nat.forall_lt_succ_right.2 ⟨hvis, hidx⟩⟩

theorem tarjanRun_comps (g : Graph) : (tarjanRun g).map (·.1) = tarjan g := rfl

theorem tarjan_correct {g : Graph} (hwf : Wf g) (h2 : 2 ≤ g.length) : IsSccOrder g (tarjan g) := by
  obtain ⟨s, hrun, h, hall⟩ := tarjan_top hwf h2
  have hres : tarjan g = s.comps.reverse := by
    rw [← tarjanRun_comps, hrun, List.map_reverse]; rfl
  rw [hres]
  refine h.outOk.isSccOrder fun v => ⟨fun hv => ((h.vis v).1 (.inr hv)).1, fun hv => ?_⟩
  rcases (h.vis v).2 ⟨hv, hall v hv⟩ with h1 | h1
  · rw [h.stack_nil] at h1; cases h1
  · exact h1

theorem tarjanRun_small {g : Graph} (h : g.length < 2) : tarjanRun g = [] := if_pos h

theorem tarjanRun_snap {g : Graph} (hwf : Wf g) : ∀ e ∈ tarjanRun g, SnapOk g e := by
  rcases Nat.lt_or_ge g.length 2 with hs | h2
  · rw [tarjanRun_small hs]
    nofun
  · obtain ⟨s, hrun, h, _⟩ := tarjan_top hwf h2
    rw [hrun]
    exact fun e he => h.snap e (List.mem_reverse.1 he)

theorem tarjan_small {g : Graph} (h : g.length < 2) : tarjan g = [] := by
  rw [← tarjanRun_comps, tarjanRun_small h]; rfl

end TmVerif.Graph
