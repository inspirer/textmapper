import TmVerif.Model.LexSpec
import TmVerif.Proofs.Charset
import TmVerif.Proofs.LexTables
import TmVerif.Proofs.LexDeriv
/-!
C09: symbol classes.
* A derivative mentions only range lists of the expression it was taken from (`CsSub`), so two symbols that
  agree on the range lists of the rules have the same derivatives, forever (`deriv_congr`, `csSub_deriv`).
* `checkClasses` implies that every code point agrees with the representative of its class (`checkClasses_sound`).
-/
namespace TmVerif.LexSpec
open TmVerif.Charset TmVerif.Regex TmVerif.LexTables

def CsSub (r : Regex) (S : List Charset) : Prop := ∀ c ∈ csOf r, c = [] ∨ c ∈ S

section
variable {S : List Charset} {a b r : Regex}

theorem csSub_empty : CsSub empty S := fun _ hc => Or.inl (List.mem_singleton.1 hc)

theorem csSub_eps : CsSub .eps S := fun _ hc => nomatch hc

theorem csSub_cat : CsSub (.cat a b) S ↔ CsSub a S ∧ CsSub b S := by
  simp only [CsSub, csOf, List.forall_mem_append]

theorem csSub_alt : CsSub (.alt a b) S ↔ CsSub a S ∧ CsSub b S := csSub_cat (a := a) (b := b)

theorem csSub_rep {r : Regex} {mn : Nat} {mx : Option Nat} {S : List Charset} :
    CsSub (.rep r mn mx) S ↔ CsSub r S := Iff.rfl

theorem csSub_altOf {l : List Regex} (h : ∀ r ∈ l, CsSub r S) : CsSub (altOf l) S := by
  fun_induction altOf l
  case case1 => exact csSub_empty
  case case2 r => exact h r List.mem_cons_self
  case case3 r rs _ ih => exact csSub_alt.2 ⟨h r List.mem_cons_self, ih fun x hx => h x (List.mem_cons_of_mem _ hx)⟩

theorem csSub_altList : (∀ r ∈ altList a, CsSub r S) ↔ CsSub a S := by
  fun_induction altList a
  case case1 iha ihb => simp only [List.forall_mem_append, iha, ihb, csSub_alt]
  case case2 => exact List.forall_mem_singleton

theorem csSub_union (ha : CsSub a S) (hb : CsSub b S) : CsSub (union a b) S :=
  csSub_altOf fun r hr =>
    (List.mem_append.1 ((mem_unionList r _).1 hr).1).elim (csSub_altList.2 ha r) (csSub_altList.2 hb r)

theorem csSub_seqR (ha : CsSub a S) (hb : CsSub b S) : CsSub (seqR b a) S := by
  fun_induction seqR b a
  case case1 => exact hb
  case case2 ih => exact csSub_cat.2 ⟨(csSub_cat.1 ha).1, ih (csSub_cat.1 ha).2⟩
  case case3 => exact csSub_empty
  -- a non-empty class, `rep`, `ext`
  case case4 | case6 | case7 => exact csSub_cat.2 ⟨ha, hb⟩
  case case5 ihx ihy => exact csSub_union (ihx (csSub_alt.1 ha).1) (ihy (csSub_alt.1 ha).2)

theorem csSub_seq (ha : CsSub a S) (hb : CsSub b S) : CsSub (seq a b) S := by
  fun_cases seq a b
  · exact csSub_empty
  · exact ha
  · exact csSub_seqR ha hb

theorem csSub_repS (mn : Nat) (mx : Option Nat) (h : CsSub r S) : CsSub (repS r mn mx) S := by
  fun_cases repS r mn mx
  · exact csSub_eps
  · exact csSub_empty
  · exact h

/-- What `deriv` and `heads` make of `.cat a b`: `x` comes from `a` and `y` from `b`. -/
theorem csSub_catStep (n : Bool) {x y : Regex} (hx : CsSub x S) (hb : CsSub b S) (hy : CsSub y S) :
    CsSub (if n then union (seq x b) y else seq x b) S := by
  split
  · exact csSub_union (csSub_seq hx hb) hy
  · exact csSub_seq hx hb

/-- What `deriv` and `headsRep` make of `.rep r mn mx`: `x` comes from `r`. -/
theorem csSub_repStep {x : Regex} (hx : CsSub x S) (hr : CsSub r S) (mn : Nat) (mx : Option Nat) :
    CsSub (seq x (repS r (mn - 1) (mx.map (· - 1)))) S := csSub_seq hx (csSub_repS _ _ hr)

theorem csSub_headsRep {hr : Regex} (nr : Bool) (hhr : CsSub hr S) (hr' : CsSub r S) :
    ∀ (fuel mn : Nat) (mx : Option Nat), CsSub (headsRep hr nr r fuel mn mx) S := by
  intro fuel
  induction fuel with
  | zero =>
    intro mn mx
    simp only [headsRep]
    split
    · exact csSub_empty
    · exact csSub_repStep hhr hr' mn mx
  | succ fuel ih =>
    intro mn mx
    simp only [headsRep]
    split
    · exact csSub_empty
    · split
      · exact csSub_union (csSub_repStep hhr hr' mn mx) (ih _ _)
      · exact csSub_repStep hhr hr' mn mx

theorem csSub_heads (h : CsSub r S) : CsSub (heads r) S := by
  induction r with
  | eps | ext _ => exact csSub_empty
  | cc c => exact h
  | cat a b iha ihb =>
    rw [csSub_cat] at h
    exact csSub_catStep _ (iha h.1) h.2 (ihb h.2)
  | alt a b iha ihb =>
    rw [csSub_alt] at h
    exact csSub_union (iha h.1) (ihb h.2)
  | rep r mn mx ih => exact csSub_headsRep _ (ih h) (csSub_rep.1 h) _ _ _

theorem csSub_norm (h : CsSub r S) : CsSub (norm r) S := by
  unfold norm
  split
  · exact csSub_union csSub_eps (csSub_heads h)
  · exact csSub_heads h

end

theorem csSub_deriv (s : Int) (r : Regex) (S : List Charset) (h : CsSub r S) : CsSub (deriv s r) S := by
  induction r with
  | eps | ext _ => exact csSub_empty
  | cc c =>
    simp only [deriv]
    split
    · exact csSub_eps
    · exact csSub_empty
  | cat a b iha ihb =>
    rw [csSub_cat] at h
    exact csSub_catStep _ (iha h.1) h.2 (ihb h.2)
  | alt a b iha ihb =>
    rw [csSub_alt] at h
    exact csSub_union (iha h.1) (ihb h.2)
  | rep r mn mx ih =>
    simp only [deriv]
    split
    · exact csSub_empty
    · exact csSub_repStep (ih h) (csSub_rep.1 h) mn mx

theorem deriv_congr (S : List Charset) (a b : Int) (hab : ∀ c ∈ S, memB a c = memB b c)
    (r : Regex) (h : CsSub r S) : deriv a r = deriv b r := by
  induction r with
  | eps | ext _ => rfl
  | cc c =>
    have : memB a c = memB b c := by
      rcases h c (by simp [csOf]) with hc | hc
      · subst hc; rfl
      · exact hab c hc
    simp only [deriv, this]
  | cat x y ihx ihy =>
    rw [csSub_cat] at h
    simp only [deriv, ihx h.1, ihy h.2]
  | alt x y ihx ihy =>
    rw [csSub_alt] at h
    simp only [deriv, ihx h.1, ihy h.2]
  | rep r mn mx ih =>
    simp only [deriv, ih h]

def VecSub (D : List Regex) (S : List Charset) : Prop := ∀ d ∈ D, CsSub d S

theorem vecSub_stepVec (s : Int) (D : List Regex) (S : List Charset) (h : VecSub D S) :
    VecSub (stepVec s D) S :=
  List.forall_mem_map.2 fun d hd => csSub_norm (csSub_deriv s d S (h d hd))

theorem stepVec_congr (S : List Charset) (a b : Int) (hab : ∀ c ∈ S, memB a c = memB b c)
    (D : List Regex) (h : VecSub D S) : stepVec a D = stepVec b D := by
  unfold stepVec
  apply List.map_congr_left
  intro d hd
  rw [deriv_congr S a b hab d (h d hd)]

theorem vecSub_initVec (rules : List Rule) (sc : Int) : VecSub (initVec rules sc) (ruleSets rules) :=
  List.forall_mem_map.2 fun r hr => by
    split
    · exact fun c hc => Or.inr (List.mem_flatMap.2 ⟨r, hr, hc⟩)
    · exact csSub_empty

theorem segInOut_mem (lo hi : Int) (cs : Charset) (h : segInOut lo hi cs = true) (r : Int)
    (h1 : lo ≤ r) (h2 : r ≤ hi) : memB r cs = memB lo cs := by
  simp only [segInOut, List.all_eq_true, Bool.or_eq_true, Bool.and_eq_true, decide_eq_true_eq] at h
  rw [Bool.eq_iff_iff, memB_iff, memB_iff]
  -- by `h` a range of `cs` that meets `lo..hi` contains it: the range that holds one of `r`, `lo` holds the other
  constructor <;> rintro ⟨p, hp, _, _⟩ <;> exact ⟨p, hp, by have := h p hp; omega⟩

/-- The segment of `r` is the last one that starts at or before `r`; `checkSegs` has compared it with its representative. -/
theorem checkSegs_sound (sets : List Charset) (rep : Int → Option Int) (max : Int) (r : Int) (hmax : r ≤ max) :
    ∀ (l : List RangeEntry) (e0 : RangeEntry), checkSegs sets rep max l = true → l[0]? = some e0 → e0.start ≤ r →
      ∃ i e s, l[i]? = some e ∧ e.start ≤ r ∧ (∀ n, l[i + 1]? = some n → r < n.start) ∧
        rep e.target = some s ∧ ∀ cs ∈ sets, memB r cs = memB s cs
  | [], _, _, h, _ => nomatch h
  | e :: rest, _, h, rfl, h0 => by
    simp only [checkSegs, Bool.and_eq_true] at h
    obtain ⟨hhead, htail⟩ := h
    by_cases hn : ∃ n, rest[0]? = some n ∧ n.start ≤ r
    · obtain ⟨n, hn0, hn⟩ := hn
      obtain ⟨i, e', s, h1, h2⟩ := checkSegs_sound sets rep max r hmax rest n htail hn0 hn
      exact ⟨i + 1, e', s, h1, h2⟩
    · have hhi : ∀ n, rest[0]? = some n → r < n.start := fun n h => Int.not_le.1 fun hle => hn ⟨n, h, hle⟩
      cases hs : rep e.target with
      | none => rw [hs] at hhead; cases hhead
      | some s =>
        rw [hs] at hhead
        refine ⟨0, e, s, rfl, h0, hhi, hs, fun cs hcs => ?_⟩
        have := List.all_eq_true.1 hhead cs hcs
        simp only [Bool.and_eq_true, beq_iff_eq] at this
        rw [← this.2]
        apply segInOut_mem _ _ _ this.1 r h0
        cases rest with
        | nil => exact hmax
        | cons n rest' => have := hhi n rfl; show r ≤ n.start - 1; omega

theorem repOf_nonneg_class (t : Tables) (c : Int) : c = 0 → repOf t c = some eoiSym := by
  intro h; simp [repOf, h]

theorem checkClasses_sound (rules : List Rule) (t : Tables) (hwf : t.wf = true)
    (hc : checkClasses rules t = true) (r : Int) (h0 : 0 ≤ r) (h1 : r ≤ maxRune t.scanBytes) :
    ∃ c s, symOf t r = some c ∧ 0 ≤ c ∧ c < t.numSymbols ∧ repOf t c = some s ∧
      ∀ cs ∈ ruleSets rules, memB r cs = memB s cs := by
  have w := wf_of_wf t hwf
  have h00 : t.symbolMap.toList[0]? = some (t.symbolMap[0]'w.map_ne) := by
    rw [Array.getElem?_toList, Array.getElem?_eq_getElem w.map_ne]
  obtain ⟨i, e, s, hie, hlo, hhi, hs, hall⟩ := checkSegs_sound _ _ _ r h1 _ _ hc h00 (by rw [w.start0 w.map_ne]; exact h0)
  rw [Array.getElem?_toList] at hie
  obtain ⟨hi, rfl⟩ := Array.getElem?_eq_some_iff.1 hie
  have hnext : ∀ h : i + 1 < t.symbolMap.size, r < t.symbolMap[i + 1].start := fun h =>
    hhi _ (by rw [Array.getElem?_toList, Array.getElem?_eq_getElem h])
  exact ⟨t.symbolMap[i].target, s, symOf_eq t w r i hi (Or.inr hlo) hnext, (w.targets i hi).1, (w.targets i hi).2,
    hs, hall⟩

end TmVerif.LexSpec
