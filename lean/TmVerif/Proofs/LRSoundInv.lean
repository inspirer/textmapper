/-
The stack invariant of the LR runtime model, proved once for an arbitrary transition relation `E`
whose transitions the certificate justifies (`Justified`) and any decoding whose decisions it
justifies (`DecodeOk`): a step that goes on is a move of the automaton (`Move`, `step_move`), a move
keeps a stack built along any part of `E` that holds the transition taken (`Move.inv`), and an
accepting run has consumed a sentence (`run_accept_sentence`).
-/
import TmVerif.Proofs.Basic
import TmVerif.Proofs.CFG
import TmVerif.Proofs.LRSound
namespace TmVerif.LRSound
open TmVerif.LR TmVerif.CFG

variable {g : Grammar} {t : Tables} {cert : Cert} {E : Nat → Nat → Int → Prop} {i : Nat}
  {inp : Input}

theorem derivesSeq_append : ∀ {α β u v : List Nat},
    DerivesSeq g α u → DerivesSeq g β v → DerivesSeq g (α ++ β) (u ++ v)
  | _, _, _, _, .nil, h2 => h2
  | _, _, _, _, .cons X α u1 u2 hX hα, h2 => by
    simpa [List.append_assoc] using DerivesSeq.cons X _ u1 _ hX (derivesSeq_append hα h2)

theorem derivesSeq_single {X : Nat} {y : List Nat} (h : Derives g X y) :
    DerivesSeq g [X] y := by
  simpa using DerivesSeq.cons X [] y [] h DerivesSeq.nil

theorem derives_no_zero (hwf : WfFacts g) :
    (∀ {X : Nat} {u : List Nat}, Derives g X u → 0 < X → 0 ∉ u) ∧
      ∀ {α : List Nat} {w : List Nat}, DerivesSeq g α w → (∀ s ∈ α, 0 < s) → 0 ∉ w :=
  Derives.ind
    (term := fun a _ h => by simp; omega)
    (rule := fun r _ hm _ ih _ => ih fun s hs => ((hwf.rules r hm).2.2 s hs).1)
    (nil := fun _ => by simp)
    (cons := fun X _ _ _ _ _ ihX ihα h => by
      have h1 := ihX (h X (by simp))
      have h2 := ihα fun s hs => h s (by simp [hs])
      simp [h1, h2])

theorem derivesSeq_no_zero {g : Grammar} (hwf : WfFacts g) :
    ∀ {α : List Nat} {w : List Nat}, DerivesSeq g α w → (∀ s ∈ α, 0 < s) → 0 ∉ w := (derives_no_zero hwf).2

theorem derives_zero (hwf : WfFacts g) {y : List Nat} (h : Derives g 0 y) :
    y = [0] := by
  generalize hX : (0 : Nat) = X at h
  cases h with
  | term a _ => rfl
  | rule r w hm _ =>
    exact absurd (hX ▸ (hwf.rules r hm).1) (Nat.not_le.mpr hwf.nTermsPos)

/-- symbols of real tokens are terminals other than EOI -/
def TokOk (t : Tables) (inp : Input) : Prop :=
  ∀ tk ∈ inp.toks.toList, 0 < tk.sym ∧ tk.sym < (t.nTerms : Int)

def nshift : List Ev → Nat
  | [] => 0
  | .shift _ _ _ :: r => nshift r + 1
  | .reduce _ _ _ :: r => nshift r

/-- EOI = 0 for ever after the text -/
def symAt (inp : Input) (j : Nat) : Nat := (inp.tok j).sym.toNat

def consumed (inp : Input) (m : Nat) : List Nat := (List.range m).map (symAt inp)

theorem symAt_lt_nTerms (htok : TokOk t inp) (h0 : 0 < t.nTerms) (j : Nat) :
    symAt inp j < t.nTerms ∧ (inp.tok j).sym = (symAt inp j : Int) := by
  unfold symAt
  rcases Nat.lt_or_ge j inp.toks.size with hj | hj
  · rw [tok_of_lt hj]
    have := htok _ (mem_toList_of_getElem? (Array.getElem?_eq_getElem hj))
    omega
  · rw [tok_of_size_le hj]
    exact ⟨h0, rfl⟩

theorem symAt_ge (inp : Input) {j : Nat} (h : inp.toks.size ≤ j) : symAt inp j = 0 := by
  unfold symAt
  rw [tok_of_size_le h]
  rfl

theorem symAt_lt (inp : Input) {j : Nat} (h : j < inp.toks.size) :
    symAt inp j = inp.toks[j].sym.toNat := by
  rw [symAt, tok_of_lt h]

theorem symAt_pos (htok : TokOk t inp) {j : Nat}
    (h : j < inp.toks.size) : 0 < symAt inp j := by
  rw [symAt_lt inp h]
  have := htok _ (mem_toList_of_getElem? (Array.getElem?_eq_getElem h))
  omega

theorem tok_zero_ge (htok : TokOk t inp) {j : Nat} (h : (inp.tok j).sym = 0) :
    inp.toks.size ≤ j :=
  Nat.le_of_not_lt fun hj => by
    have := symAt_pos htok hj
    rw [symAt, h] at this
    exact Nat.lt_irrefl 0 this

theorem tok_zero_next (h : TokOk t inp) (j : Nat) (hz : (inp.tok j).sym = 0) :
    inp.tok (j + 1) = inp.tok j := by
  have hj := tok_zero_ge h hz
  rw [tok_of_size_le hj, tok_of_size_le (Nat.le_succ_of_le hj)]

theorem consumed_succ (inp : Input) (m : Nat) :
    consumed inp (m + 1) = consumed inp m ++ [symAt inp m] := by
  simp [consumed, List.range_succ]

/-- `next`/`pos` bookkeeping after `m` shifts. A shifted EOI stays in `next` (`apply`) while `m` goes
on counting, so `pos` is tied to `m` only for `tk.sym ≠ 0`. -/
def NextOk (inp : Input) (c : Cfg) (m : Nat) : Prop :=
  match c.next with
  | some tk => tk = inp.tok m ∧ (tk.sym ≠ 0 → c.pos = m + 1)
  | none => c.pos = m

theorem nextOk_some {c : Cfg} {tk : Tok} {m : Nat} (h : c.next = some tk) :
    NextOk inp c m ↔ tk = inp.tok m ∧ (tk.sym ≠ 0 → c.pos = m + 1) := by
  rw [NextOk, h]

theorem nextOk_none {c : Cfg} {m : Nat} (h : c.next = none) : NextOk inp c m ↔ c.pos = m := by
  rw [NextOk, h]

theorem fetch_spec (inp : Input) (c : Cfg) (m : Nat) (h : NextOk inp c m) :
    (c.fetch inp).2 = inp.tok m ∧ (c.fetch inp).1.next = some (inp.tok m) ∧
    NextOk inp (c.fetch inp).1 m := by
  cases hn : c.next with
  | some tk =>
    obtain ⟨rfl, _⟩ := (nextOk_some hn).mp h
    rw [fetch_some hn]
    exact ⟨rfl, hn, h⟩
  | none =>
    obtain rfl := (nextOk_none hn).mp h
    rw [fetch_none hn]
    exact ⟨rfl, rfl, rfl, fun _ => rfl⟩

/-- what `fetched_eq` keeps, and the token bookkeeping with it -/
theorem fetched {c c1 : Cfg} {m : Nat} (h : c1 = c ∨ c1 = (c.fetch inp).1)
    (hn : NextOk inp c m) :
    c1.stack = c.stack ∧ c1.evs = c.evs ∧ NextOk inp c1 m :=
  ⟨(fetched_eq h).1, (fetched_eq h).2.2.1,
    h.elim (· ▸ hn) (· ▸ (fetch_spec inp c m hn).2.2)⟩

/-- The shift of token `m`, which is in `next`: EOI stays there, any other token is used up. -/
theorem apply_shift (htok : TokOk t inp) {c1 : Cfg} {m : Nat} (q : Int) (hn : NextOk inp c1 m)
    (hnext : c1.next = some (inp.tok m)) :
    ∃ c' e, apply t inp c1 (.shift q) = .cont c' ∧ e.sym = (inp.tok m).sym ∧ e.state = q ∧
      c'.stack = e :: c1.stack ∧ c'.state = q ∧ nshift c'.evs = nshift c1.evs + 1 ∧
      NextOk inp c' (m + 1) ∧ c'.pos = c1.pos ∧ ∀ tk, c'.next = some tk → c1.next = some tk := by
  rw [nextOk_some hnext] at hn
  rw [apply, hnext]
  refine ⟨_, _, rfl, rfl, rfl, rfl, rfl, rfl, ?_, rfl, ?_⟩
  -- the new `next` is `if (inp.tok m).sym ≠ 0 then none else some (inp.tok m)`
  · by_cases hz : (inp.tok m).sym = 0
    · exact (nextOk_some (if_neg fun (h : (inp.tok m).sym ≠ 0) => h hz)).mpr
        ⟨(tok_zero_next htok _ hz).symm, fun h => (h hz).elim⟩
    · exact (nextOk_none (if_pos hz)).mpr (hn.2 hz)
  · intro tk htk
    by_cases hz : (inp.tok m).sym = 0
    · simpa [hz] using htk
    · simp [hz] at htk

theorem decode_noDeep {c : Cfg} {s m a : Nat} {act : Act} {b : Bool} (hn : NextOk inp c m)
    (ha : (inp.tok m).sym = (a : Int)) (hst : c.state = (s : Int)) (hb : needsTok t s = some b)
    (hact : actOf t noDeep s a = some act) :
    decode t inp c = some (if b then (c.fetch inp).1 else c, act) := by
  unfold decode
  rw [hst, hb]
  cases b with
  | true =>
    simp only
    rw [(fetch_spec inp c m hn).1, ha, actOf_noDeep t _ s _ _ hact]
    rfl
  | false =>
    simp only
    rw [actOf_of_needsTok_false hb _ noDeep 0 a, hact]
    rfl

theorem decode_cert (hc : CertFacts g t cert) (htok : TokOk t inp) {c : Cfg} {s m : Nat}
    (hs : s < t.nStates) (hst : c.state = (s : Int)) (hn : NextOk inp c m) :
    ∃ b act, needsTok t s = some b ∧ (∀ deep, actOf t deep s (symAt inp m) = some act) ∧
      (if b then some (symAt inp m) else none, some act) ∈ stateActs t s ∧
      actOk g t cert s (if b then some (symAt inp m) else none, some act) = true ∧
      decode t inp c = some (if b then (c.fetch inp).1 else c, act) := by
  obtain ⟨ha2, ha1⟩ := symAt_lt_nTerms htok hc.nTermsPos m
  obtain ⟨b, act, hnt, hact, hmem, hok⟩ := cell_cert hc hs ha2
  exact ⟨b, act, hnt, hact, hmem, hok, decode_noDeep hn ha1 hst hnt (hact _)⟩

theorem consumed_le (inp : Input) : ∀ m, m ≤ inp.toks.size →
    consumed inp m = (inp.toks.toList.take m).map (fun tk => tk.sym.toNat)
  | 0, _ => by simp [consumed]
  | m + 1, h => by
    have hm : m < inp.toks.toList.length := by rw [Array.length_toList]; omega
    rw [consumed_succ, consumed_le inp m (by omega), symAt_lt inp h, List.take_add_one,
      List.getElem?_eq_getElem hm]
    simp

theorem consumed_length (inp : Input) (m : Nat) : (consumed inp m).length = m := by
  simp [consumed]

theorem consumed_no_zero {m : Nat} (hz : 0 ∉ consumed inp m) : m ≤ inp.toks.size :=
  Nat.le_of_not_lt fun h =>
    hz (List.mem_map.mpr ⟨inp.toks.size, List.mem_range.mpr h, symAt_ge inp (Nat.le_refl _)⟩)

theorem consumed_eoi (htok : TokOk t inp) {m : Nat} {u : List Nat}
    (h : consumed inp m = u ++ [0]) (hz : 0 ∉ u) :
    u = (inp.toks.toList.take inp.toks.size).map (fun tk => tk.sym.toNat) := by
  cases m with
  | zero => simp [consumed] at h
  | succ k =>
    rw [consumed_succ] at h
    obtain ⟨rfl, h2⟩ := List.append_inj' h rfl
    have hk := consumed_no_zero hz
    have hk2 : ¬ k < inp.toks.size := fun hlt => by
      have := symAt_pos htok hlt
      simp at h2
      omega
    rw [consumed_le inp k hk, Nat.le_antisymm hk (Nat.le_of_not_lt hk2)]

/-- `Stack g E i stk s syms w`: `stk` (top first) was built from the entry state `i` along
transitions of `E`; `s` is the top state, `syms` the symbols (top first), `w` the concatenated
yields (bottom first), each symbol deriving its yield. -/
inductive Stack (g : Grammar) (E : Nat → Nat → Int → Prop) (i : Nat) :
    List Entry → Nat → List Int → List Nat → Prop
  | base {e : Entry} : e.state = (i : Int) → Stack g E i [e] i [] []
  | push {e : Entry} {rest : List Entry} {p X q : Nat} {syms : List Int} {w y : List Nat} :
      Stack g E i rest p syms w → e.sym = (X : Int) → e.state = (q : Int) →
      E p X (q : Int) → Derives g X y →
      Stack g E i (e :: rest) q ((X : Int) :: syms) (w ++ y)

/-- what the invariant needs of a certificate and a transition relation `E`; `certOk` gives it for
`Edge` (`justified`), `certKOk` for `LRSoundK.EdgeK` (`justifiedK`) -/
structure Justified (g : Grammar) (t : Tables) (cert : Cert) (E : Nat → Nat → Int → Prop) :
    Prop where
  wf : g.wf = true
  nTerms : t.nTerms = g.nTerms
  nSyms : t.nSyms = g.nSyms
  nIn : g.inputs.size ≤ t.nStates
  pastEntry : ∀ i, i < g.inputs.size → pastOf cert (i : Nat) = []
  edge : ∀ {p X : Nat} {q : Int}, E p X q → edgeOk g.inputs.size t cert p (X : Nat) q = true
  goto : ∀ (s X : Nat), s < t.nStates → t.nTerms ≤ X → X < t.nSyms →
    ∃ q, gotoState t s X = some q ∧ (q = -1 ∨ E s X q)

theorem Justified.nTermsPos (hJ : Justified g t cert E) : 0 < t.nTerms :=
  nTerms_pos_of_wf hJ.wf hJ.nTerms

variable {stk : List Entry} {s : Nat} {syms : List Int} {w : List Nat}

theorem Stack.top (h : Stack g E i stk s syms w) :
    ∃ e rest, stk = e :: rest ∧ e.state = (s : Int) := by
  cases h with
  | base he => exact ⟨_, [], rfl, he⟩
  | push _ _ hq _ _ => exact ⟨_, _, rfl, hq⟩

theorem Stack.length (h : Stack g E i stk s syms w) : stk.length = syms.length + 1 := by
  induction h with
  | base he => rfl
  | push _ _ _ _ _ ih => simp [ih]

theorem Stack.mono {E' : Nat → Nat → Int → Prop} (hsub : ∀ {p X q}, E' p X q → E p X q)
    (h : Stack g E' i stk s syms w) : Stack g E i stk s syms w := by
  induction h with
  | base he => exact .base he
  | push _ hX hq hE hD ih => exact .push ih hX hq (hsub hE) hD

theorem Stack.lt (hJ : Justified g t cert E) (hi : i < g.inputs.size)
    (h : Stack g E i stk s syms w) : s < t.nStates := by
  cases h with
  | base he => exact Nat.lt_of_lt_of_le hi hJ.nIn
  | push _ _ _ hE _ =>
    obtain ⟨q', h1, _, h3, _⟩ := edgeOk_elim (hJ.edge hE)
    exact Int.ofNat.inj h1 ▸ h3

theorem Stack.past (hJ : Justified g t cert E) (hi : i < g.inputs.size)
    (h : Stack g E i stk s syms w) : pastOf cert (s : Nat) <+: syms := by
  induction h with
  | base he => rw [hJ.pastEntry i hi]; exact List.nil_prefix
  | push _ _ _ hE _ ih =>
    obtain ⟨q', h1, _, _, h4⟩ := edgeOk_elim (hJ.edge hE)
    obtain rfl := Int.ofNat.inj h1
    exact h4.trans ((List.prefix_cons_inj _).mpr ih)

theorem Stack.entry (hJ : Justified g t cert E) (h : Stack g E i stk s syms w)
    (hs : s < g.inputs.size) : w = [] := by
  cases h with
  | base he => rfl
  | push _ _ _ hE _ =>
    obtain ⟨q', h1, h2, _, _⟩ := edgeOk_elim (hJ.edge hE)
    exact absurd (Int.ofNat.inj h1 ▸ hs) (Nat.not_lt.mpr h2)

theorem Stack.pop (β : List Nat) {syms' : List Int} (h : Stack g E i stk s syms w)
    (e : syms = β.map Int.ofNat ++ syms') :
    ∃ s' w' v, Stack g E i (stk.drop β.length) s' syms' w' ∧ DerivesSeq g β.reverse v ∧
      w = w' ++ v ∧ (stk.take β.length).map (·.sym) = β.map Int.ofNat := by
  induction β generalizing stk s syms w with
  | nil =>
    simp only [List.map_nil, List.nil_append] at e
    subst e
    exact ⟨s, w, [], h, DerivesSeq.nil, (List.append_nil w).symm, rfl⟩
  | cons X β ih =>
    cases h with
    | base he => simp at e
    | push h0 hX hq hE hD =>
      simp only [List.map_cons, List.cons_append, List.cons.injEq] at e
      obtain ⟨e1, e2⟩ := e
      obtain rfl := Int.ofNat.inj e1
      obtain ⟨s', w', v, h1, h2, h3, h4⟩ := ih h0 e2
      refine ⟨s', w', v ++ _, h1, ?_, by rw [h3, List.append_assoc], ?_⟩
      · rw [List.reverse_cons]
        exact derivesSeq_append h2 (derivesSeq_single hD)
      · rw [List.length_cons, List.take_succ_cons, List.map_cons, List.map_cons, h4, hX]
        rfl

theorem ruleOk_elim {s : Nat} {r : Int} (h : ruleOk g t cert s r = true) :
    ∃ rule, 0 ≤ r ∧ g.rules[r.toNat]? = some rule ∧
      geti t.ruleLen r = some (rule.rhs.length : Int) ∧
      geti t.ruleSymbol r = some (rule.lhs : Int) ∧
      rule.rhs.reverse.map Int.ofNat <+: pastOf cert (s : Nat) := by
  unfold ruleOk at h
  simp only [Bool.and_eq_true, decide_eq_true_eq] at h
  obtain ⟨hr0, h⟩ := h
  cases hrule : g.rules[r.toNat]? with
  | none => rw [hrule] at h; cases h
  | some rule =>
    rw [hrule] at h
    simp only [Bool.and_eq_true, beq_iff_eq, List.isPrefixOf_iff_prefix] at h
    exact ⟨rule, hr0, rfl, h.1.1, h.1.2, h.2⟩

theorem Stack.popRule (hstk : Stack g E i stk s syms w) (hp : pastOf cert (s : Nat) <+: syms)
    {r : Int} (hok : ruleOk g t cert s r = true) :
    ∃ (rule : Rule) (syms' : List Int) (s' : Nat) (w' v : List Nat),
      0 ≤ r ∧ g.rules[r.toNat]? = some rule ∧
      geti t.ruleLen r = some (rule.rhs.length : Int) ∧
      geti t.ruleSymbol r = some (rule.lhs : Int) ∧
      Stack g E i (stk.drop rule.rhs.length) s' syms' w' ∧ DerivesSeq g rule.rhs v ∧
      w = w' ++ v ∧ (stk.take rule.rhs.length).map (·.sym) = rule.rhs.reverse.map Int.ofNat := by
  obtain ⟨rule, hr0, hrule, hlen, hsym, hpre⟩ := ruleOk_elim hok
  obtain ⟨syms', hsyms⟩ := hpre.trans hp
  obtain ⟨s', w', v, hrest, hder, hw, htake⟩ := hstk.pop rule.rhs.reverse hsyms.symm
  rw [List.reverse_reverse] at hder
  rw [List.length_reverse] at hrest htake
  exact ⟨rule, syms', s', w', v, hr0, hrule, hlen, hsym, hrest, hder, hw, htake⟩

theorem Stack.reduce_spec (hJ : Justified g t cert E) (hi : i < g.inputs.size)
    (hstk : Stack g E i stk s syms w) {r : Int} (hok : ruleOk g t cert s r = true) :
    ∃ rule v, 0 ≤ r ∧ g.rules[r.toNat]? = some rule ∧ rule.rhs.length < stk.length ∧
      (stk.take rule.rhs.length).map (·.sym) = rule.rhs.reverse.map Int.ofNat ∧
      DerivesSeq g rule.rhs v ∧ v <:+ w := by
  obtain ⟨rule, _, _, w', v, hr0, hrule, _, _, hrest, hder, hw, htake⟩ :=
    hstk.popRule (hstk.past hJ hi) hok
  obtain ⟨top, rest, htop, _⟩ := hrest.top
  exact ⟨rule, v, hr0, hrule, List.length_lt_of_drop_ne_nil (htop ▸ List.cons_ne_nil top rest),
    htake, hder, w', hw.symm⟩

def StackInv (g : Grammar) (E : Nat → Nat → Int → Prop) (i : Nat) (inp : Input) (c : Cfg) :
    Prop :=
  ∃ s syms, Stack g E i c.stack s syms (consumed inp (nshift c.evs)) ∧ c.state = (s : Int) ∧
    NextOk inp c (nshift c.evs)

/-- the decisions `decode` takes in a state of the automaton are justified: a reduction by
`ruleOk`, a shift by a transition of `E` on the terminal under the cursor, which has been fetched
(deep lookahead or not, `decode` only fetches) -/
def DecodeOk (g : Grammar) (t : Tables) (cert : Cert) (E : Nat → Nat → Int → Prop)
    (inp : Input) : Prop :=
  ∀ (c c1 : Cfg) (act : Act) (s m : Nat), s < t.nStates → c.state = (s : Int) →
    NextOk inp c m → decode t inp c = some (c1, act) →
    match act with
    | .reduce r => ruleOk g t cert s r = true
    | .shift q => c1.next = some (inp.tok m) ∧ E s (symAt inp m) q
    | .error => True

/-- What a step that goes on does, in terms of the automaton: with the stack `stk`, the top state
`s` and `m` tokens shifted, it takes the transition `p -X-> q`: it shifts token `m` along a terminal
transition from `s`, or reduces by a rule that `ruleOk` admits in `s` and enters the goto state of
the state `p` the pop uncovers. -/
inductive Move (g : Grammar) (t : Tables) (cert : Cert) (E : Nat → Nat → Int → Prop) (inp : Input)
    (s : Nat) (stk : List Entry) (m : Nat) : Act → Nat → Nat → Nat → Cfg → Prop
  | shift {a q : Nat} {e : Entry} {c' : Cfg} : a < t.nTerms → symAt inp m = a →
      E s a q → e.sym = (a : Int) → e.state = (q : Int) → c'.stack = e :: stk →
      c'.state = (q : Int) → nshift c'.evs = m + 1 →
      Move g t cert E inp s stk m (.shift q) s a q c'
  | reduce {r : Int} {rule : Rule} {top e : Entry} {rest : List Entry} {p q : Nat} {c' : Cfg} :
      ruleOk g t cert s r = true → g.rules[r.toNat]? = some rule →
      stk.drop rule.rhs.length = top :: rest → top.state = (p : Int) →
      gotoState t p rule.lhs = some (q : Int) → E p rule.lhs q →
      e.sym = (rule.lhs : Int) → e.state = (q : Int) → c'.stack = e :: top :: rest →
      c'.state = (q : Int) → nshift c'.evs = m →
      Move g t cert E inp s stk m (.reduce r) p rule.lhs q c'

theorem Move.edge {s m p X q : Nat} {stk : List Entry} {act : Act} {c' : Cfg}
    (h : Move g t cert E inp s stk m act p X q c') : E p X q := by
  cases h with
  | shift _ _ hE => exact hE
  | reduce _ _ _ _ _ hE => exact hE

theorem initCfg_next (inp : Input) (i : Nat) : NextOk inp (initCfg inp i) 0 :=
  (nextOk_some rfl).mpr ⟨rfl, fun _ => rfl⟩

theorem stackInv_init : StackInv g E i inp (initCfg inp i) :=
  ⟨i, [], Stack.base rfl, rfl, initCfg_next inp i⟩

section step
variable (hJ : Justified g t cert E)
include hJ

/-- `E'` is a part of the transitions that the run stays in (all of `E` for soundness, the relevant
ones, `LRViable.RelEdge`, for the error position); the certificate justifies `E`. -/
theorem Move.inv {E' : Nat → Nat → Int → Prop} (hsub : ∀ {p X q}, E' p X q → E p X q)
    (hi : i < g.inputs.size) {m p X q : Nat} {act : Act} {c' : Cfg}
    (hstk : Stack g E' i stk s syms (consumed inp m))
    (hm : Move g t cert E inp s stk m act p X q c') (hnew : E' p X q)
    (hn : NextOk inp c' (nshift c'.evs)) : StackInv g E' i inp c' := by
  cases hm with
  | shift ha hsa _ hsym he hstk' hst' hevs =>
    refine ⟨q, (X : Int) :: syms, ?_, hst', hn⟩
    rw [hstk', hevs, consumed_succ, hsa]
    exact .push hstk hsym he hnew (.term X (hJ.nTerms ▸ ha))
  | @reduce _ rule _ _ _ _ q _ hok hrule hdrop hts _ _ hsym he hstk' hst' hevs =>
    obtain ⟨rule', syms', p', w', v, _, hrule', _, _, hrest, hder, hw, _⟩ :=
      hstk.popRule ((hstk.mono hsub).past hJ hi) hok
    cases hrule'.symm.trans hrule
    rw [hdrop] at hrest
    obtain ⟨_, _, htop, hts'⟩ := hrest.top
    cases htop
    cases Int.ofNat.inj (hts'.symm.trans hts)
    refine ⟨q, (rule.lhs : Int) :: syms', ?_, hst', hn⟩
    rw [hstk', hevs, hw]
    exact .push hrest hsym he hnew (.rule rule v (mem_toList_of_getElem? hrule) hder)

theorem step_move (hD : DecodeOk g t cert E inp) (htok : TokOk t inp)
    (hi : i < g.inputs.size) {c : Cfg}
    (hstk : Stack g E i c.stack s syms (consumed inp (nshift c.evs))) (hst : c.state = (s : Int))
    (hn : NextOk inp c (nshift c.evs)) :
    match step t inp c with
    | .cont c' => NextOk inp c' (nshift c'.evs) ∧ ∃ (c1 : Cfg) (act : Act) (p X q : Nat),
        decode t inp c = some (c1, act) ∧
        Move g t cert E inp s c.stack (nshift c.evs) act p X q c'
    | .done res c' => (res = .panic → decode t inp c = none) ∧
        (res ≠ .panic → nshift c'.evs = nshift c.evs ∧ NextOk inp c' (nshift c.evs)) := by
  rcases step_cases t inp c with ⟨hd, h⟩ | ⟨c1, act, hd, h⟩ <;> rw [h]
  · exact ⟨fun _ => hd, fun h => absurd rfl h⟩
  obtain ⟨e1, e3, hn1⟩ := fetched (decode_fetch hd) hn
  have hact := hD c c1 act s _ (hstk.lt hJ hi) hst hn hd
  cases act with
  | error => rw [apply]; exact ⟨nofun, fun _ => ⟨by rw [e3], hn1⟩⟩
  | shift q =>
    obtain ⟨hnext, hE⟩ := hact
    obtain ⟨ha, ha1⟩ := symAt_lt_nTerms htok hJ.nTermsPos (nshift c.evs)
    obtain ⟨c', e, happ, hes, heq, hstk', hst', hevs, hn', _⟩ := apply_shift htok q hn1 hnext
    obtain ⟨q', rfl, _⟩ := edgeOk_elim (hJ.edge hE)
    rw [e1] at hstk'
    rw [e3] at hevs
    rw [happ]
    exact ⟨hevs ▸ hn', c1, _, s, _, q', hd,
      .shift ha rfl hE (hes.trans ha1) heq hstk' hst' hevs⟩
  | reduce r =>
    obtain ⟨rule, syms', s', w', v, _, hrule, hlen, hsym, hrest, _⟩ :=
      hstk.popRule (hstk.past hJ hi) hact
    obtain ⟨top, rest, htop, hts⟩ := hrest.top
    have hwf := (wfFacts hJ.wf).rules rule (mem_toList_of_getElem? hrule)
    obtain ⟨q, hq, hE⟩ := hJ.goto s' rule.lhs (hrest.lt hJ hi) (hJ.nTerms ▸ hwf.1)
      (hJ.nSyms ▸ hwf.2.1)
    obtain ⟨c2, off, endo, h2, happ⟩ := apply_reduce_goto (inp := inp) (c1 := c1) hlen hsym
      (by rw [e1, Int.toNat_natCast]; exact htop) (hts ▸ hq)
    obtain ⟨_, e2, hn2⟩ := fetched (h2 ▸ redParts_fst inp c1 _) hn1
    have hevs : nshift (Ev.reduce r off endo :: c2.evs) = nshift c.evs := by rw [nshift, e2, e3]
    rw [happ]
    rcases hE with rfl | hE
    · simp only [if_true]
      exact ⟨nofun, fun _ => ⟨hevs, hn2⟩⟩
    · obtain ⟨q', rfl, _⟩ := edgeOk_elim (hJ.edge hE)
      simp only [if_neg (by omega : ¬ (q' : Int) = -1)]
      exact ⟨hevs ▸ hn2, c1, _, s', rule.lhs, q', hd,
        .reduce hact hrule htop hts hq hE rfl rfl rfl rfl hevs⟩

theorem step_stackInv (hD : DecodeOk g t cert E inp) (htok : TokOk t inp)
    (hi : i < g.inputs.size) (c c' : Cfg) (h : StackInv g E i inp c)
    (hs : step t inp c = .cont c') : StackInv g E i inp c' := by
  obtain ⟨s, syms, hstk, hst, hn⟩ := h
  have hm := step_move hJ hD htok hi hstk hst hn
  rw [hs] at hm
  obtain ⟨hn', _, _, _, _, _, _, hm⟩ := hm
  exact hm.inv hJ id hi hstk hm.edge hn'

/-- `hstep` is the caller's: that the steps stay in the part `E'` is not a matter of `Justified`
(`step_stackInv` for `E' = E`, `LRViable.step_vinv` for the relevant transitions). -/
theorem runLoop_inv {E' : Nat → Nat → Int → Prop} (hsub : ∀ {p X q}, E' p X q → E p X q)
    (hstep : ∀ c c', StackInv g E' i inp c → step t inp c = .cont c' → StackInv g E' i inp c')
    (hD : DecodeOk g t cert E inp) (htok : TokOk t inp) (hi : i < g.inputs.size) (fin : Int) :
    ∀ (fuel : Nat) (c : Cfg), StackInv g E' i inp c →
      match runLoop t inp fin fuel c with
      | (.accept, c') => StackInv g E' i inp c' ∧ c'.state = fin
      | (.panic, _) => ∃ c0, StackInv g E' i inp c0 ∧ decode t inp c0 = none
      | (.syntaxError off endo, c') => ∃ c0, StackInv g E' i inp c0 ∧
          nshift c'.evs = nshift c0.evs ∧ off = (inp.tok (nshift c0.evs)).off ∧
          endo = (inp.tok (nshift c0.evs)).endo
      | (.fuel, _) => True
  | 0, c, _ => by rw [runLoop]; trivial
  | fuel + 1, c, hinv => by
    by_cases hfin : c.state = fin
    · rw [runLoop, if_pos hfin]
      exact ⟨hinv, hfin⟩
    rw [runLoop_succ hfin]
    have ⟨s, syms, hstk, hst, hn⟩ := hinv
    have hm := step_move hJ hD htok hi (hstk.mono hsub) hst hn
    cases hs : step t inp c with
    | cont c1 => exact runLoop_inv hsub hstep hD htok hi fin fuel c1 (hstep c c1 hinv hs)
    | done r c1 =>
      rw [hs] at hm
      cases r with
      | panic => exact ⟨c, hinv, hm.1 rfl⟩
      | syntaxError a b =>
        obtain ⟨e1, e2⟩ := hm.2 nofun
        simp only [errorAt_eq, (fetch_spec inp c1 _ e2).1]
        exact ⟨c, hinv, by rw [fetch_evs, e1], rfl, rfl⟩
      | accept => exact absurd hs step_not_accept
      | fuel => trivial

end step

def reachOn (es : List (Nat × Nat × Int)) (c : Cert) (i : Nat) : Bool :=
  (reachOf c i).contains i &&
  es.all (fun (p, _, q) =>
    !(reachOf c i).contains p || decide (q < 0) || (reachOf c i).contains q.toNat)

/-- `finalOk` over a list of transitions: the two checkers differ in their `edges` only -/
def finalOn (es : List (Nat × Nat × Int)) (g : Grammar) (t : Tables) (c : Cert) (i : Nat) : Bool :=
  match g.inputs[i]?, t.finalStates[i]? with
  | some inp, some f =>
    match gotoState t i inp.sym with
    | some l =>
      decide ((g.inputs.size : Int) ≤ l) && decide ((g.inputs.size : Int) ≤ f) &&
      reachOn es c i &&
      es.all (fun (p, x, q) =>
        !(reachOf c i).contains p || q != l || (p == i && x == inp.sym)) &&
      (if inp.eoi then
        decide (f ≠ l) && es.all (fun (p, x, q) =>
          !(reachOf c i).contains p || q != f || ((p : Int) == l && x == 0))
       else f == l)
    | none => false
  | _, _ => false

theorem finalOk_eq_finalOn : finalOk g t cert i = finalOn (edges t) g t cert i := by rfl

variable {es : List (Nat × Nat × Int)}

/-- one conjunct of the `es.all` conditions, for a transition from a reachable state that fails
the middle alternative -/
theorem edge_cond {l : List Nat} {p : Nat} {a b : Bool} (h : (!l.contains p || a || b) = true)
    (hp : p ∈ l) (ha : a = false) : b = true := by
  rw [List.contains_eq_mem, decide_eq_true hp, ha] at h
  exact h

theorem finalOn_elim (h : finalOn es g t cert i = true) :
    ∃ (gi : GInput) (f l : Int), g.inputs[i]? = some gi ∧ t.finalStates[i]? = some f ∧
      (g.inputs.size : Int) ≤ l ∧ (g.inputs.size : Int) ≤ f ∧ reachOn es cert i = true ∧
      (∀ p x q, (p, x, q) ∈ es → p ∈ reachOf cert i → q = l → p = i ∧ x = gi.sym) ∧
      ((gi.eoi = true ∧ f ≠ l ∧
          ∀ p x q, (p, x, q) ∈ es → p ∈ reachOf cert i → q = f → (p : Int) = l ∧ x = 0) ∨
       (gi.eoi = false ∧ f = l)) := by
  revert h
  fun_cases finalOn es g t cert i
  case case1 gi f hf hgi l hl =>
    intro h
    simp only [Bool.and_eq_true, decide_eq_true_eq, List.all_eq_true] at h
    obtain ⟨⟨⟨⟨h1, h2⟩, hr⟩, h3⟩, h4⟩ := h
    refine ⟨gi, f, l, hgi, hf, h1, h2, hr,
      fun p x q hm hp hq => by simpa using edge_cond (h3 _ hm) hp (by simp [hq]), ?_⟩
    cases he : gi.eoi with
    | true =>
      rw [he] at h4
      simp only [if_true, Bool.and_eq_true, decide_eq_true_eq, List.all_eq_true] at h4
      exact Or.inl ⟨rfl, h4.1,
        fun p x q hm hp hq => by simpa using edge_cond (h4.2 _ hm) hp (by simp [hq])⟩
    | false =>
      rw [he] at h4
      exact Or.inr ⟨rfl, by simpa using h4⟩
  all_goals nofun

theorem reachOn_elim (h : reachOn es cert i = true) :
    i ∈ reachOf cert i ∧
    ∀ p x (q : Nat), (p, x, (q : Int)) ∈ es → p ∈ reachOf cert i → q ∈ reachOf cert i := by
  unfold reachOn at h
  rw [Bool.and_eq_true, List.all_eq_true] at h
  refine ⟨by simpa using h.1, fun p x q hm hp => ?_⟩
  have hq : decide ((q : Int) < 0) = false := decide_eq_false (by omega)
  simpa using edge_cond (h.2 _ hm) hp hq

section final
variable (hJ : Justified g t cert E)
  (hmem : ∀ {p X : Nat} {q : Int}, E p X q → (p, X, q) ∈ es)
include hmem

theorem Stack.reach (hr : reachOn es cert i = true)
    (h : Stack g E i stk s syms w) : s ∈ reachOf cert i := by
  induction h with
  | base he => exact (reachOn_elim hr).1
  | push _ _ _ hE _ ih => exact (reachOn_elim hr).2 _ _ _ (hmem hE) ih

include hJ

/-- In the final state the stack holds the start symbol, and EOI above it if the input requires
it: the final state is entered only this way. -/
theorem Stack.final_yield (hfin : finalOn es g t cert i = true) (hi : i < g.inputs.size)
    (hstk : Stack g E i stk s syms w) (hf : t.finalStates[i]? = some (s : Int)) :
    ∃ gi u, g.inputs[i]? = some gi ∧ Derives g gi.sym u ∧
      ((gi.eoi = true ∧ w = u ++ [0]) ∨ (gi.eoi = false ∧ w = u)) := by
  obtain ⟨gi, f, l, hgi, hf', hl1, hf1, hr, hedge, hcase⟩ := finalOn_elim hfin
  rw [hf] at hf'
  cases hf'
  cases hstk with
  | base he => exact absurd (Int.ofNat_le.mp hf1) (Nat.not_le.mpr hi)
  | push hrest _ _ hE hD =>
    rcases hcase with ⟨he, hne, hedge2⟩ | ⟨he, rfl⟩
    · obtain ⟨hp, rfl⟩ := hedge2 _ _ _ (hmem hE) (hrest.reach hmem hr) rfl
      obtain rfl := derives_zero (wfFacts hJ.wf) hD
      cases hrest with
      | base he => exact absurd (Int.ofNat_le.mp (hp ▸ hl1)) (Nat.not_le.mpr hi)
      | push hrest' _ _ hE' hD' =>
        obtain ⟨rfl, rfl⟩ := hedge _ _ _ (hmem hE') (hrest'.reach hmem hr) hp
        obtain rfl := hrest'.entry hJ hi
        exact ⟨gi, _, hgi, hD', Or.inl ⟨he, by simp⟩⟩
    · obtain ⟨rfl, rfl⟩ := hedge _ _ _ (hmem hE) (hrest.reach hmem hr) rfl
      obtain rfl := hrest.entry hJ hi
      exact ⟨gi, _, hgi, hD, Or.inr ⟨he, by simp⟩⟩

/-- Soundness, for any justified transition relation and decoding: an accepting run has consumed
a sentence — the whole token string if the input requires end-of-input. -/
theorem run_accept_sentence (hD : DecodeOk g t cert E inp) (htok : TokOk t inp)
    (hi : i < g.inputs.size) (hfin : finalOn es g t cert i = true) {fuel : Nat} {c : Cfg}
    (hrun : run t inp i fuel = (Result.accept, c)) :
    ∃ n, n ≤ inp.toks.size ∧
      Sentence g i ((inp.toks.toList.take n).map (fun tk => tk.sym.toNat)) ∧
      ((∃ gi, g.inputs[i]? = some gi ∧ gi.eoi = true) → n = inp.toks.size) := by
  obtain ⟨fin, hf, hrun⟩ := run_eq hrun (fun h => nomatch h)
  have h := runLoop_inv hJ id (step_stackInv hJ hD htok hi) hD htok hi fin fuel _ stackInv_init
  rw [hrun] at h
  obtain ⟨⟨s, syms, hstk, hst, _⟩, hfs⟩ := h
  obtain ⟨gi, u, hgi, hDer, hcase⟩ :=
    hstk.final_yield hJ hmem hfin hi (by rw [hf, ← hfs, hst])
  have hwf := wfFacts hJ.wf
  have hu0 : 0 ∉ u := (derives_no_zero hwf).1 hDer (by
    have := (hwf.inputs gi (mem_toList_of_getElem? hgi)).1; have := hwf.nTermsPos; omega)
  rcases hcase with ⟨he, hw⟩ | ⟨he, hw⟩
  · refine ⟨inp.toks.size, Nat.le_refl _, ⟨gi, hgi, ?_⟩, fun _ => rfl⟩
    rw [← consumed_eoi htok hw hu0]; exact hDer
  · have hm := consumed_no_zero (m := nshift c.evs) (by rw [hw]; exact hu0)
    refine ⟨nshift c.evs, hm, ⟨gi, hgi, ?_⟩, ?_⟩
    · rw [← consumed_le inp _ hm, hw]; exact hDer
    · rintro ⟨gi', hgi', he'⟩
      rw [hgi] at hgi'
      cases hgi'
      rw [he] at he'
      cases he'

end final

theorem accept_iff_sentence {gi : GInput} (hgi : g.inputs[i]? = some gi)
    (sound : i < g.inputs.size → ∀ fuel c, run t inp i fuel = (Result.accept, c) →
      ∃ n, n ≤ inp.toks.size ∧
        Sentence g i ((inp.toks.toList.take n).map (fun tk => tk.sym.toNat)) ∧
        ((∃ gi, g.inputs[i]? = some gi ∧ gi.eoi = true) → n = inp.toks.size))
    (complete : Sentence g i (inp.toks.toList.map (fun tk => tk.sym.toNat)) →
      ∃ fuel c, run t inp i fuel = (Result.accept, c))
    (pre : gi.eoi = false → ∀ n,
      Sentence g i ((inp.toks.toList.take n).map (fun tk => tk.sym.toNat)) →
      ∃ fuel c, run t inp i fuel = (Result.accept, c)) :
    (∃ fuel c, run t inp i fuel = (Result.accept, c)) ↔
      if gi.eoi then Sentence g i (inp.toks.toList.map (fun tk => tk.sym.toNat))
      else ∃ n, n ≤ inp.toks.size ∧
        Sentence g i ((inp.toks.toList.take n).map (fun tk => tk.sym.toNat)) := by
  obtain ⟨hi, _⟩ := Array.getElem?_eq_some_iff.mp hgi
  cases heoi : gi.eoi with
  | true =>
    simp only [↓reduceIte]
    refine ⟨?_, complete⟩
    rintro ⟨fuel, c, hrun⟩
    obtain ⟨n, _, hsent, hall⟩ := sound hi fuel c hrun
    rw [hall ⟨gi, hgi, heoi⟩, List.take_of_length_le (by simp)] at hsent
    exact hsent
  | false =>
    simp only [Bool.false_eq_true, ↓reduceIte]
    refine ⟨?_, fun ⟨n, _, hsent⟩ => pre heoi n hsent⟩
    rintro ⟨fuel, c, hrun⟩
    obtain ⟨n, hn, hsent, _⟩ := sound hi fuel c hrun
    exact ⟨n, hn, hsent⟩

end TmVerif.LRSound
