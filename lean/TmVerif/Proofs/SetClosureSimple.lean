import TmVerif.Proofs.SetClosure
import TmVerif.Proofs.GraphTarjan
/-!
`closure` on a component without intersection nodes (`simpleClosure`): what the two nested loops
accumulate, and that the common result satisfies the equations of the component and is the least such.
-/
namespace TmVerif.SetClosure
open TmVerif.IntSet TmVerif.Graph

/-- what the edge `w` of a node adds to `res`: the set of `w`, complemented for a complement node (`isC`) -/
def contrib (a : Asg) (isC : Bool) (w : Nat) (x : Int) : Prop :=
  if isC = true then ¬ a w x else a w x

theorem simpleEdgeStep_eq (s : St) (snap : List Nat) (v : Nat) (isC : Bool) (acc : IntSet × List Nat) (w : Nat) :
    simpleEdgeStep s snap v isC acc w =
      if w ∈ snap then (acc.1, acc.2 ++ if isC = true then [v] else [])
      else (acc.1.merge (if isC = true then (s.get w).complement else s.get w), acc.2) := by
  unfold simpleEdgeStep
  by_cases hw : w ∈ snap <;> cases isC <;> simp [hw]

theorem simpleEdges_spec (s : St) (snap : List Nat) (v : Nat) (isC : Bool)
    (hS : ∀ v, Sorted (s.get v).set) :
    ∀ (ws : List Nat) (acc : IntSet × List Nat), Sorted acc.1.set →
      Sorted (ws.foldl (simpleEdgeStep s snap v isC) acc).1.set ∧
      (∀ x, (ws.foldl (simpleEdgeStep s snap v isC) acc).1.Mem x ↔
        acc.1.Mem x ∨ ∃ w ∈ ws, w ∉ snap ∧ contrib s.asg isC w x) ∧
      ∃ extra, (ws.foldl (simpleEdgeStep s snap v isC) acc).2 = acc.2 ++ extra ∧
        ∀ e, e ∈ extra ↔ e = v ∧ isC = true ∧ ∃ w ∈ ws, w ∈ snap := by
  intro ws
  induction ws with
  | nil => intro acc h; exact ⟨h, by simp, [], by simp, by simp⟩
  | cons w ws ih =>
    intro acc hacc
    rw [List.foldl_cons, simpleEdgeStep_eq]
    by_cases hw : w ∈ snap
    · rw [if_pos hw]
      obtain ⟨h1, h2, extra, h3, h4⟩ := ih (acc.1, acc.2 ++ if isC = true then [v] else []) hacc
      refine ⟨h1, fun x => ?_, (if isC = true then [v] else []) ++ extra, by rw [h3, List.append_assoc], fun e => ?_⟩
      · rw [h2 x]; simp [hw]
      · rw [List.mem_append, h4 e]; cases isC <;> simp +contextual [hw]
    · rw [if_neg hw]
      have hsrt : Sorted (if isC = true then (s.get w).complement else s.get w).set := by
        cases isC <;> exact hS w
      obtain ⟨h1, h2, extra, h3, h4⟩ := ih (acc.1.merge _, acc.2) (sorted_merge _ _ hacc hsrt)
      have hcx (x : Int) : (if isC = true then (s.get w).complement else s.get w).Mem x ↔ contrib s.asg isC w x := by
        unfold contrib
        cases isC
        · exact Iff.rfl
        · exact mem_complement _ _
      refine ⟨h1, fun x => ?_, extra, h3, fun e => ?_⟩
      · rw [h2 x, mem_merge _ _ hacc hsrt, hcx]; simp [hw, or_assoc]
      · rw [h4 e]; simp [hw]

/-- the offence recorded by `closure`: a complement node with its edge on the stack -/
def Offends (sys : Sys) (snap : List Nat) (v : Nat) : Prop :=
  opOf sys v = .compl ∧ ∃ w ∈ edgesOf sys v, w ∈ snap

theorem simpleNodes_spec (sys : Sys) (s : St) (snap : List Nat) (hS : ∀ v, Sorted (s.get v).set) :
    ∀ (vs : List Nat) (acc r : IntSet × List Nat), vs.foldl (simpleNodeStep sys s snap) acc = r →
      Sorted acc.1.set →
      Sorted r.1.set ∧
      (∀ x, r.1.Mem x ↔
        acc.1.Mem x ∨ ∃ v ∈ vs, (s.get v).Mem x ∨
          ∃ w ∈ edgesOf sys v, w ∉ snap ∧ contrib s.asg (opOf sys v == .compl) w x) ∧
      ∃ extra, r.2 = acc.2 ++ extra ∧ ∀ e, e ∈ extra ↔ e ∈ vs ∧ Offends sys snap e := by
  intro vs
  induction vs with
  | nil => rintro acc _ rfl h; exact ⟨h, by simp, [], by simp, by simp⟩
  | cons v vs ih =>
    rintro acc _ rfl hacc
    rw [List.foldl_cons, simpleNodeStep]
    obtain ⟨e1, e2, ex1, e3, e4⟩ := simpleEdges_spec s snap v (opOf sys v == .compl) hS (edgesOf sys v)
      (acc.1.merge (s.get v), acc.2) (sorted_merge _ _ hacc (hS v))
    obtain ⟨h1, h2, ex2, h3, h4⟩ := ih _ _ rfl e1
    refine ⟨h1, fun x => ?_, ex1 ++ ex2, by rw [h3, e3, List.append_assoc], fun e => ?_⟩
    · rw [h2 x, e2 x, mem_merge _ _ hacc (hS v)]
      simp only [List.mem_cons, exists_eq_or_imp, or_assoc]
    · rw [List.mem_append, e4 e, h4 e, List.mem_cons, or_and_right, beq_iff_eq]
      exact or_congr_left (and_congr_right fun h => by rw [h]; rfl)

/-- what `Merge`, `Intersect` and `Complement` preserve -/
def Tidy (sys : Sys) (a : IntSet) : Prop := Sorted a.set ∧ ∀ e ∈ a.set, e ∈ mlist sys

theorem Tidy.nil (sys : Sys) (i : Bool) : Tidy sys ⟨i, []⟩ := ⟨trivial, fun _ h => absurd h List.not_mem_nil⟩

theorem Tidy.merge {sys : Sys} {a b : IntSet} (ha : Tidy sys a) (hb : Tidy sys b) : Tidy sys (a.merge b) :=
  ⟨sorted_merge _ _ ha.1 hb.1, fun e he => by
    rcases set_merge_sub a b he with h | h
    · exact ha.2 e h
    · exact hb.2 e h⟩

theorem Tidy.inter {sys : Sys} {a b : IntSet} (ha : Tidy sys a) (hb : Tidy sys b) : Tidy sys (a.inter b) :=
  ⟨sorted_inter _ _ ha.1 hb.1, fun e he => by
    rcases set_inter_sub a b he with h | h
    · exact ha.2 e h
    · exact hb.2 e h⟩

theorem Tidy.complement {sys : Sys} {a : IntSet} (ha : Tidy sys a) : Tidy sys a.complement := ha

theorem simpleNodes_tidy {sys : Sys} (s : St) (hT : ∀ v, Tidy sys (s.get v)) (snap : List Nat)
    (vs : List Nat) (acc : IntSet × List Nat) (h : Tidy sys acc.1) :
    Tidy sys (vs.foldl (simpleNodeStep sys s snap) acc).1 := by
  refine List.foldlRecOn (motive := fun acc : IntSet × List Nat => Tidy sys acc.1) vs _ h ?_
  intro b hb v _
  refine List.foldlRecOn (motive := fun acc : IntSet × List Nat => Tidy sys acc.1) _ _ (hb.merge (hT v)) ?_
  intro b' hb' w _
  rw [simpleEdgeStep_eq]
  split
  · exact hb'
  · apply hb'.merge
    split
    · exact (hT w).complement
    · exact hT w

/-- what holds when the callback is invoked for `comp` in state `s` -/
structure CompCtx (sys : Sys) (comp snap : List Nat) (s : St) : Prop where
  wf : Wf sys
  len : s.sets.length = sys.length
  sorted : ∀ v, Sorted (s.get v).set
  fresh : ∀ v ∈ comp, s.get v = ⟨false, initOf sys v⟩
  lt : ∀ v ∈ comp, v < sys.length
  scc : ∀ u ∈ comp, ∀ w, w ∈ comp ↔ SC (graphOf sys) u w
  snap : SnapOk (graphOf sys) (comp, snap)

/-- what every callback invocation guarantees, whether or not it reports an error -/
structure StepOk (sys : Sys) (comp snap : List Nat) (s t : St) : Prop where
  len : t.sets.length = sys.length
  sorted : ∀ v, Sorted (t.get v).set
  frame : ∀ u, u ∉ comp → t.get u = s.get u
  err : ∃ extra, t.err = s.err ++ extra ∧ ∀ e ∈ extra, e ∈ comp ∧ Offends sys snap e
  offend : (∃ v ∈ comp, Offends sys snap v) → t.err ≠ []
  tmo : s.timeout = true → t.timeout = true
  /-- this field and the next matter for `slowClosure` only: its loop must not run out of fuel -/
  bounded : Bounded sys s → Bounded sys t
  tmoF : Bounded sys s → s.timeout = false → t.timeout = false

/-- the result for one component: its equations hold, and it is below every assignment that satisfies
these equations and is above the computed one on the successors outside (equal below complement nodes) -/
def CompGood (sys : Sys) (comp : List Nat) (t : St) : Prop :=
  (∀ v ∈ comp, EqAt sys t.asg v) ∧
  ∀ b : Asg, (∀ v ∈ comp, EqAt sys b v) →
    (∀ v ∈ comp, ∀ w ∈ edgesOf sys v, w ∉ comp →
      (∀ x, t.asg w x → b w x) ∧ (opOf sys v = .compl → ∀ x, b w x → t.asg w x)) →
    ∀ v ∈ comp, ∀ x, t.asg v x → b v x

theorem CompCtx.snapIff {sys : Sys} {comp snap : List Nat} {s : St} (c : CompCtx sys comp snap s)
    {v w : Nat} (hv : v ∈ comp) (hw : w ∈ edgesOf sys v) : w ∈ snap ↔ w ∈ comp := c.snap v hv w hw

theorem CompCtx.get_mem_iff_init {sys : Sys} {comp snap : List Nat} {s : St} (c : CompCtx sys comp snap s)
    {v : Nat} (hv : v ∈ comp) (e : Int) : (s.get v).Mem e ↔ e ∈ initOf sys v :=
  c.fresh v hv ▸ mem_fresh _ e

/-- what the two loops of `closure` leave in `res` and `c.err` -/
def simpleAcc (sys : Sys) (comp snap : List Nat) (s : St) : IntSet × List Nat :=
  comp.foldl (simpleNodeStep sys s snap) (⟨false, []⟩, s.err)

theorem simpleClosure_err (sys : Sys) (comp snap : List Nat) (s : St) :
    (simpleClosure sys comp snap s).err = (simpleAcc sys comp snap s).2 := by
  unfold simpleClosure; simp only; split <;> rfl

theorem simpleClosure_timeout (sys : Sys) (comp snap : List Nat) (s : St) :
    (simpleClosure sys comp snap s).timeout = s.timeout := by
  unfold simpleClosure; simp only; split <;> rfl

theorem simpleClosure_get {sys : Sys} {comp snap : List Nat} {s : St} (c : CompCtx sys comp snap s) (u : Nat) :
    (simpleClosure sys comp snap s).get u =
      if u ∈ comp ∧ (simpleAcc sys comp snap s).2 = [] then (simpleAcc sys comp snap s).1 else s.get u := by
  unfold simpleClosure
  change (if (simpleAcc sys comp snap s).2.length != 0 then _ else _ : St).get u = _
  by_cases hr : (simpleAcc sys comp snap s).2 = []
  · rw [if_neg (by simp [hr])]
    simp only [hr, and_true]
    exact assignAll_getD _ _ _ _ _ fun v hv => c.len ▸ c.lt v hv
  · rw [if_pos (by simpa using hr), if_neg (fun h => hr h.2)]; rfl

theorem simple_stepOk {sys : Sys} {comp snap : List Nat} {s : St} (c : CompCtx sys comp snap s) :
    StepOk sys comp snap s (simpleClosure sys comp snap s) := by
  obtain ⟨h1, -, extra, h3, h4⟩ :=
    simpleNodes_spec sys s snap c.sorted comp _ (simpleAcc sys comp snap s) rfl (by trivial)
  refine {
    len := ?len
    sorted := fun v => ?sorted
    frame := fun u hu => ?frame
    err := ⟨extra, (simpleClosure_err ..).trans h3, fun e he => (h4 e).1 he⟩
    offend := ?offend
    tmo := fun h => (simpleClosure_timeout ..).trans h
    bounded := fun hB v => ?bounded
    tmoF := fun _ h => (simpleClosure_timeout ..).trans h }
  case len =>
    unfold simpleClosure
    simp only
    split
    · exact c.len
    · exact (assignAll_length ..).trans c.len
  case sorted =>
    rw [simpleClosure_get c]
    split
    · exact h1
    · exact c.sorted v
  case frame =>
    rw [simpleClosure_get c, if_neg (fun h => hu h.1)]
  case offend =>
    intro ⟨v, hv, ho⟩
    rw [simpleClosure_err, h3]
    exact List.append_ne_nil_of_right_ne_nil _ (List.ne_nil_of_mem ((h4 v).2 ⟨hv, ho⟩))
  case bounded =>
    rw [simpleClosure_get c]
    split
    · exact (simpleNodes_tidy s (fun v => ⟨c.sorted v, hB v⟩) snap comp _ (.nil sys false)).2
    · exact hB v

/-- what member `u` puts into the common result of `comp` by itself: its `init` and its edges that leave `comp` -/
def own (sys : Sys) (comp : List Nat) (a : Asg) (u : Nat) (x : Int) : Prop :=
  x ∈ initOf sys u ∨ ∃ w ∈ edgesOf sys u, w ∉ comp ∧ contrib a (opOf sys u == .compl) w x

/-- the equation of a union node, or of a complement node whose edge leaves `comp`, read relative to `comp` -/
theorem eqAt_own {sys : Sys} (hwf : Wf sys) (comp : List Nat) {v : Nat} (hv : v < sys.length)
    (hni : opOf sys v ≠ .inter) (hc : opOf sys v = .compl → ∀ w ∈ edgesOf sys v, w ∉ comp) (a : Asg) :
    EqAt sys a v ↔ ∀ x, a v x ↔ own sys comp a v x ∨ ∃ w ∈ edgesOf sys v, w ∈ comp ∧ a w x := by
  unfold own contrib
  cases hop : opOf sys v with
  | inter => exact absurd hop hni
  | union =>
    rw [eqAt_union hop]
    refine forall_congr' fun x => iff_congr Iff.rfl ?_
    rw [or_assoc, ← exists_or]
    refine or_congr_right (exists_congr fun w => ?_)
    rw [if_neg (by decide)]
    show w ∈ edgesOf sys v ∧ a w x ↔
      w ∈ edgesOf sys v ∧ w ∉ comp ∧ a w x ∨ w ∈ edgesOf sys v ∧ w ∈ comp ∧ a w x
    rw [← and_or_left, ← or_and_right, and_iff_right (Decidable.not_or_self _)]
  | compl =>
    obtain ⟨w, hw⟩ := hwf.compl1 v hv hop
    have hwc : w ∉ comp := hc hop w (hw ▸ List.mem_singleton_self w)
    rw [eqAt_compl hop, hw, hwf.initE v (by rw [hop]; nofun)]
    simp [hwc]

theorem own_mono {sys : Sys} {comp : List Nat} {a b : Asg} {u : Nat}
    (h : ∀ w ∈ edgesOf sys u, w ∉ comp →
      (∀ x, a w x → b w x) ∧ (opOf sys u = .compl → ∀ x, b w x → a w x))
    {x : Int} : own sys comp a u x → own sys comp b u x := by
  refine Or.imp_right fun ⟨w, hw, hwc, hx⟩ => ⟨w, hw, hwc, ?_⟩
  unfold contrib at hx ⊢
  by_cases hop : opOf sys u = .compl
  · rw [if_pos (beq_iff_eq.2 hop)] at hx ⊢
    exact fun hb => hx ((h w hw hwc).2 hop x hb)
  · rw [if_neg (mt beq_iff_eq.1 hop)] at hx ⊢
    exact (h w hw hwc).1 x hx

theorem simple_good {sys : Sys} {comp snap : List Nat} {s : St} (c : CompCtx sys comp snap s)
    (hni : ∀ q ∈ comp, opOf sys q ≠ .inter)
    (herr : (simpleClosure sys comp snap s).err = []) : CompGood sys comp (simpleClosure sys comp snap s) := by
  obtain ⟨-, h2, -⟩ := simpleNodes_spec sys s snap c.sorted comp _ (simpleAcc sys comp snap s) rfl (by trivial)
  have hc : ∀ v ∈ comp, opOf sys v = .compl → ∀ w ∈ edgesOf sys v, w ∉ comp :=
    fun v hv hop w hw hwc => (simple_stepOk c).offend ⟨v, hv, hop, w, hw, (c.snapIff hv hw).2 hwc⟩ herr
  have hget := simpleClosure_get c
  rw [simpleClosure_err] at herr
  simp only [herr, and_true] at hget
  generalize simpleClosure sys comp snap s = t at hget ⊢
  -- every member holds the union of what each member puts in by itself
  have hT : ∀ v ∈ comp, ∀ x, t.asg v x ↔ ∃ u ∈ comp, own sys comp t.asg u x := by
    intro v hv x
    show (t.get v).Mem x ↔ _
    rw [hget v, if_pos hv, h2 x]
    simp only [mem_fresh, List.not_mem_nil, false_or]
    refine exists_congr fun u => and_congr_right fun hu => ?_
    rw [c.get_mem_iff_init hu]
    refine or_congr_right (exists_congr fun w => and_congr_right fun hw => ?_)
    rw [c.snapIff hu hw]
    refine and_congr_right fun hwc => ?_
    unfold contrib
    rw [St.asg_congr ((hget w).trans (if_neg hwc))]
  have heq (a : Asg) {v : Nat} (hv : v ∈ comp) := eqAt_own c.wf comp (c.lt v hv) (hni v hv) (hc v hv) a
  refine ⟨fun v hv => (heq _ hv).2 fun x => ⟨fun hx => ?_, ?_⟩, fun b hb hbo v hv x hx => ?_⟩
  · obtain ⟨u, hu, h⟩ := (hT v hv x).1 hx
    rcases scc_edge_or_single c.scc hv hu with rfl | ⟨w, hw, hwc⟩
    · exact .inl h
    · exact .inr ⟨w, hw, hwc, (hT w hwc x).2 ⟨u, hu, h⟩⟩
  · rintro (h | ⟨w, -, hwc, h⟩)
    · exact (hT v hv x).2 ⟨v, hv, h⟩
    · exact (hT v hv x).2 ((hT w hwc x).1 h)
  · -- `x` was put in by some member `u`; `b` has it there too, and passes it on to `v` along the component
    obtain ⟨u, hu, h⟩ := (hT v hv x).1 hx
    have hbu : b u x := ((heq b hu).1 (hb u hu) x).2 (.inl (own_mono (hbo u hu) h))
    exact scc_flow c.scc b (fun z hz w hzw hwc y hy => ((heq b hz).1 (hb z hz) y).2 (.inr ⟨w, hzw, hwc, hy⟩))
      hv hu x hbu

end TmVerif.SetClosure
