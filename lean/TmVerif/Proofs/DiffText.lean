import TmVerif.Proofs.DiffHunks
/-!
Parsing the rendered text gives back the hunks that were rendered (`parsePatch_render`), for hunks
whose intro characters are ' ', '+' or '-' and whose lines hold no newline; the hunks of `LineDiff`
are such (`hunksOfChunks_good`).
-/
namespace TmVerif.Diff

theorem splitLines_line (l : Line) (rest : List Char) (h : '\n' ∉ l) :
    splitLines (l ++ '\n' :: rest) = l :: splitLines rest := by
  induction l with
  | nil => simp [splitLines]
  | cons c l ih =>
    have hc : c ≠ '\n' := fun e => h (by simp [e])
    have hl : '\n' ∉ l := fun e => h (by simp [e])
    simp only [List.cons_append]
    rw [splitLines, if_neg hc, ih hl]

theorem splitLines_flat (ls : List Line) (h : ∀ l ∈ ls, '\n' ∉ l) :
    splitLines (ls.flatMap fun l => l ++ ['\n']) = ls ++ [[]] := by
  induction ls with
  | nil => simp [splitLines]
  | cons l ls ih =>
    simp only [List.flatMap_cons, List.append_assoc, List.cons_append, List.nil_append]
    rw [splitLines_line l _ (h l (by simp)), ih (fun x hx => h x (by simp [hx]))]

theorem splitLines_noNL (t : List Char) : ∀ l ∈ splitLines t, '\n' ∉ l := by
  -- cases as in `joinLines_splitLines`
  fun_induction splitLines t with
  | case1 => simp
  | case2 cs ih => exact List.forall_mem_cons.mpr ⟨List.not_mem_nil, ih⟩
  | case3 c cs _ hs => exact absurd hs (splitLines_ne_nil cs)
  | case4 c cs hc l ls hs ih =>
    rw [hs, List.forall_mem_cons] at ih
    exact List.forall_mem_cons.mpr
      ⟨fun h => (List.mem_cons.mp h).elim (fun e => hc e.symm) ih.1, ih.2⟩

theorem splitAtChar_spec (c : Char) (p q : List Char) (h : c ∉ p) :
    splitAtChar c (p ++ c :: q) = some (p, q) := by
  induction p with
  | nil => simp [splitAtChar]
  | cons x p ih =>
    have hx : x ≠ c := fun e => h (by simp [e])
    have hp : c ∉ p := fun e => h (by simp [e])
    simp [splitAtChar, hx, ih hp]

theorem stripPrefix_append (p r : List Char) : stripPrefix p (p ++ r) = some r := by
  unfold stripPrefix
  have : p.isPrefixOf (p ++ r) = true := by
    rw [List.isPrefixOf_iff_prefix]
    exact List.prefix_append p r
  simp [this]

theorem stripPrefix_single (c : Char) (r : List Char) : stripPrefix [c] (c :: r) = some r :=
  stripPrefix_append [c] r

theorem natText_digits (n : Nat) : ∀ c ∈ natText n, c.isDigit = true := by
  intro c hc
  exact Nat.isDigit_of_mem_toDigits (by decide) (by decide) hc

theorem natText_not_mem (c : Char) (hc : c.isDigit = false) (n : Nat) : c ∉ natText n := by
  intro h
  have := natText_digits n c h
  rw [hc] at this
  cases this

theorem parseNatChars_natText (n : Nat) : parseNatChars (natText n) = some n := by
  unfold parseNatChars
  have h1 : natText n ≠ [] := Nat.toDigits_ne_nil
  have h2 : (natText n).all Char.isDigit = true := by
    rw [List.all_eq_true]; exact natText_digits n
  rw [if_neg (by simp [h1, h2])]
  simp [natText]

theorem parseHeader_header (h : Hunk) :
    parseHeader (hunkHeader h) = some (h.leftLine, h.leftSize, h.rightLine, h.rightSize) := by
  unfold parseHeader hunkHeader
  rw [stripPrefix_append]
  -- each bare `simp only` reduces the `match` on the `some _` that the `rw` before it put in
  simp only
  rw [splitAtChar_spec ',' _ _ (natText_not_mem _ (by decide) _)]
  simp only
  rw [splitAtChar_spec ' ' _ _ (natText_not_mem _ (by decide) _)]
  simp only
  rw [stripPrefix_single]
  simp only
  rw [splitAtChar_spec ',' _ _ (natText_not_mem _ (by decide) _)]
  simp only
  rw [splitAtChar_spec ' ' _ _ (natText_not_mem _ (by decide) _)]
  simp [parseNatChars_natText]

theorem hunkHeader_noNL (h : Hunk) : '\n' ∉ hunkHeader h := by
  have d : ∀ n, '\n' ∉ natText n := natText_not_mem _ (by decide)
  simp [hunkHeader, d]

def GoodHunk (h : Hunk) : Prop :=
  ∀ p ∈ h.body, (p.1 = ' ' ∨ p.1 = '+' ∨ p.1 = '-') ∧ '\n' ∉ p.2

theorem parse_body (body : List (Char × Line))
    (hg : ∀ p ∈ body, (p.1 = ' ' ∨ p.1 = '+' ∨ p.1 = '-')) (rest : List Line) (h0 : Hunk)
    (acc : List Hunk) :
    parseHunkLines (body.map (fun p => p.1 :: p.2) ++ rest) (some h0) acc =
      parseHunkLines rest (some { h0 with body := h0.body ++ body }) acc := by
  induction body generalizing h0 with
  | nil => simp
  | cons p body ih =>
    obtain ⟨c, l⟩ := p
    have hc := hg (c, l) (by simp)
    simp only at hc
    have hne : c ≠ '@' := by rcases hc with rfl | rfl | rfl <;> decide
    simp only [List.map_cons, List.cons_append]
    simp only [parseHunkLines, hne, if_false, hc, if_true]
    rw [ih (fun q hq => hg q (by simp [hq]))]
    simp

theorem parse_hunks (hs : List Hunk) (hg : ∀ h ∈ hs, GoodHunk h) (cur : Option Hunk)
    (acc : List Hunk) :
    parseHunkLines (hs.flatMap hunkLines) cur acc = some (acc ++ cur.toList ++ hs) := by
  induction hs generalizing cur acc with
  | nil => simp [parseHunkLines]
  | cons h hs ih =>
    simp only [List.flatMap_cons, hunkLines, List.cons_append]
    obtain ⟨r, hr⟩ : ∃ r, hunkHeader h = '@' :: r := ⟨_, rfl⟩
    have hp := parseHeader_header h
    rw [hr] at hp
    rw [hr]
    simp only [parseHunkLines, if_true, hp]
    rw [parse_body h.body (fun p hp' => (hg h (by simp) p hp').1)]
    rw [ih (fun x hx => hg x (by simp [hx]))]
    simp

theorem hunkLines_noNL (h : Hunk) (hg : GoodHunk h) : ∀ l ∈ hunkLines h, '\n' ∉ l := by
  intro l hl
  simp only [hunkLines, List.mem_cons, List.mem_map] at hl
  rcases hl with rfl | ⟨p, hp, rfl⟩
  · exact hunkHeader_noNL h
  · obtain ⟨h1, h2⟩ := hg p hp
    simp only [List.mem_cons, not_or]
    refine ⟨?_, h2⟩
    rcases h1 with e | e | e <;> rw [e] <;> decide

theorem parsePatch_render (hs : List Hunk) (hg : ∀ h ∈ hs, GoodHunk h) :
    parsePatch (renderHunks hs) = some hs := by
  have e : renderHunks hs = (hs.flatMap hunkLines).flatMap fun l => l ++ ['\n'] := by
    simp only [renderHunks, List.flatMap_assoc]
    rfl
  unfold parsePatch
  rw [e, splitLines_flat _ (by
    intro l hl
    simp only [List.mem_flatMap] at hl
    obtain ⟨h, hh, hl⟩ := hl
    exact hunkLines_noNL h (hg h hh) l hl)]
  simp only [List.reverse_append, List.reverse_cons, List.reverse_nil, List.nil_append,
    List.singleton_append, List.reverse_reverse]
  rw [parse_hunks hs hg]
  simp

theorem skippedMarker_noNL (n : Nat) : '\n' ∉ skippedMarker n := by
  have d : '\n' ∉ natText n := natText_not_mem _ (by decide) _
  simp [skippedMarker, d]

theorem addPlain_good (h : Hunk) (c : Char) (ls : List Line) (hg : GoodHunk h)
    (hc : c = ' ' ∨ c = '+' ∨ c = '-') (hl : ∀ l ∈ ls, '\n' ∉ l) : GoodHunk (h.addPlain c ls) := by
  intro p hp
  simp only [Hunk.addPlain, List.mem_append, List.mem_map] at hp
  rcases hp with hp | ⟨l, hl', rfl⟩
  · exact hg p hp
  · exact ⟨hc, hl l hl'⟩

theorem add_good (h : Hunk) (c : Char) (ls : List Line) (hg : GoodHunk h)
    (hc : c = ' ' ∨ c = '+' ∨ c = '-') (hl : ∀ l ∈ ls, '\n' ∉ l) : GoodHunk (h.add c ls) := by
  unfold Hunk.add
  split
  · have g1 := addPlain_good h c (ls.take 10) hg hc (fun l hl' => hl l (List.mem_of_mem_take hl'))
    have g2 := addPlain_good _ c [skippedMarker (ls.length - 13)] g1 hc (by
      intro l hl'; simp at hl'; subst hl'; exact skippedMarker_noNL _)
    have g3 := addPlain_good _ c (ls.drop (ls.length - 3)) g2 hc
      (fun l hl' => hl l (List.mem_of_mem_drop hl'))
    exact g3
  · exact addPlain_good h c ls hg hc hl

theorem slice_noNL (l : List Line) (i j : Nat) (h : ∀ x ∈ l, '\n' ∉ x) :
    ∀ x ∈ slice l i j, '\n' ∉ x := by
  intro x hx
  exact h x (List.mem_of_mem_drop (List.mem_of_mem_take hx))

def GoodState (st : LDState) : Prop := (∀ h ∈ st.out, GoodHunk h) ∧ GoodHunk st.h

theorem writeHunk_good (out : List Hunk) (h : Hunk) (ho : ∀ x ∈ out, GoodHunk x) (hh : GoodHunk h) :
    ∀ x ∈ writeHunk out h, GoodHunk x := by
  unfold writeHunk
  split
  · exact ho
  · intro x hx
    simp only [List.mem_append, List.mem_singleton] at hx
    rcases hx with hx | rfl
    · exact ho x hx
    · exact hh

theorem fresh_good (L R : Nat) : GoodHunk { leftLine := L, rightLine := R } := by
  intro p hp; simp at hp

theorem ldStep_good (a b : List Line) (st : LDState) (c : Chunk) (first last : Bool)
    (ha : ∀ x ∈ a, '\n' ∉ x) (hb : ∀ x ∈ b, '\n' ∉ x) (hg : GoodState st) :
    GoodState (ldStep a b st c first last) := by
  obtain ⟨go, gh⟩ := hg
  have g1 : GoodHunk (afterChanges a b st c) :=
    add_good _ _ _ (add_good _ _ _ gh (by simp) (slice_noNL a _ _ ha)) (by simp) (slice_noNL b _ _ hb)
  have gc : ∀ (h : Hunk) i j, GoodHunk h → GoodHunk (h.add ' ' (slice a i j)) :=
    fun h i j gh => add_good h ' ' _ gh (Or.inl rfl) (slice_noNL a i j ha)
  apply ldStep_elim a b st c first last GoodState
  case lead =>
    intros
    refine ⟨go, ?_⟩
    apply gc; exact g1
  case long =>
    intros
    constructor
    · apply writeHunk_good _ _ go; apply gc; exact g1
    · apply gc; exact fresh_good _ _
  case fin =>
    intros
    constructor
    · apply writeHunk_good _ _ go; apply gc; exact g1
    · apply gc; exact g1
  case mid =>
    intros
    refine ⟨go, ?_⟩
    apply gc; exact g1

theorem ldLoop_good (a b : List Line) (cs : List Chunk) (st : LDState) (first : Bool)
    (ha : ∀ x ∈ a, '\n' ∉ x) (hb : ∀ x ∈ b, '\n' ∉ x) (hg : GoodState st) :
    GoodState (ldLoop a b st first cs) := by
  induction cs generalizing st first with
  | nil => simpa [ldLoop] using hg
  | cons c cs ih =>
    unfold ldLoop
    exact ih _ _ (ldStep_good a b st c first _ ha hb hg)

theorem hunksOfChunks_good (a b : List Line) (cs : List Chunk)
    (ha : ∀ x ∈ a, '\n' ∉ x) (hb : ∀ x ∈ b, '\n' ∉ x) :
    ∀ h ∈ hunksOfChunks a b cs, GoodHunk h := by
  have := ldLoop_good a b cs {} true ha hb ⟨by simp, fresh_good 1 1⟩
  exact this.1

end TmVerif.Diff
