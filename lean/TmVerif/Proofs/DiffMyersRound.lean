import TmVerif.Proofs.DiffMyersLcs
/-!
One round of the Myers search. One `for k := start; k <= limit; k += 2` loop over an array holding `FR d` of the
diagonals of the other parity stores `FR (d+1)` (`round_fr`, `round_facts`). The reverse path is the same loop on the
reversed lists, so nothing here knows about directions. At the end, what the whole search promises to `trace`
(`GoodSplit`, `GoodOracle`), so that the script side does not depend on how the split is found.
-/
namespace TmVerif.Diff
variable {α : Type} [DecidableEq α]

/-- distance of `(x, y)` from the origin is at most `d` (`x + y - 2·LCS ≤ d`) -/
def Dle (A B : List α) (d x y : Nat) : Prop := x + y ≤ d + 2 * Lp A B x y

omit [DecidableEq α] in
theorem noMatch_of_reverse (A B : List α) (x y x' y' : Nat) (hx : x + x' + 1 = A.length)
    (hy : y + y' + 1 = B.length) (h : NoMatch A.reverse B.reverse x' y') : NoMatch A B x y := by
  intro ⟨_, _, he⟩
  apply h
  refine ⟨by simp only [List.length_reverse]; omega, by simp only [List.length_reverse]; omega, ?_⟩
  rw [List.getElem_reverse, List.getElem_reverse]
  have e1 : A.length - 1 - x' = x := by omega
  have e2 : B.length - 1 - y' = y := by omega
  simpa only [e1, e2] using he

theorem dle_origin (A B : List α) (d : Nat) : Dle A B d 0 0 := by
  unfold Dle; omega

theorem dle_mono (A B : List α) (d d' x y : Nat) (h : Dle A B d x y) (hd : d ≤ d') :
    Dle A B d' x y := by
  unfold Dle at *; omega

theorem dle_right (A B : List α) (d x y : Nat) (h : Dle A B d x y) : Dle A B (d + 1) (x + 1) y := by
  have := (Lp_succ_x A B x y).1
  unfold Dle at *; omega

theorem dle_down (A B : List α) (d x y : Nat) (h : Dle A B d x y) : Dle A B (d + 1) x (y + 1) := by
  have := (Lp_succ_y A B x y).1
  unfold Dle at *; omega

theorem dle_match (A B : List α) (d x y : Nat) (hx : x < A.length) (hy : y < B.length)
    (he : A[x] = B[y]) : Dle A B d (x + 1) (y + 1) ↔ Dle A B d x y := by
  unfold Dle
  rw [Lp_match A B x y hx hy he]
  omega

theorem dle_diag (A B : List α) (d x y : Nat) (h : Dle A B d (x + 1) (y + 1)) : Dle A B d x y := by
  have := Lp_diag A B x y
  unfold Dle at *; omega

theorem dle_diag_back (A B : List α) (d x y x' y' : Nat) (h : Dle A B d x y) (hx : x' ≤ x)
    (hdiag : x' + y = y' + x) : Dle A B d x' y' := by
  obtain ⟨t, rfl⟩ := Nat.exists_eq_add_of_le hx
  obtain rfl : y = y' + t := by omega
  clear hx hdiag
  induction t with
  | zero => exact h
  | succ t ih => exact ih (dle_diag A B d (x' + t) (y' + t) h)

theorem dle_diagonal_bound (A B : List α) (d x y : Nat) (h : Dle A B d x y) :
    x ≤ y + d ∧ y ≤ x + d := by
  have := Lp_le_x A B x y
  have := Lp_le_y A B x y
  unfold Dle at h; omega

theorem dle_nomatch_zero (A B : List α) (x y : Nat) (hn : NoMatch A B x y) :
    ¬ Dle A B 0 (x + 1) (y + 1) := by
  intro h
  unfold Dle at h
  rw [Lp_nomatch A B x y hn] at h
  have := Lp_le_x A B x (y + 1)
  have := Lp_le_y A B x (y + 1)
  have := Lp_le_x A B (x + 1) y
  have := Lp_le_y A B (x + 1) y
  omega

theorem dle_nomatch_succ (A B : List α) (d x y : Nat) (hn : NoMatch A B x y)
    (h : Dle A B (d + 1) (x + 1) (y + 1)) : Dle A B d x (y + 1) ∨ Dle A B d (x + 1) y := by
  unfold Dle at *
  rw [Lp_nomatch A B x y hn] at h
  omega

/-- `v` is the furthest `x` on diagonal `k` at distance ≤ `d`; `y` is its partner -/
def FR (A B : List α) (d : Nat) (k : Int) (v : Nat) : Prop :=
  (∃ y : Nat, (v : Int) - y = k ∧ Dle A B d v y) ∧
    ∀ x y : Nat, (x : Int) - y = k → Dle A B d x y → x ≤ v

theorem fr_noMatch (A B : List α) (d : Nat) (k : Int) (v y : Nat) (h : FR A B d k v)
    (hy : (v : Int) - y = k) : NoMatch A B v y := by
  intro ⟨hx, hy', he⟩
  obtain ⟨⟨y', hy'', hd⟩, hmax⟩ := h
  obtain rfl : y' = y := by omega
  have := hmax (v + 1) (y' + 1) (by omega) ((dle_match A B d v y' hx hy' he).mpr hd)
  omega

def EqSpec (eqAt : Nat → Nat → Bool) (A B : List α) : Prop :=
  ∀ x y (hx : x < A.length) (hy : y < B.length), eqAt x y = true ↔ A[x] = B[y]

/-- `slide` stops on the diagonal it started on, not before `x`, still within `d`, and (given enough fuel) where
no match follows. -/
theorem slide_spec {eqAt : Nat → Nat → Bool} {A B : List α} (hs : EqSpec eqAt A B) (k : Int)
    (d fuel x y : Nat) (hk : (x : Int) - y = k) (hd : Dle A B d x y) :
    ∃ y' : Nat, (slide eqAt A.length B.length k fuel x : Int) - y' = k ∧
      x ≤ slide eqAt A.length B.length k fuel x ∧
      Dle A B d (slide eqAt A.length B.length k fuel x) y' ∧
      (A.length < x + fuel → NoMatch A B (slide eqAt A.length B.length k fuel x) y') := by
  induction fuel generalizing x y with
  | zero => exact ⟨y, hk, Nat.le_refl x, hd, fun h ⟨(hx : x < A.length), _, _⟩ => by omega⟩
  | succ fuel ih =>
    unfold slide
    have ey : ((x : Int) - k).toNat = y := by omega
    rw [ey]
    by_cases hc : x < A.length ∧ 0 ≤ (x : Int) - k ∧ y < B.length ∧ eqAt x y = true
    · rw [if_pos hc]
      obtain ⟨c1, _, c3, c4⟩ := hc
      obtain ⟨y', e0, e1, e2, e3⟩ := ih (x + 1) (y + 1) (by omega)
        ((dle_match A B d x y c1 c3 ((hs x y c1 c3).mp c4)).mpr hd)
      exact ⟨y', e0, Nat.le_of_succ_le e1, e2, fun hf => e3 (by omega)⟩
    · rw [if_neg hc]
      exact ⟨y, hk, Nat.le_refl x, hd,
        fun _ ⟨hx, hy, he⟩ => hc ⟨hx, by omega, hy, (hs x y hx hy).mpr he⟩⟩

/-- A point of diagonal `k` at distance ≤ `d` whose diagonal successor is not: further points of the
diagonal would put the successor within `d` as well (`dle_diag_back`). -/
theorem fr_of_stop (A B : List α) (d : Nat) (k : Int) (x y : Nat) (hk : (x : Int) - y = k)
    (hd : Dle A B d x y) (hstop : ¬ Dle A B d (x + 1) (y + 1)) : FR A B d k x :=
  ⟨⟨y, hk, hd⟩, fun x' y' hk' hd' => Nat.le_of_not_lt fun hlt =>
    hstop (dle_diag_back A B d x' y' (x + 1) (y + 1) hd' (by omega) (by omega))⟩

theorem getD_set_eq (v : Array Nat) (i x : Nat) (h : i < v.size) :
    (v.setIfInBounds i x).getD i 0 = x := by
  simp [Array.getD_eq_getD_getElem?, h]

theorem getD_set_vidx_ne (v : Array Nat) (base : Nat) (j k : Int) (x : Nat)
    (hj : 0 ≤ (base : Int) + j) (hk : 0 ≤ (base : Int) + k) (h : j ≠ k) :
    (v.setIfInBounds (vidx base k) x).getD (vidx base j) 0 = v.getD (vidx base j) 0 := by
  have hne : vidx base k ≠ vidx base j := by unfold vidx; omega
  simp [Array.getD_eq_getD_getElem?, hne]

def stepX (eqAt : Nat → Nat → Bool) (m n base d : Nat) (v : Array Nat) (k : Int) : Nat :=
  slide eqAt m n k (m + 1) (pickX v base d k)

/-- The loop writes `k, k+2, …` and reads `k-1, k+1`, so from `k-1` on the array is still the one the round
started with (`v0`): every diagonal gets `stepX … v0`. -/
theorem diagLoop_spec (eqAt : Nat → Nat → Bool) (m n base d : Nat)
    (check : Int → Nat → Option (Int × Int × Int)) (v0 : Array Nat) (hd : d ≤ base)
    (r : Nat) (k : Int) (v v' : Array Nat) (res : Option (Int × Int × Int)) (hk : -(d : Int) ≤ k)
    (hagree : ∀ j : Int, k - 1 ≤ j → v.getD (vidx base j) 0 = v0.getD (vidx base j) 0)
    (h : diagLoop eqAt m n base d check r k v = (v', res)) :
    v'.size = v.size ∧
    (∀ j : Int, 0 ≤ (base : Int) + j → j < k → v'.getD (vidx base j) 0 = v.getD (vidx base j) 0) ∧
    (res = none → ∀ i : Nat, i < r →
      check (k + 2 * i) (stepX eqAt m n base d v0 (k + 2 * i)) = none ∧
      (vidx base (k + 2 * i) < v.size →
        v'.getD (vidx base (k + 2 * i)) 0 = stepX eqAt m n base d v0 (k + 2 * i))) ∧
    (∀ x, res = some x → ∃ i : Nat, i < r ∧
      check (k + 2 * i) (stepX eqAt m n base d v0 (k + 2 * i)) = some x) := by
  induction r generalizing k v with
  | zero =>
    unfold diagLoop at h
    cases h
    exact ⟨rfl, fun _ _ _ => rfl, fun _ i hi => absurd hi (Nat.not_lt_zero i), fun x hx => by cases hx⟩
  | succ r ih =>
    have hx : slide eqAt m n k (m + 1) (pickX v base d k) = stepX eqAt m n base d v0 k := by
      unfold stepX pickX
      rw [hagree (k + 1) (by omega), hagree (k - 1) (Int.le_refl _)]
    unfold diagLoop at h
    cases hc : check k (stepX eqAt m n base d v0 k) with
    | some x0 =>
      simp only [hx, hc] at h
      cases h
      exact ⟨Array.size_setIfInBounds,
        fun j hj hlt => getD_set_vidx_ne _ _ j k _ hj (by omega) (by omega),
        nofun,
        fun x hx => ⟨0, Nat.succ_pos r, by simpa using hc.trans hx⟩⟩
    | none =>
      simp only [hx, hc] at h
      obtain ⟨s1, s2, s3, s4⟩ := ih (k + 2) _ (by omega)
        (fun j hj => (getD_set_vidx_ne _ _ j k _ (by omega) (by omega) (by omega)).trans
          (hagree j (by omega))) h
      rw [Array.size_setIfInBounds] at s1 s3
      have e : ∀ i : Nat, k + 2 + 2 * (i : Int) = k + 2 * ((i + 1 : Nat) : Int) := fun i => by omega
      simp only [e] at s3 s4
      refine ⟨s1, fun j hj hlt => ?_, fun hnone i hi => ?_, fun x hx => ?_⟩
      · rw [s2 j hj (by omega)]
        exact getD_set_vidx_ne _ _ j k _ hj (by omega) (by omega)
      · cases i with
        | zero =>
          simp only [Int.natCast_zero, Int.mul_zero, Int.add_zero]
          exact ⟨hc, fun hb => (s2 k (by omega) (by omega)).trans (getD_set_eq _ _ _ hb)⟩
        | succ i => exact s3 hnone i (Nat.lt_of_succ_lt_succ hi)
      · obtain ⟨i, hi, c⟩ := s4 x hx
        exact ⟨i + 1, Nat.succ_lt_succ hi, c⟩

def InRange (m n d : Nat) (k : Int) : Prop :=
  roundStart n d ≤ k ∧ k ≤ roundLimit m d ∧ (k - (d : Int)) % 2 = 0

/-! `start = max (-d) (d - 2n)` and `limit = min d (2m - d)`: with the two bounds spelt out every
fact about the range of a round is linear arithmetic. -/

theorem roundStart_le_iff (n d : Nat) (k : Int) :
    roundStart n d ≤ k ↔ -(d : Int) ≤ k ∧ (d : Int) - 2 * n ≤ k := by
  unfold roundStart; split <;> omega

theorem le_roundLimit_iff (m d : Nat) (k : Int) :
    k ≤ roundLimit m d ↔ k ≤ (d : Int) ∧ k ≤ 2 * (m : Int) - d := by
  unfold roundLimit; split <;> omega

theorem inRange_iff (m n d : Nat) (k : Int) :
    InRange m n d k ↔ (-(d : Int) ≤ k ∧ (d : Int) - 2 * n ≤ k) ∧
      (k ≤ (d : Int) ∧ k ≤ 2 * (m : Int) - d) ∧ (k - (d : Int)) % 2 = 0 := by
  unfold InRange; rw [roundStart_le_iff, le_roundLimit_iff]

theorem inRange_abs {m n d : Nat} {k : Int} (h : InRange m n d k) :
    -(d : Int) ≤ k ∧ k ≤ (d : Int) := by
  rw [inRange_iff] at h; omega

theorem inRange_zero {m n : Nat} {k : Int} (h : InRange m n 0 k) : k = 0 := by
  have := inRange_abs h
  omega

theorem inRange_nbr {m n d : Nat} {k : Int} (h : InRange m n (d + 1) k) :
    (k ≠ -((d + 1 : Nat) : Int) → InRange m n d (k - 1)) ∧
      (k ≠ ((d + 1 : Nat) : Int) → InRange m n d (k + 1)) := by
  simp only [inRange_iff] at *; omega

/-- a grid point at distance exactly `d` (`l` its LCS length) lies on a diagonal of round `d` -/
theorem inRange_of_exact (m n d x y l : Nat) (hx : x ≤ m) (hy : y ≤ n) (hlx : l ≤ x) (hly : l ≤ y)
    (h : x + y = d + 2 * l) : InRange m n d ((x : Int) - y) := by
  rw [inRange_iff]; omega

/-- iteration `i` of `for k := s; k <= l; k += 2` runs -/
theorem lt_roundCount_iff (s l : Int) (i : Nat) : i < roundCount s l ↔ s + 2 * (i : Int) ≤ l := by
  unfold roundCount; split <;> omega

theorem inRange_iff_index (m n d : Nat) (k : Int) :
    InRange m n d k ↔ ∃ i : Nat, i < roundCount (roundStart n d) (roundLimit m d) ∧
      k = roundStart n d + 2 * (i : Int) := by
  have hp : (roundStart n d - (d : Int)) % 2 = 0 := by unfold roundStart; split <;> omega
  unfold InRange
  simp only [lt_roundCount_iff]
  generalize roundStart n d = s at *
  constructor
  · intro h
    exact ⟨((k - s) / 2).toNat, by omega⟩
  · rintro ⟨i, hi, rfl⟩
    omega

def VInv (A B : List α) (base : Nat) (v : Array Nat) (d : Nat) : Prop :=
  ∀ k, InRange A.length B.length d k → FR A B d k (v.getD (vidx base k) 0)

theorem slide_fr {eqAt : Nat → Nat → Bool} {A B : List α} (hs : EqSpec eqAt A B) (d : Nat)
    (k : Int) (x0 y0 : Nat) (hk : (x0 : Int) - y0 = k) (hreach : Dle A B (d + 1) x0 y0)
    (hlow : ∀ x y : Nat, (x : Int) - y = k - 1 → Dle A B d x y → x < x0)
    (hhigh : ∀ x y : Nat, (x : Int) - y = k + 1 → Dle A B d x y → x ≤ x0) :
    FR A B (d + 1) k (slide eqAt A.length B.length k (A.length + 1) x0) := by
  obtain ⟨y1, e0, e1, e2, e3⟩ := slide_spec hs k (d + 1) (A.length + 1) x0 y0 hk hreach
  refine fr_of_stop A B (d + 1) k _ y1 e0 e2 fun h2 => ?_
  -- no match leads to the successor, so it is entered from round `d` on a neighbouring diagonal
  rcases dle_nomatch_succ A B d _ _ (e3 (by omega)) h2 with h3 | h3
  · have := hlow _ (y1 + 1) (by omega) h3
    omega
  · have := hhigh _ y1 (by omega) h3
    omega

/-- A point of round `d` on a neighbour of diagonal `k` of round `d + 1`: the neighbour is one of `-d..d`, so the array
bounds the point. -/
theorem vinv_bound {A B : List α} {base d : Nat} {v : Array Nat} {k : Int} (hinv : VInv A B base v d)
    (hr : InRange A.length B.length (d + 1) k) (x y : Nat) (hd : Dle A B d x y) :
    ((x : Int) - y = k - 1 → k ≠ -((d + 1 : Nat) : Int) ∧ x ≤ v.getD (vidx base (k - 1)) 0) ∧
      ((x : Int) - y = k + 1 → k ≠ ((d + 1 : Nat) : Int) ∧ x ≤ v.getD (vidx base (k + 1)) 0) := by
  have hb := dle_diagonal_bound A B d x y hd
  refine ⟨fun h => ?_, fun h => ?_⟩
  · have hk : k ≠ -((d + 1 : Nat) : Int) := by omega
    exact ⟨hk, (hinv _ ((inRange_nbr hr).1 hk)).2 x y h hd⟩
  · have hk : k ≠ ((d + 1 : Nat) : Int) := by omega
    exact ⟨hk, (hinv _ ((inRange_nbr hr).2 hk)).2 x y h hd⟩

/-- `pickX` starts below the furthest point of diagonal `k+1` or right of the furthest point of
diagonal `k-1`, whichever is further; on the outermost diagonals only one neighbour has points. -/
theorem stepX_fr {eqAt : Nat → Nat → Bool} {A B : List α} (hs : EqSpec eqAt A B)
    (base d : Nat) (v : Array Nat) (k : Int) (hinv : VInv A B base v d)
    (hr : InRange A.length B.length (d + 1) k) :
    FR A B (d + 1) k (stepX eqAt A.length B.length base (d + 1) v k) := by
  unfold stepX pickX
  by_cases hc : k = -((d + 1 : Nat) : Int) ∨
      (k ≠ ((d + 1 : Nat) : Int) ∧ v.getD (vidx base (k - 1)) 0 < v.getD (vidx base (k + 1)) 0)
  · rw [if_pos hc]
    obtain ⟨⟨yp, hyp, hdp⟩, _⟩ := hinv (k + 1) ((inRange_nbr hr).2 (by omega))
    exact slide_fr hs d k _ (yp + 1) (by omega) (dle_down A B d _ yp hdp)
      (fun x y hxy hd => by
        obtain ⟨hk, hle⟩ := (vinv_bound hinv hr x y hd).1 hxy
        -- diagonal `k - 1` has points, so `pickX` chose by the comparison
        have hlt : v.getD (vidx base (k - 1)) 0 < v.getD (vidx base (k + 1)) 0 := (hc.resolve_left hk).2
        exact Nat.lt_of_le_of_lt hle hlt)
      (fun x y hxy hd => ((vinv_bound hinv hr x y hd).2 hxy).2)
  · rw [if_neg hc]
    obtain ⟨⟨ym, hym, hdm⟩, _⟩ := hinv (k - 1) ((inRange_nbr hr).1 (by omega))
    exact slide_fr hs d k _ ym (by omega) (dle_right A B d _ ym hdm)
      (fun x y hxy hd => Nat.lt_succ_of_le ((vinv_bound hinv hr x y hd).1 hxy).2)
      (fun x y hxy hd => by
        obtain ⟨hk, hle⟩ := (vinv_bound hinv hr x y hd).2 hxy
        -- diagonal `k + 1` has points, so `pickX` chose by the comparison
        have hge : v.getD (vidx base (k + 1)) 0 ≤ v.getD (vidx base (k - 1)) 0 :=
          Nat.le_of_not_lt fun hlt => hc (Or.inr ⟨hk, hlt⟩)
        exact Nat.le_succ_of_le (Nat.le_trans hle hge))

theorem round_fr {eqAt : Nat → Nat → Bool} {A B : List α} (hs : EqSpec eqAt A B) (base d : Nat)
    (v : Array Nat) (h0 : d = 0 → v.getD (vidx base 1) 0 = 0)
    (hsucc : ∀ d0, d = d0 + 1 → VInv A B base v d0) (k : Int)
    (hk : InRange A.length B.length d k) :
    FR A B d k (stepX eqAt A.length B.length base d v k) := by
  cases d with
  | zero =>
    -- round 0 slides from the origin: `pickX` reads the zero of diagonal 1
    obtain rfl := inRange_zero hk
    have hp : pickX v base 0 0 = 0 := by
      unfold pickX
      simp [h0 rfl]
    unfold stepX
    rw [hp]
    obtain ⟨y1, e0, _, e2, e3⟩ := slide_spec hs 0 0 (A.length + 1) 0 0 rfl (dle_origin A B 0)
    exact fr_of_stop A B 0 0 _ y1 e0 e2 (dle_nomatch_zero A B _ _ (e3 (by omega)))
  | succ d0 => exact stepX_fr hs base d0 v k (hsucc d0 rfl) hk

/-- One `for k` loop of round `d` on an array that holds round `d - 1`: on every diagonal of the round `check` was run
on a furthest reaching point, and if none fired the array holds round `d`. `m`, `n` are variables so that the reverse
search, on the reversed lists, is an instance. -/
theorem round_facts {eqAt : Nat → Nat → Bool} {A B : List α} (hs : EqSpec eqAt A B) {m n : Nat}
    (hm : A.length = m) (hn : B.length = n) (base d : Nat)
    (check : Int → Nat → Option (Int × Int × Int)) (v0 : Array Nat) (hd : d ≤ base)
    (hsz : 2 * base ≤ v0.size) (h0 : d = 0 → v0.getD (vidx base 1) 0 = 0)
    (hsucc : ∀ d0, d = d0 + 1 → VInv A B base v0 d0) :
    ∃ v' r, diagLoop eqAt m n base d check (roundCount (roundStart n d) (roundLimit m d))
      (roundStart n d) v0 = (v', r) ∧ v'.size = v0.size ∧
    (r = none → (∀ k, InRange m n d k → ∃ x, FR A B d k x ∧ check k x = none) ∧
      (d < base → VInv A B base v' d)) ∧
    (∀ res, r = some res → ∃ k x, InRange m n d k ∧ FR A B d k x ∧ check k x = some res) := by
  subst hm hn
  obtain ⟨s1, _, s3, s4⟩ := diagLoop_spec eqAt (m := A.length) (n := B.length) (check := check) (v0 := v0)
    (hd := hd) (r := roundCount (roundStart B.length d) (roundLimit A.length d)) (k := roundStart B.length d)
    (v := v0) (hk := ((roundStart_le_iff _ d _).mp (Int.le_refl _)).1) (hagree := fun _ _ => rfl) (h := rfl)
  have hfr := round_fr hs base d v0 h0 hsucc
  refine ⟨_, _, rfl, s1, fun hnone => ⟨fun k hk => ?_, fun hlt k hk => ?_⟩, fun res hres => ?_⟩
  · obtain ⟨i, hi, rfl⟩ := (inRange_iff_index _ _ d k).mp hk
    exact ⟨_, hfr _ hk, (s3 hnone i hi).1⟩
  · obtain ⟨i, hi, rfl⟩ := (inRange_iff_index _ _ d k).mp hk
    have hb : vidx base (roundStart B.length d + 2 * (i : Int)) < v0.size := by
      have := inRange_abs hk
      unfold vidx; omega
    rw [(s3 hnone i hi).2 hb]
    exact hfr _ hk
  · obtain ⟨i, hi, c⟩ := s4 res hres
    have hk := (inRange_iff_index _ _ d _).mpr ⟨i, hi, rfl⟩
    exact ⟨_, _, hk, hfr _ hk, c⟩

/-- `(ai, bi)` is a point of a shortest path at distance `⌈D/2⌉` from the origin, not preceded by a
match, and `(ai+mx, bi+mx)` is not followed by one -/
structure GoodSplit (a b : List α) (ai bi mx : Nat) : Prop where
  opt : Opt a b ai bi
  half : ∃ d d' : Nat, (d = d' ∨ d = d' + 1) ∧ a.length + b.length = d + d' + 2 * lcsRec a b ∧
    ai + bi = d + 2 * Lp a b ai bi
  before : ∀ x y, x + 1 = ai → y + 1 = bi → NoMatch a b x y
  after : NoMatch a b (ai + mx) (bi + mx)

/-- What `trace` needs of its split-point oracle: it returns for all inputs, and what it returns is a `GoodSplit`. -/
def GoodOracle (raw : List α → List α → Option (Nat × Nat × Nat)) : Prop :=
  ∀ a b, ∃ ai bi mx, raw a b = some (ai, bi, mx) ∧ GoodSplit a b ai bi mx

end TmVerif.Diff
