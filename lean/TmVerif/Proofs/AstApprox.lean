import TmVerif.Proofs.AstRegex
/-!
C21: the regular expression `approx g alph fuel T` contains every child sequence of a `T` node
(for ANY fuel and any closed alphabet assignment); with a closed nullable set, `nodesNonEmpty` guarantees that every
node range (rule type or nested reported range) spans at least one token in every derivation.
-/
namespace TmVerif.AstTypes
open Re

theorem mem_of_subset {a b : List Nat} (h : subset a b = true) {x : Nat} (hx : x ∈ a) : x ∈ b := by
  unfold subset at h
  have := List.all_eq_true.mp h x hx
  simpa using this

def alphOf (alph : List (List Nat)) : Tgt → List Nat
  | .sym s => lookupAlph alph s
  | .seq is => itemsAlph alph is

theorem alph_sound {g : AGrammar} {alph : List (List Nat)} (hc : alphClosed g alph = true)
    {tgt : Tgt} {w : List Nat} (h : Yield g tgt w) : ∀ a ∈ w, a ∈ alphOf alph tgt := by
  unfold alphClosed at hc
  rw [Bool.and_eq_true] at hc
  obtain ⟨hterm, hrules⟩ := hc
  intro a ha
  induction h with
  | term s hs => exact mem_of_subset (List.all_eq_true.mp hterm s (List.mem_range.mpr hs)) ha
  | untyped r w hr ht _ ih =>
    have := List.all_eq_true.mp hrules r hr
    simp only [ht, ne_eq, not_true_eq_false, if_false] at this
    exact mem_of_subset this (ih ha)
  | typed r w hr ht _ _ =>
    have := List.all_eq_true.mp hrules r hr
    simp only [ne_eq, ht, not_false_eq_true, if_true] at this
    simp at ha; subst ha
    simpa [alphOf] using this
  | nil => cases ha
  | consSym s rest u v _ _ ih1 ih2 =>
    exact List.mem_append.2 ((List.mem_append.1 ha).imp ih1 ih2)
  | consNode t kids rest u v _ _ _ ih2 =>
    exact List.mem_cons.2 ((List.mem_cons.1 ha).imp id ih2)

def ExpOK (g : AGrammar) (alph : List (List Nat)) : Tgt → List Nat → Prop
  | .sym s, w => ∀ fuel stack, L (expandSym g alph fuel stack s) w
  | .seq is, w => ∀ fuel stack, L (expandItemsWith (expandSym g alph fuel stack) is) w

/-- At a rule's left-hand side `expandSym` is the star over the alphabet (out of fuel, or the symbol is on the
stack) or offers the rule's own expression among the alternatives. -/
theorem L_expandSym_rule {g : AGrammar} {alph : List (List Nat)} (hw : wfGrammar g = true) {r : ARule}
    (hr : r ∈ g.rules) {w : List Nat} (hal : ∀ a ∈ w, a ∈ lookupAlph alph r.lhs) (fuel : Nat) (stack : List Nat)
    (h : ∀ fuel, L (if r.ruleType ≠ 0 then .sym r.ruleType
      else expandItemsWith (expandSym g alph fuel (r.lhs :: stack)) r.body) w) :
    L (expandSym g alph fuel stack r.lhs) w := by
  cases fuel with
  | zero => exact L_starOf hal
  | succ fuel =>
    have hge : ¬ r.lhs < g.nTerms := Nat.not_lt.2 (of_decide_eq_true (List.all_eq_true.mp hw r hr))
    simp only [expandSym, hge, if_false]
    split
    · exact L_starOf hal
    · exact L_altAll (List.mem_map.mpr ⟨r, List.mem_filter.mpr ⟨hr, beq_self_eq_true _⟩, rfl⟩) (h fuel)

theorem expand_sound {g : AGrammar} {alph : List (List Nat)} (hw : wfGrammar g = true)
    (hc : alphClosed g alph = true) {tgt : Tgt} {w : List Nat} (h : Yield g tgt w) :
    ExpOK g alph tgt w := by
  induction h with
  | term s hs =>
    intro fuel stack
    cases fuel with
    | zero => exact L_starOf (alph_sound hc (Yield.term s hs))
    | succ fuel =>
      simp only [expandSym, hs, if_true]
      exact L_seqAll_syms _
  | untyped r w hr ht hy ih =>
    exact fun fuel stack => L_expandSym_rule hw hr (alph_sound hc (.untyped r w hr ht hy)) fuel stack
      fun fuel => by rw [if_neg (not_not_intro ht)]; exact ih fuel _
  | typed r w hr ht hy _ =>
    exact fun fuel stack => L_expandSym_rule hw hr (alph_sound hc (.typed r w hr ht hy)) fuel stack
      fun _ => by rw [if_pos ht]; exact L.sym _
  | nil => intro fuel stack; exact L.eps
  | consSym s rest u v _ _ ih1 ih2 =>
    intro fuel stack
    exact L.seq (ih1 fuel stack) (ih2 fuel stack)
  | consNode t kids rest u v _ _ _ ih2 =>
    intro fuel stack
    have := L.seq (L.sym t) (ih2 fuel stack)
    simpa [expandItemsWith] using this

theorem approx_sound {g : AGrammar} {alph : List (List Nat)} (fuel : Nat) (hw : wfGrammar g = true)
    (hc : alphClosed g alph = true) {T : Nat} {w : List Nat} (h : ChildSeq g T w) :
    L (approx g alph fuel T) w := by
  unfold approx
  rcases h with ⟨r, hr, hT, hT0, hy⟩ | ⟨r, hr, kids, hk, hy⟩
  · apply L_altAll (x := expandItems g alph fuel r.body)
    · apply List.mem_append.mpr; left
      apply List.mem_map.mpr
      exact ⟨r, List.mem_filter.mpr ⟨hr, by simp [hT, hT0]⟩, rfl⟩
    · exact expand_sound hw hc hy fuel []
  · apply L_altAll (x := expandItems g alph fuel kids)
    · apply List.mem_append.mpr; right
      apply List.mem_flatMap.mpr
      refine ⟨r, hr, ?_⟩
      apply List.mem_map.mpr
      exact ⟨(T, kids), List.mem_filter.mpr ⟨hk, by simp⟩, rfl⟩
    · exact expand_sound hw hc hy fuel []

def NullOK (nul : List Bool) : Tgt → Prop
  | .sym s => nul.getD s false = true
  | .seq is => itemsNullable nul is = true

theorem nullable_sound {g : AGrammar} {nul : List Bool} (hc : nullClosed g nul = true)
    {tgt : Tgt} {n : Nat} (h : Toks g tgt n) : n = 0 → NullOK nul tgt := by
  induction h with
  | term s _ => intro h0; cases h0
  | rule r n hr _ ih =>
    intro h0
    have := List.all_eq_true.mp hc r hr
    have hb : itemsNullable nul r.body = true := ih h0
    simpa [NullOK, hb] using this
  | nil => intro _; rfl
  | consSym _ _ _ _ _ _ ih1 ih2 | consNode _ _ _ _ _ _ _ ih1 ih2 =>
    intro h0
    obtain ⟨h1, h2⟩ := Nat.add_eq_zero_iff.mp h0
    exact Bool.and_eq_true_iff.mpr ⟨ih1 h1, ih2 h2⟩

theorem toks_pos {g : AGrammar} {nul : List Bool} (hc : nullClosed g nul = true) {is : Items} {n : Nat}
    (hT : Toks g (.seq is) n) (hnn : (!itemsNullable nul is) = true) : 0 < n :=
  Nat.pos_of_ne_zero fun h0 => by
    have hb : itemsNullable nul is = true := nullable_sound hc hT h0
    rw [hb] at hnn; cases hnn

theorem nodes_nonempty {g : AGrammar} {nul : List Bool} (hc : nullClosed g nul = true)
    (hn : nodesNonEmpty g nul = true) {r : ARule} (hr : r ∈ g.rules) :
    (r.ruleType ≠ 0 → ∀ n, Toks g (.seq r.body) n → 0 < n) ∧
    (∀ t kids, (t, kids) ∈ r.body.occs → ∀ n, Toks g (.seq kids) n → 0 < n) := by
  have h := List.all_eq_true.mp hn r hr
  rw [Bool.and_eq_true, Bool.or_eq_true, beq_iff_eq] at h
  exact ⟨fun ht n hT => toks_pos hc hT (h.1.resolve_left ht),
    fun t kids hk n hT => toks_pos hc hT (List.all_eq_true.mp h.2 (t, kids) hk)⟩

end TmVerif.AstTypes
