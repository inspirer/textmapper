import TmVerif.Model.AstTypes
/-!
C21: derivatives of `AstTypes.Re`, in the direction the checker needs: a word of the language stays in the
language of the derivative; an accepted empty word means `nullable`. At the end, membership lemmas for the
building blocks of `approx`.
-/
namespace TmVerif.AstTypes.Re

theorem L_empty_false {w : List Nat} : ¬ L .empty w := by
  intro h; cases h

theorem L_eps {w : List Nat} (h : L .eps w) : w = [] := by
  cases h; rfl

theorem nullable_of_nil {r : Re} {w : List Nat} (h : L r w) (hw : w = []) : nullable r = true := by
  induction h with
  | eps => rfl
  | sym a => cases hw
  | altL _ ih | altR _ ih => simp [nullable, ih hw]
  | seq _ _ ih1 ih2 =>
    have h1 := List.append_eq_nil_iff.mp hw
    simp [nullable, ih1 h1.1, ih2 h1.2]
  | starNil => rfl
  | starCons _ _ _ _ => rfl

theorem L_mkSeq {r s : Re} {u v : List Nat} (h1 : L r u) (h2 : L s v) : L (mkSeq r s) (u ++ v) := by
  unfold mkSeq
  split
  · exact absurd h1 L_empty_false
  · exact absurd h2 L_empty_false
  · exact L_eps h1 ▸ h2
  · rw [L_eps h2, List.append_nil]; exact h1
  · exact L.seq h1 h2

theorem L_toList {r : Re} {w : List Nat} (h : L r w) : ∃ x ∈ toList r, L x w := by
  induction r generalizing w with
  | empty => exact absurd h L_empty_false
  | eps | sym _ | seq _ _ _ _ | star _ _ => exact ⟨_, by simp [toList], h⟩
  | alt r s ihr ihs =>
    cases h with
    | altL h1 =>
      obtain ⟨x, hx, hl⟩ := ihr h1
      exact ⟨x, by simp [toList, hx], hl⟩
    | altR h1 =>
      obtain ⟨x, hx, hl⟩ := ihs h1
      exact ⟨x, by simp [toList, hx], hl⟩

theorem L_fromList {l : List Re} {x : Re} {w : List Nat} (hx : x ∈ l) (h : L x w) : L (fromList l) w := by
  -- no alternative, one (itself), or a first one and others
  fun_induction fromList l with
  | case1 => cases hx
  | case2 r => exact List.mem_singleton.mp hx ▸ h
  | case3 r rs _ ih =>
    rcases List.mem_cons.mp hx with rfl | hx'
    · exact L.altL h
    · exact L.altR (ih hx')

theorem mem_insert {r x : Re} {l : List Re} : x ∈ insert r l ↔ x = r ∨ x ∈ l := by
  -- at the end, at a copy of `r`, before a larger element, or further on
  fun_induction insert r l with
  | case1 => simp
  | case2 ys => simp
  | case3 y ys _ _ => simp
  | case4 y ys _ _ ih =>
    rw [List.mem_cons, List.mem_cons, ih]
    exact or_left_comm

theorem mem_insertAll {l acc : List Re} {x : Re} : x ∈ insertAll l acc ↔ x ∈ l ∨ x ∈ acc := by
  unfold insertAll
  induction l generalizing acc with
  | nil => simp
  | cons y ys ih =>
    simp only [List.foldl_cons, List.mem_cons]
    rw [ih, mem_insert]
    exact or_left_comm.trans or_assoc.symm

/-- `mkAlt r s` lists the alternatives of `.alt r s` (`toList`, by definition `toList r ++ toList s`) in normal form. -/
theorem L_mkAlt {r s : Re} {w : List Nat} (h : L (.alt r s) w) : L (mkAlt r s) w :=
  let ⟨_, hx, hl⟩ := L_toList h
  L_fromList (mem_insertAll.mpr (.inl hx)) hl

theorem L_deriv {r : Re} {x : List Nat} (h : L r x) {a w} (hx : x = a :: w) : L (deriv a r) w := by
  induction h generalizing w with
  | eps => cases hx
  | sym b =>
    cases hx
    simp [deriv]; exact L.eps
  | altL _ ih =>
    simp only [deriv]
    exact L_mkAlt (L.altL (ih hx))
  | altR _ ih =>
    simp only [deriv]
    exact L_mkAlt (L.altR (ih hx))
  | @seq r s u v h1 h2 ih1 ih2 =>
    simp only [deriv]
    cases u with
    | nil =>
      have hn := nullable_of_nil h1 rfl
      simp only [hn, if_true]
      exact L_mkAlt (L.altR (ih2 hx))
    | cons b u' =>
      obtain ⟨rfl, rfl⟩ := List.cons.inj hx
      have h3 : L (mkSeq (deriv b r) s) (u' ++ v) := L_mkSeq (ih1 rfl) h2
      split
      · exact L_mkAlt (L.altL h3)
      · exact h3
  | starNil => cases hx
  | @starCons r u v h1 h2 ih1 ih2 =>
    cases u with
    | nil => exact ih2 hx
    | cons b u' =>
      obtain ⟨rfl, rfl⟩ := List.cons.inj hx
      simp only [deriv]
      exact L_mkSeq (ih1 rfl) h2

theorem first_mem_syms {r : Re} {x : List Nat} (h : L r x) {a w} (hx : x = a :: w) : a ∈ syms r := by
  induction h generalizing w with
  | eps => cases hx
  | sym b => cases hx; simp [syms]
  | altL _ ih | altR _ ih => simp [syms, ih hx]
  | @seq r s u v h1 h2 ih1 ih2 =>
    cases u with
    | nil => simp [syms, ih2 hx]
    | cons b u' => obtain ⟨rfl, -⟩ := List.cons.inj hx; simp [syms, ih1 rfl]
  | starNil => cases hx
  | @starCons r u v h1 h2 ih1 ih2 =>
    cases u with
    | nil => exact ih2 hx
    | cons b u' => obtain ⟨rfl, -⟩ := List.cons.inj hx; simp [syms, ih1 rfl]

/-- One direction suffices for the driver's use. -/
theorem accepts_of_L {r : Re} {w : List Nat} (h : L r w) : accepts r w = true := by
  unfold accepts
  induction w generalizing r with
  | nil => exact nullable_of_nil h rfl
  | cons a w ih => exact ih (L_deriv h rfl)

theorem L_altAll {l : List Re} {x : Re} {w : List Nat} (hx : x ∈ l) (h : L x w) : L (altAll l) w := by
  induction l with
  | nil => cases hx
  | cons y ys ih =>
    simp only [altAll]
    rcases List.mem_cons.mp hx with rfl | hx'
    · exact L.altL h
    · exact L.altR (ih hx')

theorem L_starOf {l w : List Nat} (h : ∀ a ∈ w, a ∈ l) : L (starOf l) w := by
  unfold starOf
  induction w with
  | nil => exact L.starNil
  | cons a w ih =>
    have h1 : L (altAll (l.map .sym)) [a] :=
      L_altAll (List.mem_map.mpr ⟨a, h a (by simp), rfl⟩) (L.sym a)
    have := L.starCons h1 (ih (fun b hb => h b (by simp [hb])))
    simpa using this

theorem L_seqAll_syms (l : List Nat) : L (seqAll (l.map .sym)) l := by
  induction l with
  | nil => exact L.eps
  | cons a l ih =>
    have := L.seq (L.sym a) ih
    simpa [seqAll] using this

end TmVerif.AstTypes.Re
