/-
Facts about the runtime model `Model/LR.lean` that hold for every table set and need no certificate.
-/
import TmVerif.Model.LRSound
namespace TmVerif.LR
open TmVerif.LRSound (noDeep)

theorem tok_of_size_le {inp : Input} {i : Nat} (h : inp.toks.size ≤ i) :
    inp.tok i = ⟨0, inp.endOff, inp.endOff⟩ := by
  unfold Input.tok
  rw [Array.getElem?_eq_none h]

theorem tok_of_lt {inp : Input} {i : Nat} (h : i < inp.toks.size) : inp.tok i = inp.toks[i] := by
  unfold Input.tok
  rw [Array.getElem?_eq_getElem h]

theorem toks_cons {inp : Input} {pos a : Nat} {rest : List Nat}
    (h : ∀ j (hj : j < (a :: rest).length), (inp.tok (pos + j)).sym = ((a :: rest)[j] : Nat)) :
    (inp.tok pos).sym = (a : Nat) ∧
      ∀ j (hj : j < rest.length), (inp.tok (pos + 1 + j)).sym = (rest[j] : Nat) :=
  ⟨h 0 (Nat.zero_lt_succ _), fun j hj => by
    have := h (j + 1) (Nat.succ_lt_succ hj)
    rwa [List.getElem_cons_succ, ← Nat.add_assoc, Nat.add_right_comm] at this⟩

theorem geti_some {a : Array Int} {i v : Int} (h : geti a i = some v) : 0 ≤ i ∧ a[i.toNat]? = some v := by
  unfold geti at h
  split at h
  · cases h
  · exact ⟨by omega, h⟩

theorem fetch_some {inp : Input} {c : Cfg} {tk : Tok} (h : c.next = some tk) :
    c.fetch inp = (c, tk) := by
  unfold Cfg.fetch; rw [h]

theorem fetch_none {inp : Input} {c : Cfg} (h : c.next = none) :
    c.fetch inp = ({ c with next := some (inp.tok c.pos), pos := c.pos + 1 }, inp.tok c.pos) := by
  unfold Cfg.fetch; rw [h]

theorem fetch_stack (inp : Input) (c : Cfg) : (c.fetch inp).1.stack = c.stack := by
  unfold Cfg.fetch; split <;> rfl

theorem fetch_state (inp : Input) (c : Cfg) : (c.fetch inp).1.state = c.state := by
  unfold Cfg.fetch; split <;> rfl

theorem fetch_evs (inp : Input) (c : Cfg) : (c.fetch inp).1.evs = c.evs := by
  unfold Cfg.fetch; split <;> rfl

theorem fetch_next (inp : Input) (c : Cfg) : (c.fetch inp).1.next = some (c.fetch inp).2 := by
  unfold Cfg.fetch; split
  · rename_i tk h; exact h
  · rfl

theorem fetch_idem (inp : Input) (c : Cfg) : (c.fetch inp).1.fetch inp = c.fetch inp := by
  have h := fetch_next inp c
  rw [fetch_some h]

theorem fetch_upd (inp : Input) (c : Cfg) (stk : List Entry) (q : Int) (evs : List Ev) :
    ({ c with stack := stk, state := q, evs := evs } : Cfg).fetch inp =
      ({ (c.fetch inp).1 with stack := stk, state := q, evs := evs }, (c.fetch inp).2) := by
  cases c with
  | mk s st p n e => cases n <;> rfl

theorem deepLA_succ (t : Tables) (inp : Input) (fuel pos : Nat) (x : Int) :
    deepLA t inp (fuel + 1) pos x =
      if x < -2 then (lalrLookup t x (inp.tok pos).sym).bind (deepLA t inp fuel (pos + 1))
      else some x := by
  rw [deepLA]
  split
  · cases lalrLookup t x (inp.tok pos).sym <;> rfl
  · rfl

theorem deepLA_leaf {t : Tables} {inp : Input} {fuel pos : Nat} {x r : Int}
    (h : (if x < -2 then none else some x) = some r) : deepLA t inp (fuel + 1) pos x = some r := by
  rw [deepLA_succ]
  by_cases hx : x < -2
  · rw [if_pos hx] at h; cases h
  · rw [if_neg hx] at h ⊢; exact h

theorem deepLA_induct {t : Tables} {inp : Input} {P : Nat → Nat → Int → Int → Prop}
    (leaf : ∀ fuel pos x, ¬ x < -2 → P (fuel + 1) pos x x)
    (node : ∀ fuel pos x y r, x < -2 → lalrLookup t x (inp.tok pos).sym = some y →
      deepLA t inp fuel (pos + 1) y = some r → P fuel (pos + 1) y r → P (fuel + 1) pos x r) :
    ∀ fuel pos x r, deepLA t inp fuel pos x = some r → P fuel pos x r
  | 0, _, _, _, h => by rw [deepLA] at h; cases h
  | fuel + 1, pos, x, r, h => by
    rw [deepLA_succ] at h
    by_cases hx : x < -2
    · rw [if_pos hx] at h
      obtain ⟨y, hy, hr⟩ := Option.bind_eq_some_iff.mp h
      exact node fuel pos x y r hx hy hr (deepLA_induct leaf node fuel (pos + 1) y r hr)
    · rw [if_neg hx] at h
      cases h
      exact leaf fuel pos x hx

theorem decode_cases {t : Tables} {inp : Input} {c c1 : Cfg} {act : Act}
    (hd : decode t inp c = some (c1, act)) :
    (needsTok t c.state = some true ∧ c1 = (c.fetch inp).1 ∧
      actOf t (deepLA t inp (inp.toks.size + 2) (c.fetch inp).1.pos) c.state
        (c.fetch inp).2.sym = some act) ∨
    (needsTok t c.state = some false ∧ c1 = c ∧ actOf t noDeep c.state 0 = some act) := by
  unfold decode at hd
  cases hnt : needsTok t c.state with
  | none => rw [hnt] at hd; cases hd
  | some b =>
    rw [hnt] at hd
    cases b with
    | true =>
      obtain ⟨_, ha, he⟩ := Option.map_eq_some_iff.mp hd
      cases he
      exact .inl ⟨rfl, rfl, ha⟩
    | false =>
      obtain ⟨_, ha, he⟩ := Option.map_eq_some_iff.mp hd
      cases he
      exact .inr ⟨rfl, rfl, ha⟩

theorem decode_fetch {t : Tables} {inp : Input} {c c1 : Cfg} {act : Act}
    (hd : decode t inp c = some (c1, act)) : c1 = c ∨ c1 = (c.fetch inp).1 := by
  rcases decode_cases hd with ⟨_, h, _⟩ | ⟨_, h, _⟩
  · exact .inr h
  · exact .inl h

/-- the hypothesis is all that `decode` (`decode_fetch`) and the reduction of an empty rule
(`redParts_fst`) do to a configuration -/
theorem fetched_eq {inp : Input} {c c1 : Cfg} (h : c1 = c ∨ c1 = (c.fetch inp).1) :
    c1.stack = c.stack ∧ c1.state = c.state ∧ c1.evs = c.evs ∧ c1.fetch inp = c.fetch inp := by
  rcases h with rfl | rfl
  · exact ⟨rfl, rfl, rfl, rfl⟩
  · exact ⟨fetch_stack .., fetch_state .., fetch_evs .., fetch_idem ..⟩

theorem decode_evs {t : Tables} {inp : Input} {c c1 : Cfg} {a : Act}
    (h : decode t inp c = some (c1, a)) : c1.evs = c.evs :=
  (fetched_eq (decode_fetch h)).2.2.1

theorem actOf_of_needsTok_none {t : Tables} {s : Int} (h : needsTok t s = none)
    (deep : Int → Option Int) (a : Int) : actOf t deep s a = none := by
  unfold needsTok at h
  unfold actOf
  split at h
  · rename_i ho
    simp only [ho, if_true, Option.map_eq_none_iff.mp h]
  · rename_i ho
    simp only [ho, Bool.false_eq_true, if_false, Option.map_eq_none_iff.mp h]

theorem needsTok_of_actOf {t : Tables} {deep : Int → Option Int} {s a : Int} {act : Act}
    (h : actOf t deep s a = some act) : ∃ b, needsTok t s = some b := by
  cases hn : needsTok t s with
  | none => rw [actOf_of_needsTok_none hn] at h; cases h
  | some b => exact ⟨b, rfl⟩

theorem actOf_of_needsTok_false {t : Tables} {s : Int} (h : needsTok t s = some false)
    (deep deep' : Int → Option Int) (a a' : Int) : actOf t deep s a = actOf t deep' s a' := by
  unfold needsTok at h
  unfold actOf
  split at h
  · rename_i ho
    simp only [ho, if_true]
    cases hg : geti t.oAction s with
    | none => rfl
    | some v =>
      simp only [hg, Option.map_some, Option.some.injEq, decide_eq_false_iff_not] at h
      simp only [h, if_false]
  · rename_i ho
    simp only [ho, Bool.false_eq_true, if_false]
    cases hg : geti t.action s with
    | none => rfl
    | some v =>
      simp only [hg, Option.map_some, Option.some.injEq, decide_eq_false_iff_not] at h
      have h1 : ¬ v < -2 := fun h' => h (Or.inl h')
      have h2 : ¬ v = -1 := fun h' => h (Or.inr h')
      simp only [h1, if_false, h2]

theorem decode_of_act {t : Tables} {inp : Input} {c : Cfg} {o : Option Act}
    (hact : ∀ deep, actOf t deep c.state (c.fetch inp).2.sym = o) :
    ∃ c1, decode t inp c = o.map (c1, ·) ∧ (c1 = c ∨ c1 = (c.fetch inp).1) ∧
      (needsTok t c.state = some true → c1 = (c.fetch inp).1) := by
  unfold decode
  cases hn : needsTok t c.state with
  | none =>
    obtain rfl : o = none := (hact noDeep).symm.trans (actOf_of_needsTok_none hn _ _)
    exact ⟨c, rfl, Or.inl rfl, fun h => by cases h⟩
  | some b =>
    cases b with
    | true =>
      rcases hf : c.fetch inp with ⟨c1, tk⟩
      rw [hf] at hact
      simp only [hact]
      exact ⟨c1, rfl, Or.inr rfl, fun _ => rfl⟩
    | false =>
      have : actOf t (fun _ => none) c.state 0 = o :=
        (actOf_of_needsTok_false hn _ noDeep 0 _).trans (hact noDeep)
      simp only [this]
      exact ⟨c, rfl, Or.inl rfl, fun h => by cases h⟩

theorem step_of_decode {t : Tables} {inp : Input} {c c1 : Cfg} {a : Act}
    (h : decode t inp c = some (c1, a)) : step t inp c = apply t inp c1 a := by
  unfold step; rw [h]

theorem step_of_act {t : Tables} {inp : Input} {c : Cfg} {x : Act}
    (hact : ∀ deep, actOf t deep c.state (c.fetch inp).2.sym = some x) :
    ∃ c1, step t inp c = apply t inp c1 x ∧ (c1 = c ∨ c1 = (c.fetch inp).1) ∧
      (needsTok t c.state = some true → c1 = (c.fetch inp).1) := by
  obtain ⟨c1, hdec, h⟩ := decode_of_act hact
  exact ⟨c1, step_of_decode hdec, h⟩

/-- the `(c2, off, endo)` of `apply`'s reduce branch: the configuration (after a fetch if the rule
is empty) and the range of the new entry -/
def redParts (inp : Input) (c1 : Cfg) (ln : Nat) : Cfg × Nat × Nat :=
  if ln = 0 then ((c1.fetch inp).1, (c1.fetch inp).2.off, (c1.fetch inp).2.off)
  else (c1, (((c1.stack.take ln).getLast?).map (·.off)).getD 0,
        (((c1.stack.take ln).head?).map (·.endo)).getD 0)

def reduceWith (inp : Input) (c1 : Cfg) (rule : Int) (ln : Nat) (lhs : Int)
    (gotoF : Int → Option Int) : Step :=
  if ln > c1.stack.length then .done .panic c1
  else
    let P := redParts inp c1 ln
    match P.1.stack.drop ln with
    | [] => .done .panic P.1
    | top :: _ =>
      match gotoF top.state with
      | none => .done .panic P.1
      | some q =>
        let c3 : Cfg := { P.1 with stack := ⟨lhs, P.2.1, P.2.2, q⟩ :: P.1.stack.drop ln, state := q,
                                   evs := .reduce rule P.2.1 P.2.2 :: P.1.evs }
        if q = -1 then .done (.syntaxError 0 0) c3 else .cont c3

theorem apply_reduce (t : Tables) (inp : Input) (c1 : Cfg) (r : Int) :
    apply t inp c1 (.reduce r) =
      match geti t.ruleLen r, geti t.ruleSymbol r with
      | some ln, some lhs => reduceWith inp c1 r ln.toNat lhs (fun s => gotoState t s lhs)
      | _, _ => .done .panic c1 := by
  rw [apply]
  cases hln : geti t.ruleLen r with
  | none => cases hlhs : geti t.ruleSymbol r <;> rfl
  | some ln =>
    cases hlhs : geti t.ruleSymbol r with
    | none => rfl
    | some lhs =>
      simp only [reduceWith, redParts]
      by_cases h0 : ln.toNat = 0
      · simp only [h0, if_true]; rfl
      · simp only [h0, if_false]; rfl

theorem redParts_fst (inp : Input) (c1 : Cfg) (ln : Nat) :
    (redParts inp c1 ln).1 = c1 ∨ (redParts inp c1 ln).1 = (c1.fetch inp).1 := by
  unfold redParts; split
  · right; rfl
  · left; rfl

theorem redParts_stack (inp : Input) (c1 : Cfg) (ln : Nat) :
    (redParts inp c1 ln).1.stack = c1.stack :=
  (fetched_eq (redParts_fst inp c1 ln)).1

theorem apply_reduce_goto {t : Tables} {inp : Input} {c1 : Cfg} {r ln lhs q : Int} {top : Entry}
    {rest : List Entry} (hlen : geti t.ruleLen r = some ln) (hsym : geti t.ruleSymbol r = some lhs)
    (hdrop : c1.stack.drop ln.toNat = top :: rest) (hgoto : gotoState t top.state lhs = some q) :
    ∃ (c2 : Cfg) (off endo : Nat), c2 = (redParts inp c1 ln.toNat).1 ∧
      apply t inp c1 (.reduce r) =
        (fun c3 => if q = -1 then .done (.syntaxError 0 0) c3 else .cont c3)
          { c2 with stack := ⟨lhs, off, endo, q⟩ :: top :: rest, state := q,
                    evs := .reduce r off endo :: c2.evs } := by
  have hlt := List.length_lt_of_drop_ne_nil (hdrop ▸ List.cons_ne_nil top rest)
  rw [apply_reduce, hlen, hsym]
  simp only [reduceWith, if_neg (Nat.lt_asymm hlt), redParts_stack, hdrop, hgoto]
  exact ⟨_, _, _, rfl, rfl⟩

/-- The range `0 0` of the syntax error is a placeholder: `step` does not know the offending token,
`runLoop` passes the configuration to `errorAt`, which fetches it. -/
theorem apply_reduce_cases (t : Tables) (inp : Input) (c1 : Cfg) (r : Int) :
    ∃ c2, (c2 = c1 ∨ c2 = (c1.fetch inp).1) ∧
      (apply t inp c1 (.reduce r) = .done .panic c2 ∨
       ∃ stk q off endo, apply t inp c1 (.reduce r) =
         (fun c3 => if q = -1 then .done (.syntaxError 0 0) c3 else .cont c3)
           { c2 with stack := stk, state := q, evs := .reduce r off endo :: c2.evs }) := by
  rw [apply_reduce]
  cases geti t.ruleLen r with
  | none => exact ⟨c1, .inl rfl, .inl rfl⟩
  | some ln =>
    cases geti t.ruleSymbol r with
    | none => exact ⟨c1, .inl rfl, .inl rfl⟩
    | some lhs =>
      simp only [reduceWith]
      by_cases hlen : ln.toNat > c1.stack.length
      · rw [if_pos hlen]
        exact ⟨c1, .inl rfl, .inl rfl⟩
      · rw [if_neg hlen]
        refine ⟨_, redParts_fst inp c1 ln.toNat, ?_⟩
        cases (redParts inp c1 ln.toNat).1.stack.drop ln.toNat with
        | nil => exact .inl rfl
        | cons top rest =>
          dsimp only
          cases gotoState t top.state lhs with
          | none => exact .inl rfl
          | some q => exact .inr ⟨_, _, _, _, rfl⟩

/-- `accept` and `fuel` are the loop's own answers -/
theorem apply_done {t : Tables} {inp : Input} {c1 c' : Cfg} {a : Act} {r : Result}
    (h : apply t inp c1 a = .done r c') : r = .panic ∨ r = .syntaxError 0 0 := by
  cases a with
  | error => rw [apply] at h; cases h; exact .inr rfl
  | shift q =>
    rw [apply] at h
    split at h
    · cases h; exact .inl rfl
    · cases h
  | reduce rule =>
    obtain ⟨c2, _, h' | ⟨stk, q, off, endo, h'⟩⟩ := apply_reduce_cases t inp c1 rule <;> rw [h'] at h
    · cases h; exact .inl rfl
    · dsimp only at h
      split at h <;> cases h
      exact .inr rfl

theorem step_done {t : Tables} {inp : Input} {c c' : Cfg} {r : Result}
    (h : step t inp c = .done r c') : r = .panic ∨ r = .syntaxError 0 0 := by
  unfold step at h
  split at h
  · cases h; exact .inl rfl
  · exact apply_done h

theorem step_not_accept {t : Tables} {inp : Input} {c c' : Cfg} :
    step t inp c ≠ .done .accept c' :=
  fun h => by rcases step_done h with e | e <;> cases e

theorem step_not_fuel {t : Tables} {inp : Input} {c c' : Cfg} : step t inp c ≠ .done .fuel c' :=
  fun h => by rcases step_done h with e | e <;> cases e

theorem step_cases (t : Tables) (inp : Input) (c : Cfg) :
    (decode t inp c = none ∧ step t inp c = .done .panic c) ∨
    ∃ c1 act, decode t inp c = some (c1, act) ∧ step t inp c = apply t inp c1 act := by
  unfold step
  cases decode t inp c with
  | none => exact .inl ⟨rfl, rfl⟩
  | some p => exact .inr ⟨p.1, p.2, rfl, rfl⟩

theorem runLoop_succ {t : Tables} {inp : Input} {fin : Int} {c : Cfg} (h : ¬ c.state = fin) (fuel : Nat) :
    runLoop t inp fin (fuel + 1) c =
      match step t inp c with
      | .cont c' => runLoop t inp fin fuel c'
      | .done (.syntaxError _ _) c' => errorAt inp c'
      | .done r c' => (r, c') := by
  rw [runLoop, if_neg h]
  cases step t inp c with
  | cont _ => rfl
  | done r _ => cases r <;> rfl

theorem run_of_final {t : Tables} {inp : Input} {i : Nat} {fin : Int}
    (h : t.finalStates[i]? = some fin) (fuel : Nat) :
    run t inp i fuel = runLoop t inp fin fuel (initCfg inp i) := by
  unfold run; rw [h]

theorem run_cases (t : Tables) (inp : Input) (i : Nat) :
    (t.finalStates[i]? = none ∧ ∀ fuel, run t inp i fuel = (.panic, initCfg inp i)) ∨
    ∃ fin, t.finalStates[i]? = some fin ∧
      ∀ fuel, run t inp i fuel = runLoop t inp fin fuel (initCfg inp i) := by
  unfold run
  cases t.finalStates[i]? with
  | none => exact .inl ⟨rfl, fun _ => rfl⟩
  | some fin => exact .inr ⟨fin, rfl, fun _ => rfl⟩

theorem run_eq {t : Tables} {inp : Input} {i fuel : Nat} {r : Result} {c : Cfg}
    (h : run t inp i fuel = (r, c)) (hr : r ≠ .panic) :
    ∃ fin, t.finalStates[i]? = some fin ∧ runLoop t inp fin fuel (initCfg inp i) = (r, c) := by
  rcases run_cases t inp i with ⟨_, h'⟩ | ⟨fin, hfin, h'⟩ <;> rw [h'] at h
  · injection h with h _; exact absurd h.symm hr
  · exact ⟨fin, hfin, h⟩

theorem runLoop_add (t : Tables) (inp : Input) (fin : Int) (d : Nat) : ∀ (fuel : Nat) {c c' : Cfg}
    {r : Result}, runLoop t inp fin fuel c = (r, c') → r ≠ .fuel →
    runLoop t inp fin (fuel + d) c = (r, c')
  | 0, _, _, _, h, hr => by
    rw [runLoop] at h
    exact absurd (Prod.mk.inj h).1.symm hr
  | fuel + 1, c, _, _, h, hr => by
    rw [Nat.add_right_comm]
    by_cases hfin : c.state = fin
    · rwa [runLoop, if_pos hfin] at h ⊢
    · rw [runLoop_succ hfin] at h ⊢
      cases hs : step t inp c with
      | cont c1 =>
        rw [hs] at h
        exact runLoop_add t inp fin d fuel h hr
      | done r _ =>
        rw [hs] at h
        cases r <;> exact h

theorem run_det (t : Tables) (inp : Input) (i : Nat) {f1 f2 : Nat} {r1 r2 : Result} {c1 c2 : Cfg}
    (h1 : run t inp i f1 = (r1, c1)) (hr1 : r1 ≠ .fuel)
    (h2 : run t inp i f2 = (r2, c2)) (hr2 : r2 ≠ .fuel) : r1 = r2 := by
  rcases run_cases t inp i with ⟨_, h⟩ | ⟨fin, _, h⟩ <;> rw [h] at h1 h2
  · exact (Prod.mk.inj h1).1.symm.trans (Prod.mk.inj h2).1
  · have m1 := runLoop_add t inp fin f2 f1 h1 hr1
    rw [Nat.add_comm, runLoop_add t inp fin f1 f2 h2 hr2] at m1
    exact (Prod.mk.inj m1).1.symm

def Step.cfg : Step → Cfg
  | .cont c => c
  | .done _ c => c

theorem apply_evs (t : Tables) (inp : Input) (c1 : Cfg) (a : Act) :
    c1.evs <:+ (apply t inp c1 a).cfg.evs := by
  cases a with
  | error => rw [apply]; exact List.suffix_refl _
  | shift q =>
    rw [apply]
    split
    · exact List.suffix_refl _
    · exact List.suffix_cons _ _
  | reduce r =>
    obtain ⟨c2, h2, h | ⟨stk, q, off, endo, h⟩⟩ := apply_reduce_cases t inp c1 r <;>
      rw [h, ← (fetched_eq h2).2.2.1]
    · exact List.suffix_refl _
    · dsimp only
      split <;> exact List.suffix_cons _ _

theorem step_evs (t : Tables) (inp : Input) (c : Cfg) : c.evs <:+ (step t inp c).cfg.evs := by
  unfold step
  split
  · exact List.suffix_refl _
  · rename_i c1 a hd
    rw [← decode_evs hd]
    exact apply_evs t inp c1 a

theorem errorAt_eq (inp : Input) (c : Cfg) :
    errorAt inp c = (.syntaxError (c.fetch inp).2.off (c.fetch inp).2.endo, (c.fetch inp).1) := rfl

theorem errorAt_evs (inp : Input) (c : Cfg) : (errorAt inp c).2.evs = c.evs :=
  fetch_evs inp c

theorem runLoop_evs (t : Tables) (inp : Input) (fin : Int) :
    ∀ (fuel : Nat) (c : Cfg), c.evs <:+ (runLoop t inp fin fuel c).2.evs
  | 0, c => by rw [runLoop]; exact List.suffix_refl _
  | fuel + 1, c => by
    rw [runLoop]
    split
    · exact List.suffix_refl _
    · have hs := step_evs t inp c
      split
      · rename_i c' he
        rw [he] at hs
        exact hs.trans (runLoop_evs t inp fin fuel c')
      · rename_i c' he
        rw [he] at hs
        rw [errorAt_evs]
        exact hs
      · rename_i r c' _ he
        rw [he] at hs
        exact hs

end TmVerif.LR
