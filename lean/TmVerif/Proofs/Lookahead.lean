import TmVerif.Model.Lookahead
/-!
C08: `pickLookahead` returns a literal that separates the picked alternative from all others; the elimination
loop therefore builds a correct decision list over mutually exclusive alternatives.
-/
namespace TmVerif.Lookahead

theorem holds_of_accepts {ps : List Pred} {x : Int} {ng : Bool} {v : Int → Bool}
    (h : accepts ps x = some ng) (hs : ps.all (holds · v) = true) : v x = !ng := by
  fun_induction accepts ps x with
  | case1 => cases h
  | case2 p ps =>
    rw [List.all_cons, Bool.and_eq_true] at hs
    cases h
    exact Bool.eq_not_of_ne (bne_iff_ne.mp hs.1)
  | case3 p ps x hx ih =>
    rw [List.all_cons, Bool.and_eq_true] at hs
    exact ih h hs.2

/-! `pos` and `neg` are two runs of the same slot automaton (−1 empty, an index, −2 overflow) over the alternatives that
list `x` plainly resp. negated. -/

def slot (s : Int) (hit : Bool) (i : Int) : Int := if hit then (if s = -1 then i else -2) else s

def slotRun : List Bool → Int → Int → Int
  | [], _, s => s
  | h :: hs, i, s => slotRun hs (i + 1) (slot s h i)

def hits (x : Int) (ng : Bool) (las : List Alt) : List Bool :=
  las.map fun la => accepts la.preds x == some ng

theorem pickLoop_cons (x : Int) (la : Alt) (rest : List Alt) (i pos neg : Int) (b : Bool)
    (h : accepts la.preds x = some b) :
    pickLoop x (la :: rest) i pos neg = pickLoop x rest (i + 1) (slot pos (!b) i) (slot neg b i) := by
  rw [pickLoop, h]
  cases b <;> by_cases hp : pos = -1 <;> by_cases hn : neg = -1 <;> simp [slot, hp, hn]

theorem pickLoop_some {x : Int} {las : List Alt} {i pos neg p n : Int}
    (h : pickLoop x las i pos neg = some (p, n)) :
    las.all (fun la => (accepts la.preds x).isSome) = true ∧
      p = slotRun (hits x false las) i pos ∧ n = slotRun (hits x true las) i neg := by
  induction las generalizing i pos neg with
  | nil => cases h; exact ⟨rfl, rfl, rfl⟩
  | cons la rest ih =>
    cases hacc : accepts la.preds x with
    | none => simp [pickLoop, hacc] at h
    | some b =>
      rw [pickLoop_cons x la rest i pos neg b hacc] at h
      obtain ⟨h1, h2, h3⟩ := ih h
      cases b <;> simp [hits, slotRun, hacc, h1, h2, h3]

theorem slotRun_neg2 (hs : List Bool) (i : Int) : slotRun hs i (-2) = -2 := by
  induction hs generalizing i with
  | nil => rfl
  | cons h hs ih => cases h <;> simp [slotRun, slot, ih]

theorem slotRun_nonneg (hs : List Bool) (i s : Int) (h0 : 0 ≤ s) :
    (slotRun hs i s = s ∧ true ∉ hs) ∨ slotRun hs i s = -2 := by
  induction hs generalizing i with
  | nil => exact .inl ⟨rfl, List.not_mem_nil⟩
  | cons h hs ih =>
    cases h with
    | true =>
      have : s ≠ -1 := by omega
      exact .inr (by simp [slotRun, slot, this, slotRun_neg2])
    | false => exact (ih (i + 1)).imp (fun h1 => ⟨h1.1, by simp [h1.2]⟩) id

theorem slotRun_unique_hit (hs : List Bool) (i : Int) (hi : 0 ≤ i) (hr : 0 ≤ slotRun hs i (-1)) :
    ∃ pre post, hs = pre ++ true :: post ∧ true ∉ pre ∧ true ∉ post ∧
      slotRun hs i (-1) = i + pre.length := by
  induction hs generalizing i with
  | nil => exact absurd hr (by simp [slotRun])
  | cons h hs ih =>
    cases h with
    | true =>
      have e : slotRun (true :: hs) i (-1) = slotRun hs (i + 1) i := rfl
      rw [e] at hr ⊢
      rcases slotRun_nonneg hs (i + 1) i hi with h1 | h1
      · exact ⟨[], hs, rfl, List.not_mem_nil, h1.2, by simp [h1.1]⟩
      · rw [h1] at hr; exact absurd hr (by decide)
    | false =>
      have e : slotRun (false :: hs) i (-1) = slotRun hs (i + 1) (-1) := rfl
      rw [e] at hr ⊢
      obtain ⟨pre, post, rfl, h1, h2, h3⟩ := ih (i + 1) (by omega) hr
      exact ⟨false :: pre, post, rfl, by simp [h1], h2, by rw [h3]; simp; omega⟩

def Sep (las : List Alt) (x : Int) (k : Nat) (ng : Bool) : Prop :=
  ∃ l₁ la l₂, las = l₁ ++ la :: l₂ ∧ k = l₁.length ∧ accepts la.preds x = some ng ∧
    ∀ b ∈ l₁ ++ l₂, accepts b.preds x = some (!ng)

theorem sep_of_slot {x : Int} {las : List Alt}
    (hall : las.all (fun la => (accepts la.preds x).isSome) = true) (ng : Bool)
    (hr : 0 ≤ slotRun (hits x ng las) 0 (-1)) :
    Sep las x (slotRun (hits x ng las) 0 (-1)).toNat ng := by
  obtain ⟨pre, post, hsplit, hpre, hpost, hval⟩ := slotRun_unique_hit _ 0 (Int.le_refl 0) hr
  obtain ⟨l₁, r, rfl, h1, hr'⟩ := List.map_eq_append_iff.mp hsplit
  obtain ⟨la, l₂, rfl, hla, h2⟩ := List.map_eq_cons_iff.mp hr'
  refine ⟨l₁, la, l₂, rfl, by rw [hval, ← h1]; simp, beq_iff_eq.mp hla, fun b hb => ?_⟩
  -- `b` lists `x`, and not with polarity `ng`
  have hmiss : (accepts b.preds x == some ng) ≠ true := by
    rcases List.mem_append.mp hb with hb | hb
    · exact fun e => hpre (h1 ▸ e ▸ List.mem_map_of_mem hb)
    · exact fun e => hpost (h2 ▸ e ▸ List.mem_map_of_mem hb)
  have hb' : b ∈ l₁ ++ la :: l₂ := List.perm_middle.mem_iff.2 (List.mem_cons_of_mem _ hb)
  obtain ⟨c, hc⟩ := Option.isSome_iff_exists.mp (List.all_eq_true.mp hall b hb')
  rw [hc] at hmiss ⊢
  exact congrArg some (Bool.eq_not_of_ne fun e => hmiss (e ▸ beq_self_eq_true _))

theorem pick_spec {x : Int} {las : List Alt} {k : Nat} {ng : Bool}
    (h : pickLookahead x las = some (k, ng)) : Sep las x k ng := by
  revert h
  fun_cases pickLookahead x las
  -- the plain slot holds an index; else the negated one does
  case case2 pos neg hl hp =>
    obtain ⟨hall, rfl, -⟩ := pickLoop_some hl
    exact fun h => by cases h; exact sep_of_slot hall false hp
  case case3 pos neg hl _ hn =>
    obtain ⟨hall, -, rfl⟩ := pickLoop_some hl
    exact fun h => by cases h; exact sep_of_slot hall true hn
  all_goals exact nofun

theorem tryOrder_spec {las : List Alt} {order : List Int} {i i' : Nat} {x : Int} {k : Nat} {ng : Bool}
    (h : tryOrder las order i = some (i', x, k, ng)) : pickLookahead x las = some (k, ng) := by
  fun_induction tryOrder las order i with
  | case1 => cases h
  | case2 y ys i k' ng' hp => cases h; exact hp
  | case3 y ys i hp ih => exact ih h

theorem swapRemove_concat {α} (init : List α) (last : α) (k : Nat) :
    swapRemove (init ++ [last]) k = init.set k last := by
  rw [swapRemove, List.getLast?_concat]
  show ((init ++ [last]).set k last).dropLast = _
  rw [List.set_append]
  split
  · rw [List.dropLast_concat]
  · next h =>
    rw [List.set_eq_of_length_le (Nat.le_of_not_lt h)]
    cases k - init.length <;> exact List.dropLast_concat

theorem swapRemove_perm {α} (l : List α) (k : Nat) (hk : k < l.length) :
    (swapRemove l k).Perm (l.eraseIdx k) := by
  obtain rfl | ⟨init, last, rfl⟩ := List.eq_nil_or_concat l
  · cases hk
  rw [List.concat_eq_append, swapRemove_concat]
  by_cases h : k < init.length
  · rw [List.eraseIdx_append_of_lt_length h, List.set_eq_take_append_cons_drop, if_pos h,
      List.eraseIdx_eq_take_drop_succ, List.append_assoc]
    exact (List.perm_append_comm (l₁ := [last])).append_left _
  · have : k = init.length := by simp at hk; omega
    subst this
    rw [List.set_eq_of_length_le (Nat.le_refl _), List.eraseIdx_append_of_length_le (Nat.le_refl _),
      Nat.sub_self, List.eraseIdx_cons_zero, List.append_nil]

theorem swapRemove_split_perm {α} (l₁ : List α) (a : α) (l₂ : List α) :
    (swapRemove (l₁ ++ a :: l₂) l₁.length).Perm (l₁ ++ l₂) := by
  have := swapRemove_perm (l₁ ++ a :: l₂) l₁.length (by simp)
  rwa [List.eraseIdx_append_of_length_le (Nat.le_refl _), Nat.sub_self, List.eraseIdx_cons_zero] at this

theorem getElem_of_mem_swapRemove {α} {l : List α} {k : Nat} {a : α} (hk : k < l.length)
    (h : a ∈ swapRemove l k) : ∃ j, ∃ hj : j < l.length, j ≠ k ∧ l[j] = a := by
  rw [(swapRemove_perm l k hk).mem_iff, List.mem_eraseIdx_iff_getElem] at h
  obtain ⟨j, hj, hne, e⟩ := h
  exact ⟨j, hj, hne, e⟩

def Excl (a b : Alt) : Prop := ∀ v : Int → Bool, ¬(sat a v = true ∧ sat b v = true)

theorem Excl.symm {a b : Alt} (h : Excl a b) : Excl b a := fun v hv => h v ⟨hv.2, hv.1⟩

theorem excl_of_sep {a b : Alt} {x : Int} {ng : Bool} (ha : accepts a.preds x = some ng)
    (hb : accepts b.preds x = some (!ng)) : Excl a b := by
  intro v hv
  have e := (holds_of_accepts ha hv.1).symm.trans (holds_of_accepts hb hv.2)
  cases ng <;> cases e

/-- What the elimination loop builds: a decision list in which every case tests a literal that the case's alternative
lists with that polarity and every other remaining alternative with the opposite one. -/
inductive Decides : List Alt → Rule → Prop
  | one (la : Alt) : Decides [la] ⟨[], la.target⟩
  | pick {l₁ l₂ rest : List Alt} {la : Alt} {x : Int} {ng : Bool} {r : Rule} :
      accepts la.preds x = some ng → (∀ b ∈ l₁ ++ l₂, accepts b.preds x = some (!ng)) →
      rest.Perm (l₁ ++ l₂) → Decides rest r →
      Decides (l₁ ++ la :: l₂) ⟨⟨⟨x, ng⟩, la.target⟩ :: r.cases, r.default⟩

theorem elim_decides {fuel : Nat} {las : List Alt} {order : List Int} {r : Rule} :
    elim fuel las order = .ok r → Decides las r := by
  fun_induction elim fuel las order generalizing r
  -- several alternatives, fuel left, a literal found, the rest eliminated
  case case4 _ n i x k ng htry r' hrec ih =>
    intro h
    obtain ⟨l₁, la, l₂, rfl, rfl, hak, hoth⟩ := pick_spec (tryOrder_spec htry)
    have htgt : targetAt (l₁ ++ la :: l₂) l₁.length = la.target := by simp [targetAt]
    exact Except.ok.inj h ▸ htgt ▸ .pick hak hoth (swapRemove_split_perm l₁ la l₂) (ih hrec)
  -- at most one alternative, and there is one
  case case5 la rest hl =>
    intro h
    cases rest with
    | nil => exact Except.ok.inj h ▸ .one la
    | cons => exact absurd (Nat.succ_lt_succ (Nat.succ_pos _)) hl
  -- the other four branches return an error
  all_goals exact fun h => nomatch h

theorem Decides.eval {las : List Alt} {r : Rule} (h : Decides las r) (v : Int → Bool) :
    ∀ la ∈ las, sat la v = true → evalRule r.cases r.default v = la.target := by
  induction h with
  | one la => exact fun _ hm _ => List.mem_singleton.mp hm ▸ rfl
  | @pick l₁ l₂ rest la x ng r hak hoth hperm _ ih =>
    intro la' hm hs
    by_cases hla : la' = la
    · -- the case's literal holds under `v`
      have := holds_of_accepts hak (hla ▸ hs)
      simp [evalRule, holds, this, hla]
    · -- it fails, and the rest of the list decides
      have hm' : la' ∈ l₁ ++ l₂ := (List.mem_cons.1 (List.perm_middle.mem_iff.1 hm)).resolve_left hla
      have hfalse : holds ⟨x, ng⟩ v = false := by
        show (v x != ng) = false
        rw [holds_of_accepts (hoth la' hm') hs, Bool.not_not, bne_self_eq_false]
      simp only [evalRule, hfalse]
      exact ih la' (hperm.mem_iff.mpr hm') hs

theorem Decides.exclusive {las : List Alt} {r : Rule} (h : Decides las r) : las.Pairwise Excl := by
  induction h with
  | one la => exact List.pairwise_singleton ..
  | pick hak hoth hperm _ ih =>
    exact (List.perm_middle.pairwise_iff Excl.symm).2
      (List.pairwise_cons.2 ⟨fun b hb => excl_of_sep hak (hoth b hb), (hperm.pairwise_iff Excl.symm).1 ih⟩)

end TmVerif.Lookahead
