import TmVerif.Model.LexSpec
import TmVerif.Proofs.Regex
/-!
C09: the derivative matcher of `Model/LexSpec.lean` against the denotation `Lang` of C10
(`Model/Regex.lean`) with no named patterns (`noExt`).
-/
namespace TmVerif.LexSpec
open TmVerif.Charset TmVerif.Regex

abbrev L (r : Regex) (w : List Int) : Prop := Lang noExt r w

theorem L_eps (w : List Int) : L .eps w ↔ w = [] := Iff.rfl
theorem L_cc (c : Charset) (w : List Int) : L (.cc c) w ↔ ∃ s, w = [s] ∧ Mem s c := Iff.rfl
theorem L_cat (a b : Regex) (w : List Int) : L (.cat a b) w ↔ ∃ u v, w = u ++ v ∧ L a u ∧ L b v := Iff.rfl
theorem L_alt (a b : Regex) (w : List Int) : L (.alt a b) w ↔ L a w ∨ L b w := Iff.rfl
theorem L_rep (r : Regex) (mn : Nat) (mx : Option Nat) (w : List Int) :
    L (.rep r mn mx) w ↔ ∃ k, mn ≤ k ∧ (∀ m, mx = some m → k ≤ m) ∧ Pow (L r) k w := Iff.rfl
theorem L_ext (n : List Nat) (w : List Int) : L (.ext n) w ↔ False := Iff.rfl
theorem L_empty (w : List Int) : L empty w ↔ False :=
  ⟨fun ⟨s, _, h⟩ => mem_nil s h, False.elim⟩

theorem isEmptyCC_eq {r : Regex} (h : isEmptyCC r = true) : r = empty := by
  unfold isEmptyCC at h
  split at h
  · rfl
  · cases h

theorem isEps_eq {r : Regex} (h : isEps r = true) : r = .eps := by
  unfold isEps at h
  split at h
  · rfl
  · cases h

theorem L_altOf (l : List Regex) (w : List Int) : L (altOf l) w ↔ ∃ r ∈ l, L r w := by
  fun_induction altOf l
  case case1 => simp [L_empty]
  case case2 => simp
  case case3 ih => rw [L_alt, ih]; simp

theorem L_altList (a : Regex) (w : List Int) : (∃ r ∈ altList a, L r w) ↔ L a w := by
  fun_induction altList a
  case case1 iha ihb => simp only [List.mem_append, or_and_right, exists_or, iha, ihb, L_alt]
  case case2 => simp

theorem mem_insertU (x r : Regex) (l : List Regex) : r ∈ insertU x l ↔ r = x ∨ r ∈ l := by
  fun_induction insertU x l
  -- the rows of `insertU`: `[]`, `.lt`, `.gt`, `.eq` with `x == y`, `.eq` without
  case case1 | case2 => simp
  case case3 ih | case5 ih => simp only [List.mem_cons, ih, or_left_comm]
  case case4 heq =>
    cases (by simpa using heq : x = _)
    simp

theorem mem_unionList (r : Regex) (l : List Regex) :
    r ∈ unionList l ↔ r ∈ l ∧ isEmptyCC r = false := by
  have hfold : ∀ l : List Regex, r ∈ l.foldr insertU [] ↔ r ∈ l := by
    intro l
    induction l with
    | nil => simp
    | cons x xs ih => simp [List.foldr, mem_insertU, ih]
  unfold unionList
  rw [hfold]
  simp [List.mem_filter]

theorem L_union (a b : Regex) (w : List Int) : L (union a b) w ↔ L a w ∨ L b w := by
  have hdrop : (∃ r ∈ unionList (altList a ++ altList b), L r w) ↔ ∃ r ∈ altList a ++ altList b, L r w := by
    refine ⟨fun ⟨r, hr, h⟩ => ⟨r, ((mem_unionList r _).1 hr).1, h⟩, fun ⟨r, hr, h⟩ => ?_⟩
    refine ⟨r, (mem_unionList r _).2 ⟨hr, ?_⟩, h⟩
    -- an `∅` member has no words
    cases he : isEmptyCC r with
    | false => rfl
    | true => rw [isEmptyCC_eq he, L_empty] at h; exact h.elim
  unfold union
  rw [L_altOf, hdrop, ← L_altList a, ← L_altList b]
  simp only [List.mem_append, or_and_right, exists_or]

theorem L_seqR (b a : Regex) (w : List Int) : L (seqR b a) w ↔ L (.cat a b) w := by
  fun_induction seqR b a generalizing w
  case case1 => exact (lang_cat_eps_left noExt b w).symm
  case case2 a1 a2 ih2 => exact (lang_cat_congr (fun _ => Iff.rfl) ih2 w).trans (lang_cat_assoc noExt a1 a2 b w).symm
  case case3 c hc =>
    cases (by simpa using hc : c = [])
    simp [L_cat, L_empty, show Regex.cc [] = empty from rfl]
  case case5 ihx ihy => simp only [L_union, ihx, ihy, L_cat, L_alt, or_and_right, and_or_left, exists_or]
  -- a non-empty class, `rep`, `ext`
  all_goals exact Iff.rfl

theorem L_seq (a b : Regex) (w : List Int) : L (seq a b) w ↔ ∃ u v, w = u ++ v ∧ L a u ∧ L b v := by
  fun_cases seq a b
  case case1 hb => simp [isEmptyCC_eq hb, L_empty]
  case case2 hb => simp [isEps_eq hb, L_eps]
  case case3 => rw [L_seqR]; exact Iff.rfl

theorem pow_zero (P : List Int → Prop) (w : List Int) : Pow P 0 w ↔ w = [] := Iff.rfl

theorem pow_succ (P : List Int → Prop) (k : Nat) (w : List Int) :
    Pow P (k + 1) w ↔ ∃ u v, w = u ++ v ∧ P u ∧ Pow P k v := Iff.rfl

theorem pow_mono_succ {P : List Int → Prop} (h0 : P []) (k : Nat) (w : List Int) (h : Pow P k w) :
    Pow P (k + 1) w := ⟨[], w, rfl, h0, h⟩

theorem pow_nil_iff (P : List Int → Prop) (k : Nat) : Pow P k [] ↔ k = 0 ∨ P [] := by
  induction k with
  | zero => simp [Regex.Pow]
  | succ k ih =>
    simp only [pow_succ, List.nil_eq_append_iff, Nat.add_eq_zero_iff, Nat.succ_ne_self, and_false, false_or]
    constructor
    · rintro ⟨u, v, ⟨rfl, rfl⟩, hu, _⟩; exact hu
    · intro h; exact ⟨[], [], ⟨rfl, rfl⟩, h, ih.2 (Or.inr h)⟩

theorem cons_split {s : Int} {w : List Int} {P Q : List Int → Prop} :
    (∃ u v, s :: w = u ++ v ∧ P u ∧ Q v) ↔ (P [] ∧ Q (s :: w)) ∨ ∃ u v, w = u ++ v ∧ P (s :: u) ∧ Q v := by
  constructor
  · rintro ⟨u, v, e, hu, hv⟩
    cases u with
    | nil => exact Or.inl ⟨hu, e ▸ hv⟩
    | cons s' u =>
      obtain ⟨rfl, rfl⟩ := List.cons.inj e
      exact Or.inr ⟨u, v, rfl, hu, hv⟩
  · rintro (⟨h1, h2⟩ | ⟨u, v, e, h1, h2⟩)
    · exact ⟨[], s :: w, rfl, h1, h2⟩
    · exact ⟨s :: u, v, by rw [e]; rfl, h1, h2⟩

theorem cons_split_ne {s : Int} {w : List Int} {P Q : List Int → Prop} :
    (∃ u v, s :: w = u ++ v ∧ (P u ∧ u ≠ []) ∧ Q v) ↔ ∃ u v, w = u ++ v ∧ P (s :: u) ∧ Q v := by
  simp [cons_split]

/-- the first non-empty factor of a non-empty word of `P^k` -/
theorem pow_cons {P : List Int → Prop} (k : Nat) (s : Int) (w : List Int) (h : Pow P k (s :: w)) :
    ∃ j u v, k = j + 1 ∧ w = u ++ v ∧ P (s :: u) ∧ Pow P j v := by
  induction k with
  | zero => cases h
  | succ k ih =>
    rcases cons_split.1 h with ⟨h0, hk⟩ | ⟨u, v, e, hu, hv⟩
    · obtain ⟨j, u, v, hk, e, h1, h2⟩ := ih hk
      exact ⟨j + 1, u, v, by omega, e, h1, pow_mono_succ h0 j v h2⟩
    · exact ⟨k, u, v, rfl, e, hu, hv⟩

theorem pow_exists_iff (P : List Int → Prop) (k : Nat) : (∃ w, Pow P k w) ↔ k = 0 ∨ ∃ u, P u := by
  induction k with
  | zero => exact ⟨fun _ => Or.inl rfl, fun _ => ⟨[], rfl⟩⟩
  | succ k ih =>
    simp only [Nat.succ_ne_zero, false_or]
    refine ⟨fun ⟨_, u, _, _, hu, _⟩ => ⟨u, hu⟩, fun ⟨u, hu⟩ => ?_⟩
    obtain ⟨w, hw⟩ := ih.2 (Or.inr ⟨u, hu⟩)
    exact ⟨u ++ w, u, w, rfl, hu, hw⟩

/-- The counts that `rep _ mn mx` admits, when a count is good iff it is `0` or `C` holds: `0` or `mn` will do. -/
theorem rep_count_iff (mn : Nat) (mx : Option Nat) (C : Prop) :
    (∃ k, mn ≤ k ∧ (∀ m, mx = some m → k ≤ m) ∧ (k = 0 ∨ C)) ↔
      (∀ m, mx = some m → mn ≤ m) ∧ (mn = 0 ∨ C) := by
  constructor
  · rintro ⟨k, h1, h2, h3⟩
    exact ⟨fun m hm => Nat.le_trans h1 (h2 m hm), h3.imp (fun h => by omega) id⟩
  · rintro ⟨hb, h | h⟩
    · exact ⟨0, by omega, fun m _ => Nat.zero_le _, Or.inl rfl⟩
    · exact ⟨mn, Nat.le_refl _, hb, Or.inr h⟩

theorem L_rep_zero (r : Regex) (mn : Nat) (w : List Int) : L (.rep r mn (some 0)) w ↔ mn = 0 ∧ w = [] :=
  lang_rep_zero noExt r mn w

theorem L_repS (r : Regex) (mn : Nat) (mx : Option Nat) (w : List Int) :
    L (repS r mn mx) w ↔ L (.rep r mn mx) w := by
  -- `mx = some 0` with `mn = 0`, with `mn ≠ 0`; any other `mx`
  fun_cases repS r mn mx
  case case1 h => simp [L_rep_zero, L_eps, h]
  case case2 h => simp [L_rep_zero, L_empty, h]
  case case3 => exact Iff.rfl

theorem bound_pred {mx : Option Nat} (h : mx ≠ some 0) (k : Nat) :
    (∀ m, mx.map (· - 1) = some m → k ≤ m) ↔ ∀ m, mx = some m → k + 1 ≤ m := by
  cases mx with
  | none => simp
  | some m =>
    have : m ≠ 0 := fun e => h (by rw [e])
    simp
    omega

theorem L_rep_cons (r : Regex) (mn : Nat) {mx : Option Nat} (hmx : mx ≠ some 0) (s : Int) (w : List Int) :
    L (.rep r mn mx) (s :: w) ↔
      ∃ u v, w = u ++ v ∧ L r (s :: u) ∧ L (.rep r (mn - 1) (mx.map (· - 1))) v := by
  simp only [L_rep, bound_pred hmx]
  constructor
  · rintro ⟨k, h1, h2, h3⟩
    obtain ⟨j, u, v, rfl, e, hu, hv⟩ := pow_cons k s w h3
    exact ⟨u, v, e, hu, j, by omega, h2, hv⟩
  · rintro ⟨u, v, e, hu, j, h1, h2, hv⟩
    exact ⟨j + 1, by omega, h2, s :: u, v, by rw [e]; rfl, hu, hv⟩

theorem nullable_iff (r : Regex) : nullable r = true ↔ L r [] := by
  induction r with
  | eps => simp [nullable, L_eps]
  | cc c => simp [nullable, L_cc]
  | cat a b iha ihb =>
    simp only [nullable, Bool.and_eq_true, iha, ihb, L_cat, List.nil_eq_append_iff]
    exact ⟨fun ⟨h1, h2⟩ => ⟨[], [], ⟨rfl, rfl⟩, h1, h2⟩, fun ⟨u, v, ⟨hu, hv⟩, h1, h2⟩ => by subst hu hv; exact ⟨h1, h2⟩⟩
  | alt a b iha ihb => simp only [nullable, Bool.or_eq_true, iha, ihb, L_alt]
  | rep r mn mx ih =>
    simp only [nullable, Bool.and_eq_true, Bool.or_eq_true, decide_eq_true_eq, ih, L_rep, pow_nil_iff,
      rep_count_iff]
    cases mx with
    | none => simp
    | some m => simp
  | ext n => simp [nullable, L_ext]

theorem L_cons_cat (a b : Regex) (s : Int) (w : List Int) :
    L (.cat a b) (s :: w) ↔ (L a [] ∧ L b (s :: w)) ∨ ∃ u v, w = u ++ v ∧ L a (s :: u) ∧ L b v :=
  cons_split

theorem deriv_correct (s : Int) (r : Regex) (w : List Int) : L (deriv s r) w ↔ L r (s :: w) := by
  induction r generalizing w with
  | eps => simp [deriv, L_eps, L_empty]
  | cc c =>
    simp only [deriv, L_cc, List.cons.injEq]
    split
    · rename_i hm
      rw [L_eps]
      exact ⟨fun e => ⟨s, ⟨rfl, e⟩, (memB_iff s c).1 hm⟩, fun ⟨_, ⟨_, e⟩, _⟩ => e⟩
    · rename_i hm
      simp only [L_empty, false_iff]
      rintro ⟨s', ⟨rfl, _⟩, h⟩
      exact hm ((memB_iff _ _).2 h)
  | cat a b iha ihb =>
    rw [L_cons_cat]
    simp only [deriv]
    split
    · rename_i hn
      simp only [L_union, L_seq, iha, ihb, (nullable_iff a).1 hn, true_and, or_comm]
    · rename_i hn
      simp only [L_seq, iha, mt (nullable_iff a).2 hn, false_and, false_or]
  | alt a b iha ihb => simp only [deriv, L_union, iha, ihb, L_alt]
  | rep r mn mx ih =>
    simp only [deriv]
    split
    · simp [L_empty, L_rep_zero]
    · rename_i hmx
      simp only [L_seq, ih, L_repS, L_rep_cons r mn (fun h => hmx h)]
  | ext n => simp [deriv, L_empty, L_ext]

theorem derivs_correct (r : Regex) (u w : List Int) : L (derivs r u) w ↔ L r (u ++ w) := by
  induction u generalizing r with
  | nil => exact Iff.rfl
  | cons s u ih =>
    show L (derivs (deriv s r) u) w ↔ _
    rw [ih, deriv_correct]
    rfl

theorem matchesB_iff (r : Regex) (w : List Int) : matchesB r w = true ↔ L r w := by
  unfold matchesB
  rw [nullable_iff, derivs_correct, List.append_nil]

theorem L_cat_ne_nil (a b : Regex) (w : List Int) :
    L (.cat a b) w ∧ w ≠ [] ↔
      (∃ u v, w = u ++ v ∧ (L a u ∧ u ≠ []) ∧ L b v) ∨ (L a [] ∧ L b w ∧ w ≠ []) := by
  cases w with
  | nil => simp
  | cons s w => simp only [L_cons_cat, cons_split_ne, ne_eq, reduceCtorEq, not_false_eq_true, and_true, or_comm]

theorem L_rep_first (r hr : Regex) (hhr : ∀ w, L hr w ↔ L r w ∧ w ≠ []) (mn : Nat) (mx : Option Nat)
    (hmx : mx ≠ some 0) (w : List Int) :
    L (seq hr (repS r (mn - 1) (mx.map (· - 1)))) w ↔ L (.rep r mn mx) w ∧ w ≠ [] := by
  cases w with
  | nil => simp [L_seq, hhr]
  | cons s w => simp only [L_seq, hhr, L_repS, cons_split_ne, L_rep_cons r mn hmx, ne_eq, reduceCtorEq,
      not_false_eq_true, and_true]

theorem L_headsRep (r hr : Regex) (nr : Bool) (hhr : ∀ w, L hr w ↔ L r w ∧ w ≠ [])
    (hnr : nr = true → L r []) :
    ∀ (fuel mn : Nat) (mx : Option Nat) (w : List Int),
      L (headsRep hr nr r fuel mn mx) w ↔ L (.rep r mn mx) w ∧ w ≠ [] := by
  have hzero : ∀ (mn : Nat) (w : List Int), L empty w ↔ L (.rep r mn (some 0)) w ∧ w ≠ [] := by
    intro mn w
    simp only [L_empty, L_rep_zero, false_iff]
    exact fun h => h.2 h.1.2
  intro fuel
  induction fuel with
  | zero =>
    intro mn mx w
    simp only [headsRep]
    split
    · exact hzero mn w
    · rename_i hmx
      exact L_rep_first r hr hhr mn mx (fun h => hmx h) w
  | succ fuel ih =>
    intro mn mx w
    simp only [headsRep]
    split
    · exact hzero mn w
    · rename_i hmx
      have hmx' : mx ≠ some 0 := fun h => hmx h
      split
      · rename_i hcond
        simp only [Bool.and_eq_true] at hcond
        rw [L_union, ih, L_rep_first r hr hhr mn mx hmx' w, or_iff_left_iff_imp]
        -- `r` matches the empty word: a word of `r{mn-1,mx-1}` is one of `r{mn,mx}`
        rintro ⟨⟨k, h1, h2, h3⟩, hne⟩
        exact ⟨⟨k + 1, by omega, (bound_pred hmx' k).1 h2, pow_mono_succ (hnr hcond.1) _ _ h3⟩, hne⟩
      · exact L_rep_first r hr hhr mn mx hmx' w

theorem L_heads (r : Regex) (w : List Int) : L (heads r) w ↔ L r w ∧ w ≠ [] := by
  induction r generalizing w with
  | eps => simp [heads, L_eps, L_empty]
  | cc c =>
    simp only [heads, L_cc, iff_self_and]
    rintro ⟨s, e, _⟩
    rw [e]
    exact List.cons_ne_nil _ _
  | cat a b iha ihb =>
    simp only [heads]
    split
    · rename_i hn
      simp only [L_union, L_seq, iha, ihb, L_cat_ne_nil, (nullable_iff a).1 hn, true_and]
    · rename_i hn
      simp only [L_seq, iha, L_cat_ne_nil, mt (nullable_iff a).2 hn, false_and, or_false]
  | alt a b iha ihb => simp only [heads, L_union, iha, ihb, L_alt, or_and_right]
  | rep r mn mx ih =>
    simp only [heads]
    exact L_headsRep r (heads r) (nullable r) ih (nullable_iff r).1 _ mn mx w
  | ext n => simp [heads, L_empty, L_ext]

theorem L_norm (r : Regex) (w : List Int) : L (norm r) w ↔ L r w := by
  unfold norm
  split
  · rename_i hn
    rw [L_union, L_heads, L_eps]
    by_cases hw : w = []
    · simp [hw, (nullable_iff r).1 hn]
    · simp [hw]
  · rename_i hn
    rw [L_heads, and_iff_left_iff_imp]
    rintro h rfl
    exact hn ((nullable_iff r).2 h)

/-- The normalised derivative by a word (what `scanSpec` and the validator iterate). -/
def derivsN (r : Regex) (w : List Int) : Regex := w.foldl (fun r s => norm (deriv s r)) r

theorem derivsN_correct (r : Regex) (u w : List Int) : L (derivsN r u) w ↔ L r (u ++ w) := by
  induction u generalizing r with
  | nil => exact Iff.rfl
  | cons s u ih =>
    show L (derivsN (norm (deriv s r)) u) w ↔ _
    rw [ih, L_norm, deriv_correct]
    rfl

theorem emptyB_false_iff (r : Regex) : emptyB r = false ↔ ∃ w, L r w := by
  induction r with
  | eps => simp only [emptyB, true_iff]; exact ⟨[], rfl⟩
  | cc c =>
    simp only [emptyB, Bool.not_eq_false', List.any_eq_true, decide_eq_true_eq]
    constructor
    · rintro ⟨p, hp, hle⟩
      exact ⟨[p.1], p.1, rfl, p, hp, Int.le_refl _, hle⟩
    · rintro ⟨w, s, _, p, hp, h1, h2⟩
      exact ⟨p, hp, by omega⟩
  | cat a b iha ihb =>
    simp only [emptyB, Bool.or_eq_false_iff, iha, ihb]
    exact ⟨fun ⟨⟨u, hu⟩, ⟨v, hv⟩⟩ => ⟨u ++ v, u, v, rfl, hu, hv⟩, fun ⟨w, u, v, _, hu, hv⟩ => ⟨⟨u, hu⟩, ⟨v, hv⟩⟩⟩
  | alt a b iha ihb => simp only [emptyB, Bool.and_eq_false_iff, iha, ihb, L_alt, exists_or]
  | rep r mn mx ih =>
    simp only [L_rep]
    rw [exists_comm]
    simp only [emptyB, Bool.or_eq_false_iff, Bool.and_eq_false_iff, decide_eq_false_iff_not, ih,
      exists_and_left, pow_exists_iff, rep_count_iff]
    cases mx with
    | none => simp
    | some m => simp
  | ext n => simp [emptyB, L_ext]

theorem emptyB_iff (r : Regex) : emptyB r = true ↔ ∀ w, ¬ L r w := by
  rw [← Bool.not_eq_false, emptyB_false_iff, not_exists]

end TmVerif.LexSpec
