import TmVerif.Model.LS
/-!
C23 — lemmas about the position functions of the language server model (`Model/LS.lean`), up to
`resolvePosition` started at the position of a rune boundary.
-/
namespace TmVerif.LS

def NoNL (s : Bytes) : Prop := ∀ x ∈ s, x ≠ 10

/-- What a row of the table says about the byte that selects it. -/
def Lead.Row (b : Nat) : Lead → Prop
  | .ascii => b < 0x80
  | .invalid => 0x80 ≤ b
  | .multi n lo _ => 0x80 ≤ b ∧ 1 ≤ n ∧ 0x80 ≤ lo

theorem lead_row (b : Nat) : (lead b).Row b := by
  by_cases h : b < 0x80
  · rw [lead, if_pos h]; exact h
  · have h' : 0x80 ≤ b := Nat.le_of_not_lt h
    -- below the first row every entry is `.invalid` or `.multi n lo _` with constant `n`, `lo`
    fun_cases lead b
    case case1 h0 => exact absurd h0 h
    all_goals first | exact h' | exact ⟨h', by decide, by decide⟩

theorem decodeRune_ascii {b : Nat} (t : Bytes) (h : b < 0x80) : decodeRune (b :: t) = (b, 1) := by
  simp only [decodeRune, lead, if_pos h]

theorem contBytes_take (n : Nat) : ∀ (lo hi : Nat) (t : Bytes) (j : Nat),
    contBytes n lo hi (t.take j) = if n ≤ j then contBytes n lo hi t else none := by
  induction n with
  | zero => intro lo hi t j; simp [contBytes]
  | succ n ih =>
    intro lo hi t j
    cases t with
    | nil => simp [contBytes]
    | cons b t =>
      cases j with
      | zero => simp [contBytes]
      | succ j =>
        simp only [List.take_succ_cons, contBytes, ih, Nat.add_le_add_iff_right]
        by_cases hn : n ≤ j
        · simp only [if_pos hn]
        · simp only [if_neg hn, ite_self]

theorem contBytes_some (n lo hi : Nat) (t : Bytes) : 0x80 ≤ lo → ∀ v,
    contBytes n lo hi t = some v → n ≤ t.length ∧ ∀ x ∈ t.take n, 0x80 ≤ x := by
  -- case1: `n = 0`; case3: `b` in range and the tail decodes; the others return `none`
  fun_induction contBytes n lo hi t with
  | case1 => exact fun _ _ _ => ⟨Nat.zero_le _, nofun⟩
  | case3 n lo hi b t hb w hc ih =>
    intro hlo _ _
    obtain ⟨hl, hge⟩ := ih (Nat.le_refl _) w hc
    exact ⟨Nat.succ_le_succ hl, List.forall_mem_cons.2 ⟨Nat.le_trans hlo hb.1, hge⟩⟩
  | case2 | case4 | case5 => exact fun _ _ => nofun

theorem decodeRune_cons (b : Nat) (t : Bytes) :
    decodeRune (b :: t) = (if b < 0x80 then b else runeError, 1) ∨
    2 ≤ (decodeRune (b :: t)).2 ∧ (decodeRune (b :: t)).2 ≤ t.length + 1 ∧
      ∀ x ∈ (b :: t).take (decodeRune (b :: t)).2, 0x80 ≤ x := by
  have hr := lead_row b
  simp only [decodeRune]
  generalize lead b = l at hr ⊢
  cases l with
  | ascii => exact Or.inl (by rw [if_pos (show b < 0x80 from hr)])
  | invalid => exact Or.inl (by rw [if_neg (Nat.not_lt.2 hr)])
  | multi n lo hi =>
    obtain ⟨hb, hn, hlo⟩ := hr
    simp only
    cases hc : contBytes n lo hi t with
    | none => exact Or.inl (by rw [if_neg (Nat.not_lt.2 hb)])
    | some v =>
      obtain ⟨hl, hge⟩ := contBytes_some n lo hi t hlo v hc
      exact Or.inr ⟨Nat.succ_le_succ hn, Nat.succ_le_succ hl, List.forall_mem_cons.2 ⟨hb, hge⟩⟩

theorem decodeRune_take (s : Bytes) (k : Nat) (hk : (decodeRune s).2 ≤ k) :
    decodeRune (s.take k) = decodeRune s := by
  cases s with
  | nil => simp
  | cons b t =>
    have := decodeRune_width_pos b t
    obtain ⟨j, rfl⟩ : ∃ j, k = j + 1 := ⟨k - 1, by omega⟩
    simp only [List.take_succ_cons, decodeRune] at hk ⊢
    revert hk
    cases lead b with
    | ascii => intro _; rfl
    | invalid => intro _; rfl
    | multi n lo hi =>
      simp only [contBytes_take]
      intro hk
      by_cases hn : n ≤ j
      · rw [if_pos hn]
      · -- the prefix is too short for `n` continuation bytes, and so (by `hk`) is the whole input
        rw [if_neg hn]
        cases hc : contBytes n lo hi t with
        | none => rfl
        | some v => rw [hc] at hk; exact absurd (Nat.le_of_succ_le_succ hk) hn

theorem decodeRune_width_le (s : Bytes) : (decodeRune s).2 ≤ s.length := by
  cases s with
  | nil => exact Nat.le_refl 0
  | cons b t =>
    rcases decodeRune_cons b t with h | ⟨_, h, _⟩
    · rw [h]; exact Nat.succ_le_succ (Nat.zero_le _)
    · exact h

theorem decodeRune_width_zero (s : Bytes) : (decodeRune s).2 = 0 ↔ s = [] := by
  cases s with
  | nil => simp [decodeRune]
  | cons b t =>
    have := decodeRune_width_pos b t
    constructor
    · intro h; omega
    · intro h; exact nomatch h

theorem decodeRune_width_pos_of_ne_nil {s : Bytes} (h : s ≠ []) : 0 < (decodeRune s).2 :=
  Nat.pos_of_ne_zero fun h0 => h ((decodeRune_width_zero s).1 h0)

/-- a byte `'\n'` in front decodes to itself, and continuation bytes are at least 0x80 -/
theorem decodeRune_no_nl (s : Bytes) (h : (decodeRune s).1 ≠ 10) : NoNL (s.take (decodeRune s).2) := by
  cases s with
  | nil => exact fun x hx => nomatch hx
  | cons b t =>
    intro x hx
    rcases decodeRune_cons b t with hd | ⟨_, _, hge⟩
    · rw [hd] at hx
      rw [List.mem_singleton.1 hx]
      exact fun hb => h (by rw [hb, decodeRune_ascii t (by decide)])
    · have := hge x hx
      omega

theorem units_of_le {r : Nat} (h : r ≤ 0xffff) : units r = 1 :=
  if_neg (Nat.not_lt.2 h)

/-- two units at most, and a single byte decodes to a rune below 0x10000 -/
theorem units_le_width (b : Nat) (t : Bytes) :
    units (decodeRune (b :: t)).1 ≤ (decodeRune (b :: t)).2 := by
  rcases decodeRune_cons b t with h | ⟨h, _, _⟩
  · rw [h, units_of_le (by unfold runeError; split <;> omega)]
    exact Nat.le_refl 1
  · have : units (decodeRune (b :: t)).1 ≤ 2 := by unfold units; split <;> omega
    exact Nat.le_trans this h

theorem utf16Len_nil : utf16Len [] = 0 := by
  rw [utf16Len]

theorem utf16Len_cons (b : Nat) (t : Bytes) :
    utf16Len (b :: t) = units (decodeRune (b :: t)).1 + utf16Len ((b :: t).drop (decodeRune (b :: t)).2) := by
  rw [utf16Len]

theorem utf16Len_le_length (s : Bytes) : utf16Len s ≤ s.length := by
  fun_induction utf16Len s with
  | case1 => exact Nat.le_refl 0
  | case2 b t rw ih =>
    have h1 : units rw.1 ≤ rw.2 := units_le_width b t
    have h2 : rw.2 ≤ (b :: t).length := decodeRune_width_le (b :: t)
    rw [List.length_drop] at ih
    omega

theorem utf16Len_ascii (s : Bytes) (h : ∀ x ∈ s, x < 0x80) : utf16Len s = s.length := by
  induction s with
  | nil => exact utf16Len_nil
  | cons b t ih =>
    have hb : b < 0x80 := h b (by simp)
    have hu : units b = 1 := units_of_le (Nat.le_of_lt (Nat.lt_trans hb (by decide)))
    rw [utf16Len_cons, decodeRune_ascii t hb, hu, List.drop_succ_cons, List.drop_zero,
      ih (fun x hx => h x (by simp [hx])), List.length_cons, Nat.add_comm]

def nlCount : Bytes → Nat
  | [] => 0
  | b :: t => (if b = 10 then 1 else 0) + nlCount t

def AtLineStart (pre : Bytes) : Prop := pre = [] ∨ pre.getLast? = some 10

theorem nlCount_append (a b : Bytes) : nlCount (a ++ b) = nlCount a + nlCount b := by
  induction a with
  | nil => simp [nlCount]
  | cons x a ih => simp only [List.cons_append, nlCount, ih, Nat.add_assoc]

theorem nlCount_le_length (s : Bytes) : nlCount s ≤ s.length := by
  induction s with
  | nil => exact Nat.le_refl 0
  | cons b t ih => simp only [nlCount, List.length_cons]; split <;> omega

theorem AtLineStart_cons {b : Nat} {pre : Bytes} (h : AtLineStart pre) (hb : pre = [] → b = 10) :
    AtLineStart (b :: pre) := by
  cases pre with
  | nil => rw [hb rfl]; exact Or.inr rfl
  | cons c t =>
    rcases h with h | h
    · exact nomatch h
    · exact Or.inr (by rw [List.getLast?_cons_cons]; exact h)

theorem lineWalk_nil (l ret : Nat) : lineWalk (l + 1) [] ret = none := by
  simp [lineWalk, indexNL]

theorem lineWalk_cons (l : Nat) (b : Nat) (t : Bytes) (ret : Nat) :
    lineWalk (l + 1) (b :: t) ret = lineWalk (if b = 10 then l else l + 1) t (ret + 1) := by
  by_cases hb : b = 10
  · simp [lineWalk, indexNL, hb]
  · cases h : indexNL t with
    | none => simp [lineWalk, indexNL, hb, h]
    | some nl =>
      simp only [lineWalk, indexNL, hb, h, if_false, List.drop_succ_cons]
      have : ret + (nl + 1) + 1 = ret + 1 + nl + 1 := by omega
      rw [this]

theorem lineWalk_append_nl (p : Bytes) : ∀ (c : Bytes) (ret : Nat),
    lineWalk (nlCount p + 1) (p ++ 10 :: c) ret = some (ret + p.length + 1, c) := by
  induction p with
  | nil => intro c ret; exact lineWalk_cons 0 10 c ret
  | cons b t ih =>
    intro c ret
    have e : ret + 1 + t.length + 1 = ret + (b :: t).length + 1 :=
      congrArg (· + 1) (Nat.add_right_comm ret 1 t.length)
    have : (if b = 10 then nlCount (b :: t) else nlCount (b :: t) + 1) = nlCount t + 1 := by
      simp only [nlCount]
      split
      · exact Nat.add_comm 1 _
      · rw [Nat.zero_add]
    rw [List.cons_append, lineWalk_cons, this, ih, e]

theorem lineWalk_pre (pre : Bytes) (c : Bytes) (ret : Nat) (h : AtLineStart pre) :
    lineWalk (nlCount pre) (pre ++ c) ret = some (ret + pre.length, c) := by
  rcases h with rfl | h
  · rfl
  · obtain ⟨p, rfl⟩ := List.getLast?_eq_some_iff.1 h
    rw [nlCount_append, List.append_assoc, List.length_append, ← Nat.add_assoc]
    exact lineWalk_append_nl p c ret

theorem lineWalk_inv (c : Bytes) : ∀ (l ret ret' : Nat) (rest : Bytes),
    lineWalk l c ret = some (ret', rest) →
    ∃ pre, c = pre ++ rest ∧ ret' = ret + pre.length ∧ nlCount pre = l ∧ AtLineStart pre := by
  induction c with
  | nil =>
    intro l ret ret' rest h
    cases l with
    | zero => cases h; exact ⟨[], rfl, rfl, rfl, Or.inl rfl⟩
    | succ l => rw [lineWalk_nil] at h; exact nomatch h
  | cons b t ih =>
    intro l ret ret' rest h
    cases l with
    | zero => cases h; exact ⟨[], rfl, rfl, rfl, Or.inl rfl⟩
    | succ l =>
      rw [lineWalk_cons] at h
      obtain ⟨pre, rfl, rfl, h3, h4⟩ := ih _ _ _ _ h
      -- an empty `pre` has no newline: then `l + 1` has not been counted down, so `b` is one
      refine ⟨b :: pre, rfl, by rw [List.length_cons]; omega, ?_, AtLineStart_cons h4 fun hp => ?_⟩
      · simp only [nlCount, h3]; split <;> omega
      · rw [hp] at h3; split at h3
        · assumption
        · exact nomatch h3

theorem lineWalk_none_iff (c : Bytes) : ∀ (l ret : Nat), lineWalk l c ret = none ↔ nlCount c < l := by
  induction c with
  | nil =>
    intro l ret
    cases l with
    | zero => simp [lineWalk, nlCount]
    | succ l => simp [lineWalk_nil, nlCount]
  | cons b t ih =>
    intro l ret
    cases l with
    | zero => simp [lineWalk]
    | succ l =>
      rw [lineWalk_cons, ih]
      simp only [nlCount]
      split <;> omega

/-- `Bnd rest k u`: the first `k` bytes of `rest` are whole runes (decoded in the context of `rest`), none of
them `'\n'`, together `u` UTF-16 code units. -/
inductive Bnd : Bytes → Nat → Nat → Prop
  | zero (rest : Bytes) : Bnd rest 0 0
  | step (rest : Bytes) (k u : Nat) : rest ≠ [] → (decodeRune rest).1 ≠ 10 →
      Bnd (rest.drop (decodeRune rest).2) k u →
      Bnd rest ((decodeRune rest).2 + k) (units (decodeRune rest).1 + u)

theorem walkCols_zero (rest : Bytes) (ret : Nat) : walkCols 0 rest ret = .ok ret := by
  rw [walkCols.eq_def]

theorem units_pos (r : Nat) : 1 ≤ units r := by
  unfold units; split <;> omega

/-- one column left in front of a pair is the only way for a rune not to fit -/
theorem walkCols_step (col : Nat) (rest : Bytes) (ret : Nat) :
    walkCols (col + 1) rest ret =
      if (decodeRune rest).1 = 10 ∨ (decodeRune rest).2 = 0 then .error .badCol
      else if units (decodeRune rest).1 ≤ col + 1 then
        walkCols (col + 1 - units (decodeRune rest).1) (rest.drop (decodeRune rest).2) (ret + (decodeRune rest).2)
      else .error .midPair := by
  rw [walkCols.eq_def]
  by_cases hr : (decodeRune rest).1 > 0xffff
  · cases col <;> simp [units, hr]
  · simp [units, hr]

theorem walkCols_rune {rest : Bytes} (hne : rest ≠ []) (hnl : (decodeRune rest).1 ≠ 10) (m ret : Nat) :
    walkCols (units (decodeRune rest).1 + m) rest ret =
      walkCols m (rest.drop (decodeRune rest).2) (ret + (decodeRune rest).2) := by
  have hgo : ¬ ((decodeRune rest).1 = 10 ∨ (decodeRune rest).2 = 0) :=
    fun h => h.elim hnl (Nat.ne_of_gt (decodeRune_width_pos_of_ne_nil hne))
  have e : units (decodeRune rest).1 + m = units (decodeRune rest).1 + m - 1 + 1 := by
    have := units_pos (decodeRune rest).1; omega
  rw [e, walkCols_step, ← e, if_neg hgo, if_pos (Nat.le_add_right _ _), Nat.add_sub_cancel_left]

theorem walkCols_Bnd_add {rest : Bytes} {k u : Nat} (h : Bnd rest k u) :
    ∀ m ret, walkCols (u + m) rest ret = walkCols m (rest.drop k) (ret + k) := by
  induction h with
  | zero rest => intro m ret; rw [Nat.zero_add, List.drop_zero, Nat.add_zero]
  | step rest k u hne hnl _ ih =>
    intro m ret
    rw [Nat.add_assoc, walkCols_rune hne hnl, ih, List.drop_drop, Nat.add_assoc]

theorem Bnd_of_walkCols (col : Nat) : ∀ (rest : Bytes) (ret x : Nat),
    walkCols col rest ret = .ok x → ∃ k, x = ret + k ∧ Bnd rest k col := by
  induction col using Nat.strongRecOn with
  | _ col ih =>
    intro rest ret x h
    cases col with
    | zero =>
      rw [walkCols_zero] at h
      cases h
      exact ⟨0, rfl, .zero rest⟩
    | succ col =>
      rw [walkCols_step] at h
      split at h
      · exact nomatch h
      · rename_i hc
        split at h
        · rename_i hu
          have := units_pos (decodeRune rest).1
          obtain ⟨k, rfl, hb⟩ := ih _ (by omega) _ _ _ h
          have hne : rest ≠ [] := fun e => hc (Or.inr ((decodeRune_width_zero rest).2 e))
          have hs := Bnd.step rest k _ hne (fun e => hc (Or.inl e)) hb
          rw [Nat.add_sub_cancel' hu] at hs
          exact ⟨_, Nat.add_assoc _ _ _, hs⟩
        · exact nomatch h

theorem walkCols_ne_noLine (col : Nat) (rest : Bytes) (ret : Nat) : walkCols col rest ret ≠ .error .noLine := by
  fun_induction walkCols col rest ret
  case case4 ih | case5 ih => exact ih -- the two recursive calls
  all_goals exact fun h => nomatch h

theorem Bnd_le_length {rest : Bytes} {k u : Nat} (h : Bnd rest k u) : k ≤ rest.length := by
  induction h with
  | zero rest => omega
  | step rest k u _ _ _ ih =>
    have := decodeRune_width_le rest
    simp only [List.length_drop] at ih
    omega

theorem Bnd_take {rest : Bytes} {k u : Nat} (h : Bnd rest k u) : ∀ m, k ≤ m → Bnd (rest.take m) k u := by
  induction h with
  | zero rest => intro m _; exact .zero _
  | step rest k u hne hnl hb ih =>
    intro m hm
    have hpos := decodeRune_width_pos_of_ne_nil hne
    have hd : decodeRune (rest.take m) = decodeRune rest := decodeRune_take rest m (by omega)
    have hne' : rest.take m ≠ [] := fun e => by
      rcases List.take_eq_nil_iff.1 e with h0 | h0
      · omega
      · exact hne h0
    have := Bnd.step (rest.take m) k u hne' (by rw [hd]; exact hnl)
      (by rw [hd, List.drop_take]; exact ih _ (by omega))
    rwa [hd] at this

theorem utf16Len_Bnd {rest : Bytes} {k u : Nat} (h : Bnd rest k u) :
    utf16Len rest = u + utf16Len (rest.drop k) := by
  induction h with
  | zero rest => simp
  | step rest k u hne _ _ ih =>
    obtain ⟨b, t, rfl⟩ := List.exists_cons_of_ne_nil hne
    rw [utf16Len_cons, ih, List.drop_drop]
    omega

theorem Bnd_no_nl {rest : Bytes} {k u : Nat} (h : Bnd rest k u) : NoNL (rest.take k) := by
  induction h with
  | zero rest => intro x hx; simp at hx
  | step rest k u _ hnl _ ih =>
    intro x hx
    rw [List.take_add] at hx
    simp only [List.mem_append] at hx
    rcases hx with hx | hx
    · exact decodeRune_no_nl rest hnl x hx
    · exact ih x hx

theorem Bnd_mono {rest : Bytes} {k u : Nat} (h : Bnd rest k u) :
    ∀ {k' u' : Nat}, Bnd rest k' u' → k ≤ k' → u ≤ u' := by
  induction h with
  | zero rest => intros; omega
  | step rest k u hne hnl hb ih =>
    intro k' u' h' hk
    cases h' with
    | zero => have := decodeRune_width_pos_of_ne_nil hne; omega
    | step _ k2 u2 _ _ hb2 => have := ih hb2 (by omega); omega

theorem lineColFrom_zero (line col : Nat) (c : Bytes) : lineColFrom line col c 0 = (line, col) := by
  cases c <;> rfl

theorem lineColFrom_append_nl (p : Bytes) : ∀ (line col : Nat) (x : Bytes),
    lineColFrom line col (p ++ 10 :: x) (p.length + 1) = (line + nlCount p + 1, 0) := by
  induction p with
  | nil => intro line col x; rfl
  | cons b t ih =>
    intro line col x
    rw [List.cons_append, List.length_cons, lineColFrom]
    by_cases hb : b = 10
    · rw [if_pos hb, ih]; simp only [nlCount, if_pos hb]; congr 1; omega
    · rw [if_neg hb, ih]; simp only [nlCount, if_neg hb, Nat.zero_add]

theorem lineColFrom_noNL (c : Bytes) : ∀ (line col n : Nat), n ≤ c.length → NoNL (c.take n) →
    lineColFrom line col c n = (line, col + n) := by
  induction c with
  | nil => intro line col n hn _; rw [Nat.le_zero.1 hn]; rfl
  | cons b t ih =>
    intro line col n hn h
    cases n with
    | zero => rfl
    | succ n =>
      have hb : b ≠ 10 := h b (by simp)
      rw [lineColFrom, if_neg hb, ih line (col + 1) n (Nat.le_of_succ_le_succ hn)
        (fun x hx => h x (by simp [hx])), Nat.add_assoc, Nat.add_comm 1 n]

theorem lineColFrom_comp (off : Nat) : ∀ (c : Bytes) (line col n : Nat),
    lineColFrom line col c (off + n) =
      lineColFrom (lineColFrom line col c off).1 (lineColFrom line col c off).2 (c.drop off) n := by
  induction off with
  | zero => intro c line col n; rw [Nat.zero_add, lineColFrom_zero, List.drop_zero]
  | succ off ih =>
    intro c line col n
    rw [Nat.add_right_comm off 1 n]
    cases c with
    | nil => cases n <;> rfl
    | cons b t =>
      rw [lineColFrom, lineColFrom, List.drop_succ_cons]
      by_cases hb : b = 10
      · rw [if_pos hb, if_pos hb]; exact ih t _ _ n
      · rw [if_neg hb, if_neg hb]; exact ih t _ _ n

theorem lineColFrom_add (off : Nat) (c : Bytes) (line col n : Nat) (hn : off + n ≤ c.length)
    (h : NoNL ((c.drop off).take n)) :
    lineColFrom line col c (off + n) = ((lineColFrom line col c off).1, (lineColFrom line col c off).2 + n) := by
  rw [lineColFrom_comp, lineColFrom_noNL _ _ _ n (by rw [List.length_drop]; exact Nat.le_sub_of_add_le' hn) h]

theorem lineColFrom_le (c : Bytes) : ∀ (line col off : Nat),
    (lineColFrom line col c off).1 ≤ line + nlCount c ∧ (lineColFrom line col c off).2 ≤ col + off := by
  induction c with
  | nil => intro line col off; cases off <;> exact ⟨Nat.le_add_right _ _, Nat.le_add_right _ _⟩
  | cons b t ih =>
    intro line col off
    cases off with
    | zero => exact ⟨Nat.le_add_right _ _, Nat.le_add_right _ _⟩
    | succ off =>
      rw [lineColFrom]
      by_cases hb : b = 10
      · have := ih (line + 1) 0 off
        rw [if_pos hb]; simp only [nlCount, if_pos hb]; omega
      · have := ih line (col + 1) off
        rw [if_neg hb]; simp only [nlCount, if_neg hb]; omega

theorem lineCol_decomp (pre seg post : Bytes) (hp : AtLineStart pre) (hs : NoNL seg) :
    lineCol (pre ++ seg ++ post) (pre.length + seg.length) = (nlCount pre, seg.length) := by
  have h0 : lineColFrom 0 0 (pre ++ (seg ++ post)) pre.length = (nlCount pre, 0) := by
    rcases hp with rfl | hp
    · exact lineColFrom_zero 0 0 _
    · obtain ⟨p, rfl⟩ := List.getLast?_eq_some_iff.1 hp
      rw [List.append_assoc, List.length_append, nlCount_append]
      exact (lineColFrom_append_nl p 0 0 _).trans (by rw [Nat.zero_add]; rfl)
  unfold lineCol
  rw [List.append_assoc, lineColFrom_add _ _ 0 0 _ (by simp only [List.length_append]; omega)
    (by rw [List.drop_left, List.take_left]; exact hs), h0, Nat.zero_add]

theorem slice_decomp (pre seg post : Bytes) :
    slice (pre ++ seg ++ post) pre.length (pre.length + seg.length) = seg := by
  unfold slice
  rw [List.append_assoc, List.drop_left, Nat.add_sub_cancel_left, List.take_left]

theorem drop_decomp (pre seg post : Bytes) : (pre ++ seg ++ post).drop (pre.length + seg.length) = post := by
  rw [← List.length_append, List.drop_left]

theorem utf16Pos_decomp (pre seg post : Bytes) (hp : AtLineStart pre) (hs : NoNL seg) :
    utf16Pos (pre ++ seg ++ post) (pre.length + seg.length) = (nlCount pre, utf16Len seg) := by
  unfold utf16Pos
  rw [lineCol_decomp pre seg post hp hs]
  simp only
  rw [Nat.add_sub_cancel, slice_decomp]

/-- `off` is a rune boundary of `c`: the content splits into `pre` (empty or ending with a newline), a run
`seg` of whole runes none of which is a newline (decoded in the context of what follows), and the rest. -/
def RuneBoundary (c : Bytes) (off : Nat) : Prop :=
  ∃ pre seg post u, c = pre ++ seg ++ post ∧ off = pre.length + seg.length ∧ AtLineStart pre ∧
    Bnd (seg ++ post) seg.length u

theorem Bnd_seg_noNL {seg post : Bytes} {u : Nat} (h : Bnd (seg ++ post) seg.length u) : NoNL seg := by
  have := Bnd_no_nl h
  rwa [List.take_left] at this

theorem Bnd_seg_units {seg post : Bytes} {u : Nat} (h : Bnd (seg ++ post) seg.length u) :
    utf16Len seg = u := by
  have := utf16Len_Bnd (Bnd_take h _ (Nat.le_refl _))
  rwa [List.take_left, List.drop_length, utf16Len_nil] at this

theorem runeBoundary_of_Bnd {pre rest : Bytes} {k u : Nat} (hp : AtLineStart pre) (hb : Bnd rest k u) :
    RuneBoundary (pre ++ rest) (pre.length + k) ∧
    utf16Pos (pre ++ rest) (pre.length + k) = (nlCount pre, u) := by
  obtain ⟨seg, post, rfl, rfl⟩ : ∃ seg post, rest = seg ++ post ∧ k = seg.length :=
    ⟨rest.take k, rest.drop k, (List.take_append_drop k rest).symm,
      (List.length_take_of_le (Bnd_le_length hb)).symm⟩
  rw [← List.append_assoc]
  exact ⟨⟨pre, seg, post, u, rfl, rfl, hp, hb⟩,
    by rw [utf16Pos_decomp pre seg post hp (Bnd_seg_noNL hb), Bnd_seg_units hb]⟩

theorem resolvePosition_boundary {c : Bytes} {off : Nat} (h : RuneBoundary c off) (m : Nat) :
    resolvePosition c (utf16Pos c off).1 ((utf16Pos c off).2 + m) = walkCols m (c.drop off) off := by
  obtain ⟨pre, seg, post, u, rfl, rfl, hp, hb⟩ := h
  rw [utf16Pos_decomp pre seg post hp (Bnd_seg_noNL hb), drop_decomp]
  simp only [resolvePosition]
  rw [List.append_assoc, lineWalk_pre pre (seg ++ post) 0 hp]
  simp only
  rw [Bnd_seg_units hb, walkCols_Bnd_add hb m, List.drop_left, Nat.zero_add]

end TmVerif.LS
