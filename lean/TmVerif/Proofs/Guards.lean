/-
Soundness of the guard decision procedure of Model/Guards.lean (C17), and a second, syntactic test with its
soundness: `includes u d` (some disjunct of `d` has all its conjuncts among those of `u`) is evaluated by the kernel
in `C17_guards_consistent_partial` before the search is tried. It is not part of the driver.
-/
import TmVerif.Model.GuardPairs
namespace TmVerif.Guards
open TmVerif.Facts

theorem isTT_eq {f : GF} (h : isTT f = true) : f = .tt := by
  cases f <;> simp [isTT] at h ⊢

theorem isFF_eq {f : GF} (h : isFF f = true) : f = .not .tt := by
  cases f with
  | not g => cases g <;> simp [isFF] at h ⊢
  | _ => simp [isFF] at h

@[simp] theorem isTT_tt : isTT GF.tt = true := rfl
@[simp] theorem isFF_tt : isFF GF.tt = false := rfl
@[simp] theorem isTT_nott : isTT (GF.not GF.tt) = false := rfl
@[simp] theorem isFF_nott : isFF (GF.not GF.tt) = true := rfl

theorem eval_ff (v : Nat → Bool) : eval v GF.ff = false := rfl

theorem eval_isTT (v : Nat → Bool) {f : GF} (h : isTT f = true) : eval v f = true := by
  rw [isTT_eq h]; rfl

theorem eval_isFF (v : Nat → Bool) {f : GF} (h : isFF f = true) : eval v f = false := by
  rw [isFF_eq h]; rfl

theorem eval_sNot (v : Nat → Bool) (f : GF) : eval v (sNot f) = !eval v f := by
  fun_cases sNot f
  case case1 h => rw [eval_isTT v h]; rfl
  case case2 _ h => rw [eval_isFF v h]; rfl
  case case3 => rfl

theorem eval_sAnd (v : Nat → Bool) (f g : GF) : eval v (sAnd f g) = (eval v f && eval v g) := by
  fun_cases sAnd f g
  case case1 h =>
    rcases Bool.or_eq_true _ _ ▸ h with h | h
    · rw [eval_isFF v h]; rfl
    · rw [eval_isFF v h, Bool.and_false]; rfl
  case case2 _ hf => rw [eval_isTT v hf, Bool.true_and]
  case case3 _ _ hg => rw [eval_isTT v hg, Bool.and_true]
  case case4 => rfl

theorem eval_sOr (v : Nat → Bool) (f g : GF) : eval v (sOr f g) = (eval v f || eval v g) := by
  fun_cases sOr f g
  case case1 h =>
    rcases Bool.or_eq_true _ _ ▸ h with h | h
    · rw [eval_isTT v h]; rfl
    · rw [eval_isTT v h, Bool.or_true]; rfl
  case case2 _ hf => rw [eval_isFF v hf, Bool.false_or]
  case case3 _ _ hg => rw [eval_isFF v hg, Bool.or_false]
  case case4 => rfl

theorem assign_eval (v : Nat → Bool) (a : Nat) (f : GF) : eval v (assign a (v a) f) = eval v f := by
  induction f with
  | tt => rfl
  | atom n =>
    simp only [assign]
    split
    · rename_i e
      rw [eval, eq_of_beq e]
      cases v a <;> rfl
    · rfl
  | not f ih => simp [assign, eval_sNot, eval, ih]
  | and f g ihf ihg => simp [assign, eval_sAnd, eval, ihf, ihg]
  | or f g ihf ihg => simp [assign, eval_sOr, eval, ihf, ihg]

theorem simplify_eval (v : Nat → Bool) (f : GF) : eval v (simplify f) = eval v f := by
  induction f with
  | tt => simp [simplify]
  | atom n => simp [simplify]
  | not f ih => simp [simplify, eval_sNot, eval, ih]
  | and f g ihf ihg => simp [simplify, eval_sAnd, eval, ihf, ihg]
  | or f g ihf ihg => simp [simplify, eval_sOr, eval, ihf, ihg]

theorem eval_conjuncts (v : Nat → Bool) : ∀ f : GF, eval v f = true ↔ ∀ g ∈ conjuncts f, eval v g = true
  | .tt => ⟨fun _ _ hg => (nomatch hg), fun _ => rfl⟩
  | .atom _ | .not _ | .or _ _ => (List.forall_mem_singleton (p := (eval v · = true))).symm
  | .and f g => by
    rw [eval, Bool.and_eq_true, eval_conjuncts v f, eval_conjuncts v g, conjuncts, List.forall_mem_append]

/-! Most uses of a template-declared identifier sit under (at least) the guards of one of its declaration sites; for
those `use → def` holds whatever the atoms mean, and no search is needed. -/

def disjuncts : GF → List GF
  | .or f g => disjuncts f ++ disjuncts g
  | f => [f]

def includes (u d : GF) : Bool :=
  (disjuncts d).any fun dj => (conjuncts dj).all fun c => (conjuncts u).contains c

theorem eval_of_disjuncts (v : Nat → Bool) : ∀ d : GF, ∀ g ∈ disjuncts d, eval v g = true → eval v d = true
  | .tt, _, hg, h | .atom _, _, hg, h | .not _, _, hg, h | .and _ _, _, hg, h => List.mem_singleton.mp hg ▸ h
  | .or f g, k, hk, h => by
    rw [eval, Bool.or_eq_true]
    exact (List.mem_append.mp hk).imp (eval_of_disjuncts v f k · h) (eval_of_disjuncts v g k · h)

theorem includes_sound {u d : GF} (h : includes u d = true) (v : Nat → Bool) (hu : eval v u = true) :
    eval v d = true := by
  obtain ⟨dj, hdj, hall⟩ := List.any_eq_true.mp h
  refine eval_of_disjuncts v d dj hdj ((eval_conjuncts v dj).2 fun c hc => ?_)
  exact (eval_conjuncts v u).1 hu c (List.contains_iff_mem.mp (List.all_eq_true.mp hall c hc))

theorem closed_sound {axs : List GF} {u d : GF} {v : Nat → Bool}
    (hc : closed axs u d = true) (hax : ∀ a ∈ axs, eval v a = true) (hu : eval v u = true) :
    eval v d = true := by
  simp only [closed, Bool.or_eq_true, List.any_eq_true] at hc
  rcases hc with (hc | hc) | ⟨a, ha, hc⟩
  · rw [eval_isFF v hc] at hu; cases hu
  · exact eval_isTT v hc
  · have := hax a ha
    rw [eval_isFF v hc] at this; cases this

theorem step_sound {axs : List GF} {v : Nat → Bool} (a : Nat)
    (hax : ∀ f ∈ axs, eval v f = true) : ∀ g ∈ step a (v a) axs, eval v g = true := by
  intro g hg
  simp only [step, List.mem_flatMap] at hg
  obtain ⟨f, hf, hgf⟩ := hg
  exact (eval_conjuncts v _).1 (by rw [assign_eval v a]; exact hax f hf) g hgf

theorem search_sound (k : Nat) (axs : List GF) (u d : GF) (hs : search k axs u d = true)
    (v : Nat → Bool) (hax : ∀ a ∈ axs, eval v a = true) (hu : eval v u = true) : eval v d = true := by
  induction k generalizing axs u d with
  | zero => exact closed_sound (by simpa [search] using hs) hax hu
  | succ k ih =>
    simp only [search, Bool.or_eq_true] at hs
    rcases hs with hc | hs
    · exact closed_sound hc hax hu
    · cases hp : pick axs u d with
      | none => simp [hp] at hs
      | some a =>
        simp only [hp, Bool.and_eq_true] at hs
        -- of the two branches, the one that fixes `a` at its value under `v`
        have hb : search k (step a (v a) axs) (assign a (v a) u) (assign a (v a) d) = true := by
          cases v a
          · exact hs.2
          · exact hs.1
        have := ih _ _ _ hb (step_sound a hax) (by rw [assign_eval v a]; exact hu)
        rwa [assign_eval v a] at this

theorem eval_formula (v : Nat → Bool) (a : Ax) :
    eval v a.formula = true ↔ (eval v a.hyp = true → eval v a.concl = true) := by
  simp only [Ax.formula, GF.imp, eval]
  cases eval v a.hyp <;> simp

theorem checkImp_sound (axs : List Ax) (u d : GF) (h : checkImp axs u d = true) :
    ∀ v : Nat → Bool, (∀ a ∈ axs, eval v a.hyp = true → eval v a.concl = true) →
      eval v u = true → eval v d = true := by
  intro v hax hu
  unfold checkImp at h
  have := search_sound _ _ _ _ h v ?_ (by rw [simplify_eval]; exact hu)
  · rwa [simplify_eval] at this
  · intro g hg
    simp only [List.mem_flatMap] at hg
    obtain ⟨a, ha, hga⟩ := hg
    refine (eval_conjuncts v _).1 ?_ g hga
    rw [simplify_eval]
    exact (eval_formula v a).2 (hax a ha)

theorem refutes_sound (axs : List Ax) (u d : GF) (t : List Nat) (h : refutes axs u d t = true) :
    ∃ v : Nat → Bool, (∀ a ∈ axs, eval v a.hyp = true → eval v a.concl = true) ∧ eval v u = true ∧ eval v d = false := by
  simp only [refutes, Bool.and_eq_true, List.all_eq_true, Bool.not_eq_true'] at h
  obtain ⟨⟨h1, h2⟩, h3⟩ := h
  exact ⟨valOf t, fun a ha => (eval_formula _ a).1 (h1 a ha), h2, h3⟩

theorem eval_disj (v : Nat → Bool) (l : List GF) (h : eval v (disj l) = true) : ∃ f ∈ l, eval v f = true := by
  -- no formula, one, or a first one and others
  fun_induction disj l with
  | case1 => cases h
  | case2 f => exact ⟨f, List.mem_singleton_self f, h⟩
  | case3 f rest _ ih =>
    rw [eval, Bool.or_eq_true] at h
    rcases h with h | h
    · exact ⟨f, List.mem_cons_self, h⟩
    · obtain ⟨k, hk, hv⟩ := ih h
      exact ⟨k, List.mem_cons_of_mem _ hk, hv⟩

theorem useIs_name {u : TmplUse} {n f t : Nat} (h : useIs u n f t = true) : u.name = n := by
  simp only [useIs, Bool.and_eq_true, beq_iff_eq] at h
  exact h.1.1

theorem noDupGo_sublist {g h : GF} : ∀ {l : List GF}, noDupGo l = true → List.Sublist [g, h] l →
    checkImp axioms (.and g h) GF.ff = true
  | [], _, hs => nomatch hs
  | x :: rest, hgo, hs => by
    simp only [noDupGo, Bool.and_eq_true, List.all_eq_true] at hgo
    cases hs with
    | cons _ hs' => exact noDupGo_sublist hgo.2 hs'
    | cons_cons _ hs' => exact hgo.1 h (hs'.subset (List.mem_singleton_self h))

end TmVerif.Guards

