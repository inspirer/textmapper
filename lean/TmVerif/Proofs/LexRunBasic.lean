import TmVerif.Model.LexRun
/-!
Basic facts about the model of the generated lexer (`Model/LexRun.lean`): the UTF-8 decoder, line
counting, and the position invariant `PInv` with what keeps it; `Frame` is what these leave
alone, `Booked` the newline bookkeeping they allow.
-/
namespace TmVerif.LexRun

/-- The rows of the lead-byte table (`first`/`acceptRanges` of `unicode/utf8`), read off for all 256 bytes:
a lead byte is invalid, or begins a character of `sz = 2, 3, 4` bytes whose first continuation byte is
taken from `[lo, hi]`; the last two lines bound the character by its row: with the `7 - sz` payload bits of
the lead byte, the least such byte keeps it at or above `0x80` (no multi-byte character is a newline) and the
greatest keeps it below `0x110000`. -/
theorem leadInfo_row : ∀ b0 < 256, (leadInfo b0).1 = 0 ∨
    (2 ≤ (leadInfo b0).1 ∧ (leadInfo b0).1 ≤ 4 ∧ 0x80 ≤ (leadInfo b0).2.1 ∧ (leadInfo b0).2.2 ≤ 0xBF ∧
      0x80 ≤ (b0 % 2 ^ (7 - (leadInfo b0).1) * 64 + (leadInfo b0).2.1 % 64) * 64 ^ ((leadInfo b0).1 - 2) ∧
      (b0 % 2 ^ (7 - (leadInfo b0).1) * 64 + (leadInfo b0).2.2 % 64 + 1) * 64 ^ ((leadInfo b0).1 - 2) ≤ 0x110000) := by
  decide +kernel

/-- The continuation bytes of a multi-byte character after the first one: `n` bytes in `[0x80, 0xBF]`,
each shifting six bits into `acc`; `none` when one is missing or out of range. `decodeRune` spells
this loop out for `n = 0, 1, 2`, starting from the payload bits of the lead byte (5, 4 or 3 of them
for a character of `sz = 2, 3, 4` bytes: `b0 % 2 ^ (7 - sz)`) and the first continuation byte. -/
def readCont : Nat → Nat → List UInt8 → Option Nat
  | 0, acc, _ => some acc
  | _ + 1, _, [] => none
  | n + 1, acc, b :: rest => if !isCont b.toNat then none else readCont n (acc * 64 + b.toNat % 64) rest

theorem decodeRune_cont {b0 b1 : UInt8} {r2 : List UInt8} {sz lo hi : Nat} (h0 : ¬ b0.toNat < 0x80)
    (hrow : leadInfo b0.toNat = (sz, lo, hi)) (hsz : sz = 2 ∨ sz = 3 ∨ sz = 4)
    (hb1 : ¬ (b1.toNat < lo ∨ hi < b1.toNat)) :
    decodeRune (b0 :: b1 :: r2) =
      match readCont (sz - 2) (b0.toNat % 2 ^ (7 - sz) * 64 + b1.toNat % 64) r2 with
      | none => (runeError, 1)
      | some v => ((v : Int), sz) := by
  simp only [decodeRune, h0, if_false, hrow, hb1]
  -- with `sz` and the shape of `r2` known both sides compute, up to `(x * 64 + y) * 64 = x * 4096 + y * 64`
  rcases hsz with rfl | rfl | rfl
  · rfl
  · match r2 with
    | [] => rfl
    | b2 :: r3 =>
      simp only [readCont, Nat.reduceSub]
      cases isCont b2.toNat
      · rfl
      · simp only [Bool.not_true, Bool.false_eq_true, ↓reduceIte, Nat.add_mul, Nat.mul_assoc, Nat.reduceMul]
        rfl
  · match r2 with
    | [] => rfl
    | [b2] =>
      simp only [readCont, Nat.reduceSub]
      cases isCont b2.toNat <;> rfl
    | b2 :: b3 :: r4 =>
      simp only [readCont, Nat.reduceSub]
      cases isCont b2.toNat
      · rfl
      · cases isCont b3.toNat
        · rfl
        · simp only [Bool.not_true, Bool.false_eq_true, ↓reduceIte, Nat.add_mul, Nat.mul_assoc, Nat.reduceMul]
          rfl

theorem decodeRune_ascii {b0 : UInt8} (rest : List UInt8) (h0 : b0.toNat < 0x80) :
    decodeRune (b0 :: rest) = ((b0.toNat : Int), 1) := by
  simp only [decodeRune, h0, if_true]

theorem decodeRune_err {b0 : UInt8} {rest : List UInt8} {sz lo hi : Nat} (h0 : ¬ b0.toNat < 0x80)
    (hrow : leadInfo b0.toNat = (sz, lo, hi))
    (h : sz = 0 ∨ rest = [] ∨ ∃ b1 r2, rest = b1 :: r2 ∧ (b1.toNat < lo ∨ hi < b1.toNat)) :
    decodeRune (b0 :: rest) = (runeError, 1) := by
  rcases h with rfl | rfl | ⟨b1, r2, rfl, hb1⟩
  · simp only [decodeRune, h0, if_false, hrow, if_true]
  · simp only [decodeRune, h0, if_false, hrow, ite_self]
  · simp only [decodeRune, h0, if_false, hrow, hb1, if_true, ite_self]

theorem readCont_take : ∀ (n acc : Nat) (rest : List UInt8) (k : Nat),
    readCont n acc (rest.take k) = if n ≤ k then readCont n acc rest else none
  | 0, _, _, _ => by simp only [readCont, Nat.zero_le, if_true]
  | n + 1, _, [], _ => by simp only [List.take_nil, readCont, ite_self]
  | n + 1, _, _ :: _, 0 => by rw [List.take_zero, if_neg (Nat.not_succ_le_zero n)]; rfl
  | n + 1, acc, b :: rest, k + 1 => by
    simp only [List.take_succ_cons, readCont, readCont_take n _ rest k, Nat.add_le_add_iff_right]
    split <;> simp only [ite_self]

theorem readCont_some {n acc : Nat} {rest : List UInt8} {v : Nat} (h : readCont n acc rest = some v) :
    n ≤ rest.length ∧ (∀ x ∈ rest.take n, 0x80 ≤ x.toNat) ∧ acc * 64 ^ n ≤ v ∧ v < (acc + 1) * 64 ^ n := by
  fun_induction readCont n acc rest
  case case1 =>
    cases h
    simp only [Nat.zero_le, List.take_zero, List.not_mem_nil, false_imp_iff, implies_true, Nat.pow_zero, Nat.mul_one,
      Nat.le_refl, Nat.lt_add_one, and_self]
  case case2 | case3 => exact nomatch h
  case case4 n acc b rest hc ih =>
    obtain ⟨h1, h2, h3, h4⟩ := ih h
    have hb : 0x80 ≤ b.toNat := by
      simp only [isCont, Bool.not_eq_true', decide_eq_false_iff_not, Classical.not_not] at hc; exact hc.1
    -- `64 ^ (n + 1) = 64 * 64 ^ n`, and `acc * 64 ≤ acc * 64 + b % 64 < (acc + 1) * 64`
    rw [Nat.pow_succ', ← Nat.mul_assoc, ← Nat.mul_assoc]
    refine ⟨Nat.succ_le_succ h1, ?_, Nat.le_trans (Nat.mul_le_mul_right _ (Nat.le_add_right _ _)) h3,
      Nat.lt_of_lt_of_le h4 (Nat.mul_le_mul_right _ (by omega))⟩
    intro x hx
    rw [List.take_succ_cons, List.mem_cons] at hx
    rcases hx with rfl | hx
    · exact hb
    · exact h2 x hx

theorem decodeRune_multi (b0 : UInt8) (rest : List UInt8) (h : 0x80 ≤ b0.toNat) :
    ∃ r w, decodeRune (b0 :: rest) = (r, w) ∧ 1 ≤ w ∧ w ≤ rest.length + 1 ∧ 0x80 ≤ r ∧ r < 0x110000 ∧
      ∀ x ∈ (b0 :: rest).take w, 0x80 ≤ x.toNat := by
  have h0 : ¬ b0.toNat < 0x80 := by omega
  -- `RuneError` of width 1 fits the description as well
  suffices hs : decodeRune (b0 :: rest) = (runeError, 1) ∨ _ from
    hs.elim (fun e => ⟨runeError, 1, e, Nat.le_refl 1, Nat.le_add_left 1 _, by decide, by decide, fun x hx => by
      rw [List.take_succ_cons, List.take_zero, List.mem_singleton] at hx; rw [hx]; exact h⟩) id
  have hr := leadInfo_row _ b0.toNat_lt
  rcases hrow : leadInfo b0.toNat with ⟨sz, lo, hi⟩
  simp only [hrow] at hr
  rcases hr with hz | ⟨hsz2, hsz4, hlo, hhi, hmin, hmax⟩
  · exact Or.inl (decodeRune_err h0 hrow (Or.inl hz))
  match rest with
  | [] => exact Or.inl (decodeRune_err h0 hrow (Or.inr (Or.inl rfl)))
  | b1 :: r2 =>
    by_cases hb1 : b1.toNat < lo ∨ hi < b1.toNat
    · exact Or.inl (decodeRune_err h0 hrow (Or.inr (Or.inr ⟨b1, r2, rfl, hb1⟩)))
    have hcont := decodeRune_cont (r2 := r2) h0 hrow (by omega) hb1
    cases hv : readCont (sz - 2) (b0.toNat % 2 ^ (7 - sz) * 64 + b1.toNat % 64) r2 with
    | none => rw [hv] at hcont; exact Or.inl hcont
    | some v =>
      rw [hv] at hcont
      obtain ⟨h1, h2, h3, h4⟩ := readCont_some hv
      -- the six bits of `b1` lie between those of `lo` and `hi`, so `v` lies between the bounds of the row
      have hc : lo % 64 ≤ b1.toNat % 64 ∧ b1.toNat % 64 ≤ hi % 64 := by omega
      have hge := Nat.le_trans hmin (Nat.le_trans (Nat.mul_le_mul_right _ (Nat.add_le_add_left hc.1 _)) h3)
      have hlt := Nat.lt_of_lt_of_le h4
        (Nat.le_trans (Nat.mul_le_mul_right _ (Nat.succ_le_succ (Nat.add_le_add_left hc.2 _))) hmax)
      clear hmin hmax h3 h4 hc
      refine Or.inr ⟨v, sz, hcont, by omega, by simp only [List.length_cons]; omega, by omega, by omega, ?_⟩
      intro x hx
      obtain ⟨n, rfl⟩ : ∃ n, sz = n + 2 := ⟨sz - 2, by omega⟩
      simp only [List.take_succ_cons, List.mem_cons] at hx
      rcases hx with rfl | rfl | hx
      · exact h
      · omega
      · exact h2 x hx

theorem countNL_single (b : UInt8) : countNL [b] = if (b.toNat : Int) = 10 then 1 else 0 := by
  have e : (b.toNat : Int) = 10 ↔ b = 10 := by
    rw [← UInt8.toNat_inj]
    exact Int.ofNat_inj
  simp only [countNL, List.count_singleton, beq_iff_eq, e]

theorem countNL_eq_zero {l : List UInt8} : countNL l = 0 ↔ (10 : UInt8) ∉ l := List.count_eq_zero

theorem countNL_high (l : List UInt8) (h : ∀ x ∈ l, 0x80 ≤ x.toNat) : countNL l = 0 := by
  rw [countNL_eq_zero]
  intro hm
  have := h 10 hm
  simp at this

theorem readChar_cons (sb : Bool) (b : UInt8) (rest : List UInt8) :
    readChar sb (b :: rest) =
      if sb = false ∧ 0x80 ≤ b.toNat then decodeRune (b :: rest) else ((b.toNat : Int), 1) := by
  cases sb
  · simp only [readChar, Bool.false_eq_true, if_false, true_and, ge_iff_le]
  · simp only [readChar, if_true, Bool.true_eq_false, false_and, if_false]

theorem readChar_spec (sb : Bool) (b : UInt8) (rest : List UInt8) :
    1 ≤ (readChar sb (b :: rest)).2 ∧ (readChar sb (b :: rest)).2 ≤ rest.length + 1 ∧
    0 ≤ (readChar sb (b :: rest)).1 ∧
    countNL ((b :: rest).take (readChar sb (b :: rest)).2) =
      (if (readChar sb (b :: rest)).1 = 10 then 1 else 0) ∧
    ((readChar sb (b :: rest)).1 = 10 → (readChar sb (b :: rest)).2 = 1) := by
  rw [readChar_cons]
  split
  · rename_i h
    obtain ⟨r, w, he, h2, h3, h4, -, h5⟩ := decodeRune_multi b rest h.2
    rw [he]
    have : ¬ r = 10 := by omega
    refine ⟨h2, h3, by omega, ?_, fun h => absurd h this⟩
    rw [countNL_high _ h5, if_neg this]
  · simp only [List.take_succ_cons, List.take_zero]
    exact ⟨by omega, by omega, by omega, countNL_single b, fun _ => trivial⟩

theorem countNL_take_add (s : List UInt8) (a w : Nat) :
    countNL (s.take (a + w)) = countNL (s.take a) + countNL ((s.drop a).take w) := by
  unfold countNL
  rw [List.take_add, List.count_append]

theorem slice_eq (s : List UInt8) (a b : Nat) : slice s a b = (s.drop a).take (b - a) := rfl

theorem lineStartAux_append (xs ys : List UInt8) (pos acc : Nat) :
    lineStartAux (xs ++ ys) pos acc = lineStartAux ys (pos + xs.length) (lineStartAux xs pos acc) := by
  induction xs generalizing pos acc with
  | nil => simp [lineStartAux]
  | cons x xs ih =>
    simp only [List.cons_append, lineStartAux, List.length_cons]
    rw [ih]
    congr 1
    omega

theorem lineStartAux_noNL (ys : List UInt8) (pos acc : Nat) (h : countNL ys = 0) :
    lineStartAux ys pos acc = acc := by
  induction ys generalizing pos with
  | nil => rfl
  | cons y ys ih =>
    rw [countNL_eq_zero, List.mem_cons, not_or] at h
    rw [lineStartAux, if_neg (Ne.symm h.1)]
    exact ih _ (countNL_eq_zero.mpr h.2)

theorem lineStart_add (s : List UInt8) (a w : Nat) (ha : a ≤ s.length) :
    lineStart s (a + w) = lineStartAux ((s.drop a).take w) a (lineStart s a) := by
  unfold lineStart
  rw [List.take_add, lineStartAux_append]
  simp [List.length_take, Nat.min_eq_left ha]

theorem lineStart_spec (s : List UInt8) (off : Nat) (h : off ≤ s.length) :
    lineStart s off ≤ off ∧
    (lineStart s off = 0 ∨ s[lineStart s off - 1]? = some 10) ∧
    ∀ i, lineStart s off ≤ i → i < off → s[i]? ≠ some 10 := by
  induction off with
  | zero => exact ⟨Nat.le_refl 0, Or.inl rfl, fun i _ hi => absurd hi (Nat.not_lt_zero i)⟩
  | succ off ih =>
    obtain ⟨i1, i2, i3⟩ := ih (by omega)
    cases hd : s.drop off with
    | nil => exact absurd (List.drop_eq_nil_iff.mp hd) (by omega)
    | cons b rest =>
      have hb : s[off]? = some b := by rw [← Nat.add_zero off, ← List.getElem?_drop, hd]; rfl
      have hls : lineStart s (off + 1) = if b = 10 then off + 1 else lineStart s off := by
        rw [lineStart_add s off 1 (by omega), hd]; rfl
      rw [hls]
      by_cases hb10 : b = 10
      · rw [if_pos hb10]
        exact ⟨Nat.le_refl _, Or.inr (by rw [Nat.add_sub_cancel, hb, hb10]), fun i h1 h2 => by omega⟩
      · rw [if_neg hb10]
        refine ⟨by omega, i2, fun i h1 h2 => ?_⟩
        by_cases hi : i < off
        · exact i3 i h1 hi
        · rw [show i = off by omega, hb]
          exact fun e => hb10 (Option.some.inj e)

/-- The character at `off` and the offset after it (`(-1, off)` at the end of the input). -/
def peek (sb : Bool) (src : List UInt8) (off : Nat) : Int × Nat :=
  match src.drop off with
  | [] => (-1, off)
  | b :: rest => ((readChar sb (b :: rest)).1, off + (readChar sb (b :: rest)).2)

/-- `lineOffset` as the variant of the template maintains it. -/
def LineOffsetOk (v : Variant) (l : Lexer) : Prop :=
  if v.colFix then l.lineOffset = (lineStart l.source l.offset : Int)
  else l.lineOffset = (lineStart l.source l.offset : Int) ∨
       l.lineOffset + 1 = (lineStart l.source l.offset : Int)

/-- Position invariant of the lexer between any two steps: the look-ahead character `ch/scanOffset`
belongs to `offset`, `line` counts the newlines before `offset`, `lineOffset` is the line start. -/
structure PInv (o : Opts) (v : Variant) (l : Lexer) : Prop where
  le : l.offset ≤ l.source.length
  ch : l.ch = (peek o.scanBytes l.source l.offset).1
  so : l.scanOffset = (peek o.scanBytes l.source l.offset).2
  line : o.tokenLine = true → l.line = 1 + (countNL (l.source.take l.offset) : Int)
  lo : o.hasLineOffset = true → (o.tokenLine = true ∨ v.colFix = true) → LineOffsetOk v l

theorem lineOffsetOk_iff {v : Variant} {l : Lexer} : LineOffsetOk v l ↔
    l.lineOffset = (lineStart l.source l.offset : Int) ∨
      (v.colFix = false ∧ l.lineOffset + 1 = (lineStart l.source l.offset : Int)) := by
  unfold LineOffsetOk
  cases v.colFix
  · simp only [Bool.false_eq_true, if_false, true_and]
  · simp only [if_true, Bool.true_eq_false, false_and, or_false]

theorem LineOffsetOk.eq_of_colFix {v : Variant} {l : Lexer} (h : LineOffsetOk v l) (hc : v.colFix = true) :
    l.lineOffset = (lineStart l.source l.offset : Int) := by
  unfold LineOffsetOk at h
  rwa [if_pos hc] at h

theorem peek_eoi (sb : Bool) (src : List UInt8) (off : Nat) (h : src.length ≤ off) :
    peek sb src off = (-1, off) := by
  unfold peek
  rw [List.drop_eq_nil_of_le h]

/-- A character inside the text: the newline count and the line start move over its bytes as over
the single byte `'\n'`, or as over no newline. -/
theorem peek_lt (sb : Bool) (src : List UInt8) (off : Nat) (h : off < src.length) :
    0 ≤ (peek sb src off).1 ∧ off < (peek sb src off).2 ∧ (peek sb src off).2 ≤ src.length ∧
    countNL (src.take (peek sb src off).2) =
      countNL (src.take off) + (if (peek sb src off).1 = 10 then 1 else 0) ∧
    lineStart src (peek sb src off).2 = (if (peek sb src off).1 = 10 then off + 1 else lineStart src off) ∧
    ((peek sb src off).1 = 10 → (peek sb src off).2 = off + 1) := by
  unfold peek
  cases hd : src.drop off with
  | nil => exact absurd (List.drop_eq_nil_iff.mp hd) (by omega)
  | cons b rest =>
    simp only
    have hlen : rest.length + 1 = src.length - off := by rw [← List.length_drop, hd]; rfl
    obtain ⟨h1, h2, h3, h4, h5⟩ := readChar_spec sb b rest
    refine ⟨h3, by omega, by omega, ?_, ?_, fun h => by rw [h5 h]⟩
    · rw [countNL_take_add, hd, h4]
    · rw [lineStart_add src off _ (Nat.le_of_lt h), hd]
      by_cases hnl : (readChar sb (b :: rest)).1 = 10
      · rw [h5 hnl, List.take_succ_cons, List.take_zero, if_pos hnl] at h4
        have hb : 10 = b := List.mem_singleton.mp (List.count_pos_iff.mp (Nat.lt_of_lt_of_eq Nat.one_pos h4.symm))
        rw [if_pos hnl, h5 hnl, ← hb]
        rfl
      · rw [if_neg hnl] at h4 ⊢
        exact lineStartAux_noNL _ _ _ h4

theorem PInv.eoi_or_char {o : Opts} {v : Variant} {l : Lexer} (h : PInv o v l) :
    (l.offset = l.source.length ∧ l.ch = -1 ∧ l.scanOffset = l.offset) ∨
    (l.offset < l.source.length ∧ 0 ≤ l.ch ∧ l.offset < l.scanOffset ∧ l.scanOffset ≤ l.source.length) := by
  rw [h.ch, h.so]
  rcases Nat.lt_or_ge l.offset l.source.length with hlt | hge
  · have p := peek_lt o.scanBytes l.source l.offset hlt
    exact Or.inr ⟨hlt, p.1, p.2.1, p.2.2.1⟩
  · rw [peek_eoi _ _ _ hge]
    exact Or.inl ⟨Nat.le_antisymm h.le hge, rfl, rfl⟩

theorem PInv.ch_neg_iff {o : Opts} {v : Variant} {l : Lexer} (h : PInv o v l) :
    l.ch < 0 ↔ l.offset = l.source.length := by
  rcases h.eoi_or_char with ⟨e, c, -⟩ | ⟨lt, c, -⟩ <;> omega

theorem PInv.ch_eoi {o : Opts} {v : Variant} {l : Lexer} (h : PInv o v l) (hc : l.ch < 0) :
    l.ch = -1 ∧ l.scanOffset = l.offset := by
  rcases h.eoi_or_char with ⟨-, c, s⟩ | ⟨-, c, -⟩
  · exact ⟨c, s⟩
  · omega

theorem PInv.ch_nonneg {o : Opts} {v : Variant} {l : Lexer} (h : PInv o v l) (hne : l.ch ≠ -1) : 0 ≤ l.ch :=
  Int.not_lt.mp fun hlt => hne (h.ch_eoi hlt).1

theorem PInv.scan_lt {o : Opts} {v : Variant} {l : Lexer} (h : PInv o v l) (hc : 0 ≤ l.ch) :
    l.offset < l.scanOffset ∧ l.scanOffset ≤ l.source.length := by
  rcases h.eoi_or_char with ⟨-, c, -⟩ | ⟨-, -, lt, le⟩
  · omega
  · exact ⟨lt, le⟩

theorem PInv.scan_le {o : Opts} {v : Variant} {l : Lexer} (h : PInv o v l) : l.scanOffset ≤ l.source.length := by
  by_cases hc : l.ch < 0
  · rw [(h.ch_eoi hc).2]; exact h.le
  · exact (h.scan_lt (by omega)).2

/-- What reading, `rewind` and the scanning loop leave alone: the text, the start condition and the
position of the token that was begun. -/
structure Frame (l l' : Lexer) : Prop where
  source : l'.source = l.source
  tokenOffset : l'.tokenOffset = l.tokenOffset
  state : l'.state = l.state
  tokenLine : l'.tokenLine = l.tokenLine
  tokenColumn : l'.tokenColumn = l.tokenColumn

theorem Frame.trans {a b c : Lexer} (h1 : Frame a b) (h2 : Frame b c) : Frame a c :=
  ⟨h2.source.trans h1.source, h2.tokenOffset.trans h1.tokenOffset, h2.state.trans h1.state,
   h2.tokenLine.trans h1.tokenLine, h2.tokenColumn.trans h1.tokenColumn⟩

theorem readCh_spec (o : Opts) (l : Lexer) (hs : l.scanOffset = l.offset) :
    (readCh o l).ch = (peek o.scanBytes l.source l.offset).1 ∧
    (readCh o l).scanOffset = (peek o.scanBytes l.source l.offset).2 ∧
    (readCh o l).offset = l.offset ∧ (readCh o l).line = l.line ∧
    (readCh o l).lineOffset = l.lineOffset ∧ Frame l (readCh o l) := by
  unfold readCh peek
  cases hd : l.source.drop l.offset with
  | nil => exact ⟨rfl, hs, rfl, rfl, rfl, rfl, rfl, rfl, rfl, rfl⟩
  | cons b rest => exact ⟨rfl, by rw [hs], rfl, rfl, rfl, rfl, rfl, rfl, rfl, rfl⟩

theorem readCh_pinv (o : Opts) (v : Variant) {l₀ : Lexer} (l : Lexer) (fr : Frame l₀ l)
    (hs : l.scanOffset = l.offset) (hle : l.offset ≤ l.source.length)
    (hline : o.tokenLine = true → l.line = 1 + (countNL (l.source.take l.offset) : Int))
    (hlo : o.hasLineOffset = true → (o.tokenLine = true ∨ v.colFix = true) → LineOffsetOk v l) :
    PInv o v (readCh o l) ∧ (readCh o l).offset = l.offset ∧ Frame l₀ (readCh o l) := by
  obtain ⟨h1, h2, h4, h6, h8, fr'⟩ := readCh_spec o l hs
  refine ⟨⟨by rw [fr'.source, h4]; exact hle, by rw [h1, fr'.source, h4], by rw [h2, fr'.source, h4], ?_, ?_⟩,
    h4, fr.trans fr'⟩
  · intro ht; rw [h6, fr'.source, h4]; exact hline ht
  · intro a b
    have := hlo a b
    unfold LineOffsetOk at this ⊢
    rw [h8, fr'.source, h4]; exact this

theorem countNL_split (s : List UInt8) (a b : Nat) (h : a ≤ b) :
    countNL (s.take b) = countNL (s.take a) + countNL (slice s a b) := by
  have := countNL_take_add s a (b - a)
  rw [Nat.add_sub_cancel' h] at this
  exact this

theorem rewind_eq (o : Opts) (v : Variant) (l : Lexer) (x : Nat) (hx : x ≤ l.source.length) :
    rewind o v l x = readCh o { l with
      line := if o.tokenLine then
                (if x < l.offset then l.line - (countNL (slice l.source x l.offset) : Int)
                 else l.line + (countNL (slice l.source l.offset x) : Int))
              else l.line,
      lineOffset := if o.hasLineOffset && (o.tokenLine || v.colFix) then (lineStart l.source x : Int) else l.lineOffset,
      scanOffset := x, offset := x } := by
  have hc : ¬ x > l.source.length := by omega
  unfold rewind
  cases ht : o.tokenLine <;> by_cases hlt : x < l.offset <;> simp [hlt, hc]

/-- Of the invariant, `rewind` needs the line count only (so it serves `Init`, which starts from no invariant). -/
theorem rewind_pinv (o : Opts) (v : Variant) (l : Lexer) (x : Nat) (hx : x ≤ l.source.length)
    (hline : o.tokenLine = true → l.line = 1 + (countNL (l.source.take l.offset) : Int)) :
    PInv o v (rewind o v l x) ∧ (rewind o v l x).offset = x ∧ Frame l (rewind o v l x) := by
  rw [rewind_eq o v l x hx]
  refine readCh_pinv o v _ ⟨rfl, rfl, rfl, rfl, rfl⟩ rfl hx ?_ ?_
  · intro ht
    have hl := hline ht
    show (if o.tokenLine then _ else _) = 1 + (countNL (l.source.take x) : Int)
    rw [if_pos ht]
    by_cases hlt : x < l.offset
    · rw [if_pos hlt]
      have := countNL_split l.source x l.offset (by omega)
      omega
    · rw [if_neg hlt]
      have := countNL_split l.source l.offset x (by omega)
      omega
  · intro ha hb
    have hcond : (o.hasLineOffset && (o.tokenLine || v.colFix)) = true := by
      rcases hb with hb | hb <;> simp only [ha, hb, Bool.or_true, Bool.true_or, Bool.and_self]
    exact lineOffsetOk_iff.mpr (Or.inl (if_pos hcond))

theorem PInv.rewind {o : Opts} {v : Variant} {l : Lexer} (h : PInv o v l) (x : Nat) (hx : x ≤ l.source.length) :
    PInv o v (rewind o v l x) ∧ (rewind o v l x).offset = x ∧ Frame l (rewind o v l x) :=
  rewind_pinv o v l x hx h.line

theorem init_pinv (o : Opts) (v : Variant) (src : List UInt8) :
    PInv o v (init o v src) ∧ (init o v src).offset = startOffset o src ∧ (init o v src).source = src ∧
    (init o v src).state = 0 := by
  have hk : startOffset o src ≤ src.length ∧ countNL (src.take (startOffset o src)) = 0 := by
    unfold startOffset
    split
    · rename_i hb
      simp only [Bool.and_eq_true, beq_iff_eq] at hb
      have := congrArg List.length hb.2
      simp only [List.length_take, bom, List.length_cons, List.length_nil] at this
      refine ⟨by omega, ?_⟩
      rw [hb.2]; decide
    · exact ⟨Nat.zero_le _, by simp [countNL]⟩
  obtain ⟨r1, r2, fr⟩ := rewind_pinv o v (initLexer src (startOffset o src)) (startOffset o src)
    hk.1 (by intro _; show (1 : Int) = 1 + (countNL (src.take (startOffset o src)) : Int); rw [hk.2]; rfl)
  exact ⟨r1, r2, fr.source, fr.state⟩

/-- `lb` is `l` after the newline bookkeeping for the current character: when it is a newline, `line`
is one more and `lineOffset` is the offset after the newline (the current template stores the offset
of the newline itself, which `LineOffsetOk` tolerates without `colFix`). -/
structure Booked (o : Opts) (v : Variant) (l lb : Lexer) : Prop where
  frame : Frame l lb
  scanOffset : lb.scanOffset = l.scanOffset
  line : o.tokenLine = true → lb.line = l.line + (if l.ch = 10 then 1 else 0)
  lineOffset : o.hasLineOffset = true → (o.tokenLine = true ∨ v.colFix = true) →
    if l.ch = 10 then (lb.lineOffset = (l.scanOffset : Int) ∨ (v.colFix = false ∧ lb.lineOffset = (l.offset : Int)))
    else lb.lineOffset = l.lineOffset

theorem advance_pinv (o : Opts) (v : Variant) (l lb : Lexer) (h : PInv o v l) (hc : 0 ≤ l.ch)
    (hb : Booked o v l lb) :
    PInv o v (readCh o { lb with offset := lb.scanOffset }) ∧
    (readCh o { lb with offset := lb.scanOffset }).offset = l.scanOffset ∧ l.offset < l.scanOffset ∧
    l.scanOffset ≤ l.source.length ∧ Frame l (readCh o { lb with offset := lb.scanOffset }) := by
  obtain ⟨fr, e3, hline, hlo⟩ := hb
  obtain ⟨p2, p3⟩ := h.scan_lt hc
  obtain ⟨-, -, -, p4, p5, p6⟩ := peek_lt o.scanBytes l.source l.offset (Nat.lt_of_lt_of_le p2 p3)
  rw [← h.ch, ← h.so] at p4 p5 p6
  have hline' : o.tokenLine = true → lb.line = 1 + (countNL (lb.source.take lb.scanOffset) : Int) := fun ht => by
    rw [fr.source, e3, p4, hline ht, h.line ht]
    split <;> omega
  have hlo' : o.hasLineOffset = true → (o.tokenLine = true ∨ v.colFix = true) →
      LineOffsetOk v { lb with offset := lb.scanOffset } := fun ha hb => by
    have hl := lineOffsetOk_iff.mp (h.lo ha hb)
    have hlb := hlo ha hb
    rw [lineOffsetOk_iff]
    show lb.lineOffset = (lineStart lb.source lb.scanOffset : Int) ∨
      (v.colFix = false ∧ lb.lineOffset + 1 = (lineStart lb.source lb.scanOffset : Int))
    rw [fr.source, e3, p5]
    by_cases hnl : l.ch = 10
    · rw [if_pos hnl, p6 hnl] at hlb
      rw [if_pos hnl]
      exact hlb.imp id fun ⟨hcf, e⟩ => ⟨hcf, by rw [e]; rfl⟩
    · rw [if_neg hnl] at hlb ⊢
      rw [hlb]
      exact hl
  obtain ⟨r1, r2, r3⟩ := readCh_pinv o v { lb with offset := lb.scanOffset } ⟨fr.1, fr.2, fr.3, fr.4, fr.5⟩ rfl
    (by rw [fr.source]; exact e3 ▸ p3) hline' hlo'
  exact ⟨r1, r2.trans e3, p2, p3, r3⟩

theorem Booked.same {o : Opts} {v : Variant} {l : Lexer} (h : l.ch ≠ 10 ∨ (o.tokenLine = false ∧ v.colFix = false)) :
    Booked o v l l :=
  ⟨⟨rfl, rfl, rfl, rfl, rfl⟩, rfl,
    fun ht => h.elim (fun hnl => by rw [if_neg hnl]; omega) (fun h => by rw [h.1] at ht; exact nomatch ht),
    fun _ hb => h.elim (fun hnl => by rw [if_neg hnl])
      (fun h => by rw [h.1, h.2] at hb; exact hb.elim (nomatch ·) (nomatch ·))⟩

theorem newlineBook_booked (o : Opts) (v : Variant) (l : Lexer) : Booked o v l (newlineBook o v l) := by
  -- the cases of `newlineBook`: a newline under the fixed template, under the current one with `tokenLine`,
  -- under the current one without; any other character
  fun_cases newlineBook o v l
  case case1 hnl hcf =>
    refine ⟨⟨rfl, rfl, rfl, rfl, rfl⟩, rfl, fun ht => ?_, fun ha _ => ?_⟩
    · show (if o.tokenLine = true then l.line + 1 else l.line) = _
      rw [if_pos ht, if_pos hnl]
    · rw [if_pos hnl]
      show (if o.hasLineOffset = true then (l.scanOffset : Int) else l.lineOffset) = _ ∨ _
      rw [if_pos ha]; exact Or.inl rfl
  case case2 hnl hcf ht =>
    refine ⟨⟨rfl, rfl, rfl, rfl, rfl⟩, rfl, fun _ => by rw [if_pos hnl], fun ha _ => ?_⟩
    rw [if_pos hnl]
    show _ ∨ _ ∧ (if o.hasLineOffset = true then (l.offset : Int) else l.lineOffset) = _
    rw [if_pos ha]; exact Or.inr ⟨by simpa using hcf, rfl⟩
  case case3 hnl hcf ht => exact .same (Or.inr ⟨by simpa using ht, by simpa using hcf⟩)
  case case4 hnl => exact .same (Or.inl hnl)

theorem consume_pinv (o : Opts) (v : Variant) (l : Lexer) (h : PInv o v l) (hc : 0 ≤ l.ch) :
    PInv o v (consume o v l) ∧ (consume o v l).offset = l.scanOffset ∧ l.offset < l.scanOffset ∧
    l.scanOffset ≤ l.source.length ∧ Frame l (consume o v l) :=
  advance_pinv o v l (newlineBook o v l) h hc (newlineBook_booked o v l)

end TmVerif.LexRun
