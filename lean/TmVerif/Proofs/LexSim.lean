import TmVerif.Proofs.LexClasses
import TmVerif.Proofs.LexDecl
/-!
C09: tables that pass the validator make `Tables.Scan` (its mirror in
`Model/LexTables.lean`) compute `scanSpec`.  Loop invariant: the DFA state is paired (in the checked set `V`)
with the derivatives of the rules by the text consumed so far; `size/action` hold the last accepted prefix
whenever the current state does not accept.
-/
namespace TmVerif.LexSpec
open TmVerif.Charset TmVerif.Regex TmVerif.LexTables

theorem mem_classReps (t : Tables) (c : Nat) (s : Int) :
    (c, s) ∈ classReps t ↔ c < t.numSymbols.toNat ∧ repOf t (c : Int) = some s := by
  unfold classReps
  simp only [List.mem_filterMap, List.mem_range, Option.map_eq_some_iff, Prod.mk.injEq]
  constructor
  · rintro ⟨c', hc', s', hs', rfl, rfl⟩
    exact ⟨hc', hs'⟩
  · rintro ⟨h1, h2⟩
    exact ⟨c, h1, s, h2, rfl, rfl⟩

theorem accept_pos (rules : List Rule) (hr : rulesOk rules = true) (D : List Regex) (a : Int)
    (h : accept rules D = some a) : 1 ≤ a := by
  obtain ⟨k, r, hk, rfl, -⟩ := accept_some h
  exact of_decide_eq_true (List.all_eq_true.1 hr r (List.mem_of_getElem? hk.1))

theorem noEoiShift_spec (t : Tables) (h : noEoiShift t = true) (hn : 0 < t.numSymbols) (q : Int) (hq : 0 ≤ q)
    (e : Int) (he : getI t.dfa (q * t.numSymbols) = some e) : e ≤ actionStart t := by
  have hn0 : 0 ≤ t.numSymbols := Int.le_of_lt hn
  rw [getI_nonneg _ (Int.mul_nonneg hq hn0)] at he
  unfold noEoiShift at h
  have := List.all_eq_true.1 h _ (List.mem_range.2 (Array.getElem?_eq_some_iff.1 he).1)
  -- the index is a multiple of the row length
  rw [he, Int.toNat_mul hq hn0, Nat.mul_mod_left] at this
  simpa only [bne_self_eq_false, Bool.false_or, decide_eq_true_eq] using this

/-- What `size`/`action` (of `Scan`) and `last` (of the specification) hold when the rules' derivatives are `D`
after `pos` bytes. -/
def Rel (rules : List Rule) (D : List Regex) (pos : Nat) (last : Option (Nat × Int)) (size : Nat) (action : Int) : Prop :=
  match accept rules D with
  | some a => last = some (pos, a) ∧ 0 < pos
  | none => (last = none ∧ size = 0) ∨ (0 < size ∧ last = some (size, action))

theorem rel_some {rules D pos last size action a} (h : accept rules D = some a) :
    Rel rules D pos last size action ↔ last = some (pos, a) ∧ 0 < pos := by rw [Rel, h]

theorem rel_none {rules D pos last size action} (h : accept rules D = none) :
    Rel rules D pos last size action ↔ (last = none ∧ size = 0) ∨ (0 < size ∧ last = some (size, action)) := by
  rw [Rel, h]

/-- A cell that holds the action of the state is no transition, and the result of `Scan` on it. -/
theorem action_cell (rules : List Rule) (t : Tables) (hr : rulesOk rules = true) (D : List Regex) (pos : Nat)
    (last : Option (Nat × Int)) (size : Nat) (action : Int) (hrel : Rel rules D pos last size action) (e : Int)
    (he : e = actionStart t - (accept rules D).getD 0) :
    e ≤ actionStart t ∧
      (if actionStart t = e ∧ size > 0 then some (size, action) else some (pos, actionStart t - e)) =
        some (last.getD (pos, 0)) := by
  cases hacc : accept rules D with
  | some a =>
    rw [rel_some hacc] at hrel
    rw [hacc] at he
    have ha := accept_pos rules hr D a hacc
    simp only [Option.getD_some] at he
    have hne : ¬ (actionStart t = e ∧ size > 0) := by intro h; omega
    rw [if_neg hne, hrel.1]
    simp only [Option.getD_some, Option.some.injEq, Prod.mk.injEq, true_and]
    omega
  | none =>
    rw [rel_none hacc] at hrel
    rw [hacc] at he
    simp only [Option.getD_none, Int.sub_zero] at he
    rcases hrel with ⟨h1, h2⟩ | ⟨h1, h2⟩
    · have hne : ¬ (actionStart t = e ∧ size > 0) := by intro h; omega
      rw [if_neg hne, h1]
      simp only [Option.getD_none, Option.some.injEq, Prod.mk.injEq, true_and]
      omega
    · rw [if_pos ⟨he.symm, h1⟩, h2]
      exact ⟨by omega, rfl⟩

def CharsOk (t : Tables) (chars : List (Int × Nat)) : Prop :=
  ∀ c ∈ chars, 0 ≤ c.1 ∧ c.1 ≤ maxRune t.scanBytes ∧ 1 ≤ c.2

/-- What a cell that passes `cellOk` holds: `D` is the vector of the state, `D'` its step by the
representative of the column, `e` the entry. -/
inductive Cell (rules : List Rule) (t : Tables) (V : List Pair) (D D' : List Regex) (e : Int) : Prop
  | action : dead D' = true → e = actionStart t - (accept rules D).getD 0 → Cell rules t V D D' e
  | shift : ¬ dead D' = true → 0 ≤ e → (e, D') ∈ V →
      (accept rules D' = none → accept rules D = none) → Cell rules t V D D' e
  | checkpoint (bt : Checkpoint) : ¬ dead D' = true → actionStart t < e → e < 0 →
      getI t.backtrack (-1 - e) = some bt → accept rules D = some bt.action → (bt.nextState, D') ∈ V →
      Cell rules t V D D' e

theorem cellOk_cases {rules : List Rule} {t : Tables} {V : List Pair} {q : Int} {D : List Regex} {cs : Nat × Int}
    (h : cellOk rules t V q D cs = true) :
    ∃ e, getI t.dfa (q * t.numSymbols + (cs.1 : Int)) = some e ∧ Cell rules t V D (stepVec cs.2 D) e := by
  revert h
  -- the three rows of `cellOk` that can hold; `he` is the entry of the cell
  fun_cases cellOk rules t V q D cs
  case case2 e he D' acc hd =>
    exact fun h => ⟨e, he, .action hd (by simpa using h)⟩
  case case3 e he D' acc hd h0 =>
    intro h
    simp only [Bool.and_eq_true, List.contains_iff_mem, Bool.not_eq_true', Bool.and_eq_false_iff] at h
    refine ⟨e, he, .shift hd h0 h.1 fun hn => ?_⟩
    rcases h.2 with h2 | h2
    · simpa using h2
    · rw [hn] at h2; cases h2
  case case5 e he D' acc hd h0 h1 bt hbt =>
    intro h
    simp only [Bool.and_eq_true, List.contains_iff_mem, beq_iff_eq] at h
    exact ⟨e, he, .checkpoint bt hd h1 (by omega) hbt h.1 h.2⟩
  all_goals exact nofun

theorem scanLoop_eq (rules : List Rule) (t : Tables) (V : List Pair) (hwf : t.wf = true)
    (hcls : checkClasses rules t = true) (hr : rulesOk rules = true)
    (hpairs : V.all (pairOk rules t (classReps t) V) = true) (hE : noEoiShift t = true) :
    ∀ (chars : List (Int × Nat)), CharsOk t chars →
    ∀ (q : Int) (D : List Regex) (pos : Nat) (last : Option (Nat × Int)) (size : Nat) (action : Int),
      (q, D) ∈ V → VecSub D (ruleSets rules) → Rel rules D pos last size action →
      scanLoop t chars pos q size action = some (specLoop rules D pos last (chars ++ [(eoiSym, 0)])) := by
  have w := wf_of_wf t hwf
  have hcell : ∀ q D (c s : Int), (q, D) ∈ V → 0 ≤ c → c < t.numSymbols → repOf t c = some s →
      0 ≤ q ∧ ∃ e, getI t.dfa (q * t.numSymbols + c) = some e ∧ Cell rules t V D (stepVec s D) e := by
    intro q D c s hm h0 hN hrep
    have := List.all_eq_true.1 hpairs (q, D) hm
    simp only [pairOk, Bool.and_eq_true, decide_eq_true_eq, List.all_eq_true] at this
    have hcc : ((c.toNat : Nat) : Int) = c := Int.toNat_of_nonneg h0
    have hc := cellOk_cases (this.2 (c.toNat, s) ((mem_classReps t c.toNat s).2 ⟨by omega, by rw [hcc]; exact hrep⟩))
    rw [hcc] at hc
    exact ⟨this.1, hc⟩
  have hneg := actionStart_neg t
  intro chars
  induction chars with
  | nil =>
    intro _ q D pos last size action hm _ hrel
    obtain ⟨hq, e, hg, hc⟩ := hcell q D 0 eoiSym hm (Int.le_refl 0) w.ns_pos rfl
    rw [Int.add_zero] at hg
    -- the end-of-input column holds no transition
    have hle := noEoiShift_spec t hE w.ns_pos q hq e hg
    simp only [scanLoop, List.nil_append, specLoop, hg]
    cases hc with
    | action hd he => rw [if_pos hd]; exact (action_cell rules t hr D pos last size action hrel e he).2
    | shift _ h0 _ _ => exact absurd (Int.lt_of_le_of_lt hle hneg) (Int.not_lt.2 h0)
    | checkpoint bt _ h1 _ _ _ _ => exact absurd h1 (Int.not_lt.2 hle)
  | cons ch rest ih =>
    intro hok q D pos last size action hm hsub hrel
    obtain ⟨r, wd⟩ := ch
    have hch := hok (r, wd) (by simp)
    have hok' : CharsOk t rest := fun c hc => hok c (List.mem_cons_of_mem _ hc)
    obtain ⟨c, s, hsym, hc0, hcN, hrep, hagree⟩ := checkClasses_sound rules t hwf hcls r hch.1 hch.2.1
    obtain ⟨hq, e, hg, hc⟩ := hcell q D c s hm hc0 hcN hrep
    have hstep : stepVec r D = stepVec s D := stepVec_congr _ r s hagree D hsub
    have hsub' : VecSub (stepVec s D) (ruleSets rules) := vecSub_stepVec s D _ hsub
    simp only [scanLoop, hsym, hg, List.cons_append, specLoop, hstep]
    cases hc with
    | action hd he =>
      obtain ⟨hle, hres⟩ := action_cell rules t hr D pos last size action hrel e he
      rw [if_pos hd, if_pos (Int.lt_of_le_of_lt hle hneg), if_neg (Int.not_lt.2 hle)]
      exact hres
    | shift hd h0 hm' hkeep =>
      rw [if_neg hd, if_neg (Int.not_lt.2 h0)]
      apply ih hok' e (stepVec s D) (pos + wd) _ size action hm' hsub'
      cases hacc' : accept rules (stepVec s D) with
      | some a' => exact (rel_some hacc').2 ⟨rfl, Nat.add_pos_right _ hch.2.2⟩
      | none => exact (rel_none hacc').2 ((rel_none (hkeep hacc')).1 hrel)
    | checkpoint bt hd h1 h2 hbt hacc hm' =>
      rw [if_neg hd, if_pos h2, if_pos h1]
      simp only [hbt]
      apply ih hok' bt.nextState (stepVec s D) (pos + wd) _ pos bt.action hm' hsub'
      rw [rel_some hacc] at hrel
      cases hacc' : accept rules (stepVec s D) with
      | some a' => exact (rel_some hacc').2 ⟨rfl, Nat.add_pos_right _ hch.2.2⟩
      | none => exact (rel_none hacc').2 (Or.inr ⟨hrel.2, hrel.1⟩)

end TmVerif.LexSpec
