/-
Two runs of the runtime model compared step by step (`StepRel`, `runLoop_lockstep`). The per-cell observations
`obsDefault`/`obsOpt` of the validators are the actions `actOf` of the runtime model; a goto found by the default
encoding lies in the range of states; unpacking of the side conditions `tablesWf`, `noBlindShift`, `inputOk`.
-/
import TmVerif.Model.LRCheck
import TmVerif.Proofs.LR
namespace TmVerif.LRCheck
open TmVerif.LR

theorem decode_none_of_act {t : Tables} {inp : Input} {c : Cfg}
    (hact : ∀ deep, actOf t deep c.state (c.fetch inp).2.sym = none) : decode t inp c = none :=
  (decode_of_act hact).elim fun _ h => h.1

/-- Outcome of two corresponding steps: both continue in related configurations (`R`), both stop
with the same result in configurations related by `W`, or the left step stops with a syntax error
in a configuration satisfying `A` whatever the right one does. -/
inductive StepRel (R W : Cfg → Cfg → Prop) (A : Cfg → Prop) : Step → Step → Prop
  | cont {c c' : Cfg} : R c c' → StepRel R W A (.cont c) (.cont c')
  | done (r : Result) {c c' : Cfg} : W c c' → StepRel R W A (.done r c) (.done r c')
  | abort {c : Cfg} (s' : Step) : A c → StepRel R W A (.done (.syntaxError 0 0) c) s'

/-- The runs end with the same result in `W`-related configurations, unless at some point the left
run stopped with a syntax error in a configuration `c0` with `A c0' c0`, where `c0'` is the
configuration the right run had reached (and goes on from). -/
theorem runLoop_lockstep {t t' : Tables} {inp : Input} {f f' : Int} {R W A : Cfg → Cfg → Prop}
    (hfin : ∀ c c', R c c' → (c.state = f ↔ c'.state = f'))
    (hRW : ∀ c c', R c c' → W c c')
    (herr : ∀ c c', W c c' →
      (errorAt inp c).1 = (errorAt inp c').1 ∧ W (errorAt inp c).2 (errorAt inp c').2)
    (hstep : ∀ c c', R c c' → StepRel R W (A c') (step t inp c) (step t' inp c')) :
    ∀ (fuel : Nat) (c c' : Cfg), R c c' →
      ((runLoop t inp f fuel c).1 = (runLoop t' inp f' fuel c').1 ∧
        W (runLoop t inp f fuel c).2 (runLoop t' inp f' fuel c').2) ∨
      ∃ c0' c0 fuel0, A c0' c0 ∧ runLoop t inp f fuel c = errorAt inp c0 ∧
        runLoop t' inp f' fuel c' = runLoop t' inp f' fuel0 c0'
  | 0, c, c', hr => by
    rw [runLoop, runLoop]
    exact .inl ⟨rfl, hRW c c' hr⟩
  | fuel + 1, c, c', hr => by
    by_cases hcf : c.state = f
    · rw [runLoop, runLoop, if_pos hcf, if_pos ((hfin c c' hr).1 hcf)]
      exact .inl ⟨rfl, hRW c c' hr⟩
    · have hcf' : ¬ c'.state = f' := fun h => hcf ((hfin c c' hr).2 h)
      have hs := hstep c c' hr
      rw [runLoop_succ hcf]
      generalize hs1 : step t inp c = s1 at hs
      generalize hs2 : step t' inp c' = s2 at hs
      cases hs with
      | cont hr2 =>
        rw [runLoop_succ hcf', hs2]
        exact runLoop_lockstep hfin hRW herr hstep fuel _ _ hr2
      | done r hw =>
        rw [runLoop_succ hcf', hs2]
        cases r with
        | syntaxError o e => exact .inl (herr _ _ hw)
        | accept => exact .inl ⟨rfl, hw⟩
        | panic => exact .inl ⟨rfl, hw⟩
        | fuel => exact .inl ⟨rfl, hw⟩
      | abort _ ha => exact .inr ⟨c', _, fuel + 1, ha, rfl, rfl⟩

def Obs.toAct : Obs → Option Act
  | .shift q => some (.shift q)
  | .reduce r => some (.reduce r)
  | .errExplicit => some .error
  | .err => some .error
  | .bad => none

theorem gotoDefault_with (t : Tables) (b : Bool) (s x : Int) :
    gotoDefault { t with optimized := b } s x = gotoDefault t s x := rfl

theorem gotoOpt_with (t : Tables) (b : Bool) (s x : Int) :
    gotoOpt { t with optimized := b } s x = gotoOpt t s x := rfl

theorem lalrLookup_with (t : Tables) (b : Bool) (v a : Int) :
    lalrLookup { t with optimized := b } v a = lalrScan t.lalr a (t.lalr.size + 1) (-v - 3) := rfl

theorem optLookup_with (t : Tables) (b : Bool) (s v a : Int) :
    optLookup { t with optimized := b } s v a = optLookup t s v a := rfl

theorem gotoState_false (t : Tables) (s x : Int) :
    gotoState { t with optimized := false } s x = gotoDefault t s x := rfl

theorem gotoState_true (t : Tables) (s x : Int) :
    gotoState { t with optimized := true } s x = gotoOpt t s x := rfl

theorem lalrScan_of_entry (l : Array Int) (a : Int) (fuel : Nat) (i : Int) (o : Option Int)
    (h : lalrEndOk l fuel i = true) (he : lalrEntry l a fuel i = some o) :
    lalrScan l a fuel i = some (o.getD (-2)) := by
  fun_induction lalrEntry l a fuel i
  case case1 | case5 => cases he
  case case2 term act hg1 hg ht =>
    -- the closing pair: `lalrEndOk` says that its action is `-2`
    cases he
    simp_all [lalrEndOk, lalrScan, Int.not_le.2 ht]
  case case3 act hg1 hg ht =>
    cases he
    simp [lalrScan, hg, hg1]
  case case4 term act hg1 hg ht hta ih =>
    simp only [lalrEndOk, hg, if_neg ht] at h
    simp only [lalrScan, hg, if_pos (And.intro (Int.not_lt.1 ht) hta)]
    exact ih h he

/-- the condition of `tablesWf` on the lookahead list of state `s` -/
def LalrOkAt (t : Tables) (s : Nat) : Prop :=
  ∀ v, geti t.action s = some v → v < -2 → lalrEndOk t.lalr (t.lalr.size + 1) (-v - 3) = true

theorem actOf_default_obs {t : Tables} {s a : Nat} {x : Act} (hl : LalrOkAt t s)
    (hx : (obsDefault t s a).toAct = some x) (deep : Int → Option Int) :
    actOf { t with optimized := false } deep s a = some x ∧
    ∀ q, x = .shift q →
      gotoDefault t s a = some q ∧ 0 ≤ q ∧ needsTok { t with optimized := false } s = some true := by
  -- `obsDefault` takes for a pointer what fails `≥ 0`, `= -1`, `= -2`; `actOf` tests `< -2` first:
  -- `lt` and `nlt` (which `simp [*]` finds among the hypotheses) translate
  have lt : ∀ v : Int, ¬ v ≥ 0 → ¬ v = -1 → ¬ v = -2 → v < -2 := by omega
  have nlt : ∀ v : Int, v ≥ 0 → ¬ v < -2 := by omega
  revert hx
  -- one case per row of `obsDefault`; `cases hx` closes those that answer `.bad`
  fun_cases obsDefault t s a <;> intro hx <;> cases hx
  -- the state's own action (reduce, shift, no goto, `-2`): `actOf` evaluates under the row's conditions
  case case2 | case3 | case4 | case6 => simp [actOf, needsTok, gotoDefault_with, *]
  -- a lookahead state: the runtime's scan finds what `lalrEntry` found. The `‹_›` are the row's
  -- `geti t.action s = some action` and the three tests that `action` has failed
  all_goals
    have := lalrScan_of_entry _ _ _ _ _ (hl _ ‹_› (lt _ ‹_› ‹_› ‹_›)) ‹lalrEntry _ _ _ _ = some _›
    simp [actOf, needsTok, lalrLookup_with, gotoDefault_with, *]

theorem toAct_optValue (x : Int) :
    (if x ≥ 0 then Obs.reduce x else if x < -1 then .shift (-2 - x) else .err).toAct =
      some (actOfOptValue x) := by
  rw [actOfOptValue, apply_ite Obs.toAct, apply_ite Obs.toAct, apply_ite some, apply_ite some]
  rfl

theorem actOf_opt_obs (t : Tables) (s a : Nat) (deep : Int → Option Int) :
    actOf { t with optimized := true } deep s a = (obsOpt t s a).toAct := by
  unfold actOf obsOpt
  simp only [if_true, optLookup_with]
  cases geti t.oAction s with
  | none => rfl
  | some v =>
    simp only [← apply_ite (Option.map actOfOptValue)]
    cases (if v > t.oBase then optLookup t s v a else geti t.oDefAct s) with
    | none => rfl
    | some x => exact (toAct_optValue x).symm

/-- the condition of `noBlindShift` on state `s` -/
def NoBlindAt (t : Tables) (s : Nat) : Prop :=
  ∀ v d, geti t.oAction s = some v → geti t.oDefAct s = some d → v > t.oBase ∨ d ≥ -1

theorem actOf_opt_shift {t : Tables} {s : Nat} {a q : Int} {deep : Int → Option Int}
    (hnb : NoBlindAt t s)
    (h : actOf { t with optimized := true } deep s a = some (.shift q)) :
    needsTok { t with optimized := true } s = some true := by
  unfold actOf at h
  unfold needsTok
  simp only [if_true] at h ⊢
  cases hg : geti t.oAction s with
  | none => simp [hg] at h
  | some v =>
    simp only [hg, Option.map_some, Option.some.injEq, decide_eq_true_eq] at h ⊢
    -- a state that does not look at the token takes its default action: a reduction or an error (`d ≥ -1`)
    refine Decidable.by_contra fun hv => ?_
    rw [if_neg hv, Option.map_eq_some_iff] at h
    obtain ⟨d, hd, hq⟩ := h
    have := (hnb v d hg hd).resolve_left hv
    simp only [actOfOptValue, if_neg (Int.not_lt.2 this)] at hq
    split at hq <;> cases hq

theorem geti_mem {a : Array Int} {i v : Int} (h : geti a i = some v) : v ∈ a :=
  Array.mem_of_getElem? (geti_some h).2

theorem gotoLinear_range {ft : Array Int} {state : Int} {fuel : Nat} {i max q : Int}
    (h : gotoLinear ft state fuel i max = some q) : q = -1 ∨ q ∈ ft := by
  fun_induction gotoLinear ft state fuel i max with
  | case1 | case5 => left; cases h; rfl          -- out of fuel, or `i` has reached `max`
  | case2 => cases h                             -- index out of range
  | case3 => exact Or.inr (geti_mem h)           -- found: the entry after the key
  | case4 => rename_i ih; exact ih h             -- next pair

theorem gotoBinary_range {ft : Array Int} {state : Int} {fuel : Nat} {min max q : Int}
    (h : gotoBinary ft state fuel min max = some q) : q = -1 ∨ q ∈ ft := by
  fun_induction gotoBinary ft state fuel min max with
  | case1 | case6 => left; cases h; rfl          -- out of fuel, or empty interval
  | case2 => cases h
  | case3 => exact Or.inr (geti_mem h)
  | case4 | case5 => rename_i ih; exact ih h     -- upper or lower half

theorem gotoDefault_range {t : Tables} {s x q : Int} (h : gotoDefault t s x = some q) :
    q = -1 ∨ q ∈ t.fromTo := by
  simp only [gotoDefault, Option.bind_eq_bind, Option.bind_eq_some_iff] at h
  obtain ⟨mn, -, mx, -, h⟩ := h
  split at h
  · exact gotoLinear_range h
  · exact gotoBinary_range h

structure TablesFacts (t : Tables) : Prop where
  nTermsPos : 0 < t.nTerms
  nTermsLe : t.nTerms ≤ t.nSyms
  fin : t.finalStates.size ≤ t.nStates
  fromTo : ∀ v ∈ t.fromTo, 0 ≤ v ∧ v < (t.nStates : Int)
  ruleSym : ∀ r lhs, geti t.ruleSymbol r = some lhs → (t.nTerms : Int) ≤ lhs ∧ lhs < (t.nSyms : Int)
  lalr : ∀ s, LalrOkAt t s

theorem tablesFacts {t : Tables} (h : tablesWf t = true) : TablesFacts t := by
  unfold tablesWf at h
  simp only [Bool.and_eq_true, decide_eq_true_eq, Array.all_eq_true_iff_forall_mem,
    List.all_eq_true, List.mem_range] at h
  obtain ⟨⟨⟨⟨⟨h1, h2⟩, h3⟩, h4⟩, h5⟩, h6⟩ := h
  refine ⟨h1, h2, h3, h4, fun r lhs hr => h5 lhs (geti_mem hr), ?_⟩
  intro s v hv hlt
  -- `action[s]` exists, so `s` is a state
  have hs : s < t.nStates := (Array.getElem?_eq_some_iff.1 (geti_some hv).2).1
  have := h6 s hs
  rw [hv] at this
  simp only [Bool.or_eq_true, decide_eq_true_eq] at this
  exact this.resolve_left fun h' => Int.not_lt.2 h' hlt

theorem noBlindFacts {t : Tables} (h : noBlindShift t = true) (s : Nat) (hs : s < t.nStates) :
    NoBlindAt t s := by
  unfold noBlindShift at h
  simp only [List.all_eq_true, List.mem_range] at h
  intro v d hv hd
  have := h s hs
  rw [hv, hd] at this
  simpa using this

theorem tok_in {t : Tables} {inp : Input} (h : inputOk t inp = true) (h0 : 0 < t.nTerms) (j : Nat) :
    0 ≤ (inp.tok j).sym ∧ (inp.tok j).sym < (t.nTerms : Int) := by
  unfold inputOk at h
  simp only [Array.all_eq_true_iff_forall_mem, Bool.and_eq_true, decide_eq_true_eq] at h
  unfold Input.tok
  cases hj : inp.toks[j]? with
  | none => exact ⟨Int.le_refl 0, Int.natCast_pos.2 h0⟩
  | some tk => exact h tk (Array.mem_of_getElem? hj)

theorem actOf_of_obs {t : Tables} (hw : TablesFacts t) {s a : Nat} {x : Act}
    (hx : (obsDefault t s a).toAct = some x) (deep : Int → Option Int) :
    actOf { t with optimized := false } deep s a = some x :=
  (actOf_default_obs (hw.lalr s) hx deep).1

theorem shift_of_obs {t : Tables} (hw : TablesFacts t) {s a : Nat} {q : Int}
    (hx : (obsDefault t s a).toAct = some (.shift q)) :
    gotoDefault t s a = some q ∧ 0 ≤ q ∧ needsTok { t with optimized := false } s = some true :=
  (actOf_default_obs (hw.lalr s) hx fun _ => none).2 q rfl

theorem goto_valid {t : Tables} (hw : TablesFacts t) {s x q : Int} (h : gotoDefault t s x = some q) :
    q = -1 ∨ (0 ≤ q ∧ q < (t.nStates : Int)) :=
  (gotoDefault_range h).imp_right (hw.fromTo q)

end TmVerif.LRCheck
