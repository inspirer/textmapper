/-
C05: an accepted `checkOptimized` provides the hypotheses of the simulation theorem of
Proofs/LRCheckSim.lean for the default against the displacement encoding of one table set (`simHyp_opt`,
`run_sim`); the goto certificate excludes missing goto entries.
-/
import TmVerif.Proofs.LRCheckSim
namespace TmVerif.LRCheck
open TmVerif.LR

theorem cellOk_of_check (t : Tables) (dr : Bool) (h : checkOptimized t dr = true)
    (s a : Nat) (hs : s < t.nStates) (ha : a < t.nTerms) : cellOk t dr s a = true := by
  unfold checkOptimized at h
  simp only [List.all_eq_true, List.mem_range, Bool.and_eq_true] at h
  exact (h s hs).1 a ha

theorem gotoOk_of_check (t : Tables) (dr : Bool) (h : checkOptimized t dr = true)
    (s k : Nat) (hs : s < t.nStates) (hk : k < t.nSyms - t.nTerms) :
    ∃ q, gotoDefault t s (t.nTerms + k : Nat) = some q ∧
      (0 ≤ q → gotoOpt t s (t.nTerms + k : Nat) = some q) := by
  unfold checkOptimized at h
  simp only [List.all_eq_true, List.mem_range, Bool.and_eq_true] at h
  have hgo := (h s hs).2 k hk
  unfold gotoOk at hgo
  split at hgo
  · cases hgo
  · rename_i q hg
    simp only [Bool.or_eq_true, decide_eq_true_eq, beq_iff_eq] at hgo
    exact ⟨q, hg, fun hq => hgo.resolve_left (Int.not_lt.2 hq)⟩

/-- the `.err` row leaves out `isLookaheadState t s`, which `cellOk` demands as well -/
theorem cellOk_elim {t : Tables} {dr : Bool} {s a : Nat} (h : cellOk t dr s a = true) :
    match obsDefault t s a with
    | .shift q => obsOpt t s a = .shift q
    | .reduce r => obsOpt t s a = .reduce r
    | .errExplicit => obsOpt t s a = .err
    | .err => obsOpt t s a = .err ∨
        (dr = true ∧ ∃ r, mostFrequent t s = some r ∧ obsOpt t s a = .reduce r)
    | .bad => False := by
  unfold cellOk at h
  cases hd : obsDefault t s a <;> simp only [hd, beq_iff_eq, Bool.or_eq_true, Bool.and_eq_true] at h ⊢
  case shift | reduce | errExplicit => exact h
  case bad => cases h
  case err =>
    refine h.imp_right fun ⟨⟨hdr, _⟩, hm⟩ => ⟨hdr, ?_⟩
    cases hmf : mostFrequent t s with
    | none => rw [hmf] at hm; cases hm
    | some r => rw [hmf] at hm; exact ⟨r, rfl, beq_iff_eq.1 hm⟩

theorem cell_acts {t : Tables} {dr : Bool} (hchk : checkOptimized t dr = true)
    {s a : Nat} (hs : s < t.nStates) (ha : a < t.nTerms) :
    ∃ x, (obsDefault t s a).toAct = some x ∧
      ((obsOpt t s a).toAct = some x ∨ (dr = true ∧ x = .error)) := by
  have h := cellOk_elim (cellOk_of_check t dr hchk s a hs ha)
  -- in the `bad` row `h` becomes `False`, which closes it
  cases hd : obsDefault t s a <;> simp only [hd] at h
  -- the displacement encoding answers alike (`.err` for an explicit error)
  case shift | reduce | errExplicit => exact ⟨_, rfl, .inl (by rw [h]; rfl)⟩
  case err => exact ⟨.error, rfl, h.imp (fun h => by rw [h]; rfl) fun h => ⟨h.1, rfl⟩⟩

def ValidState (t : Tables) (q : Int) : Prop := 0 ≤ q ∧ q < (t.nStates : Int)

/-- a reduction never finds the goto entry missing -/
def NoMiss (t : Tables) : Prop :=
  ∀ (stk : List Entry) (s a : Nat) (r ln lhs : Int) (e : Entry) (q : Int),
    Path t (ValidState t) stk → (∃ e0 rest, stk = e0 :: rest ∧ e0.state = (s : Int)) →
    a < t.nTerms → obsDefault t s a = .reduce r → geti t.ruleLen r = some ln →
    geti t.ruleSymbol r = some lhs → (stk.drop ln.toNat).head? = some e →
    gotoDefault t e.state lhs = some q → 0 ≤ q

theorem goto_of_check {t : Tables} {dr : Bool} (hchk : checkOptimized t dr = true) {s lhs : Int}
    (hs : ValidState t s) (hl1 : (t.nTerms : Int) ≤ lhs) (hl2 : lhs < (t.nSyms : Int)) :
    ∃ q, gotoDefault t s lhs = some q ∧ (0 ≤ q → gotoOpt t s lhs = some q) := by
  obtain ⟨k, rfl⟩ := Int.le.dest hl1
  rw [← Int.natCast_add] at hl2 ⊢
  have := gotoOk_of_check t dr hchk s.toNat k ((Int.toNat_lt hs.1).2 hs.2)
    (Nat.lt_sub_iff_add_lt'.2 (Int.ofNat_lt.1 hl2))
  rwa [Int.toNat_of_nonneg hs.1] at this

theorem TraceRel.eq {evs evs' : List Ev} (h : TraceRel Eq evs evs') : evs = evs' := by
  induction h with
  | nil => rfl
  | shift _ _ _ _ ih => rw [ih]
  | reduce _ _ hr _ ih => rw [hr, ih]

theorem simHyp_opt {t : Tables} {dr : Bool} (hchk : checkOptimized t dr = true) (hw : TablesFacts t)
    (hnb : ∀ s, s < t.nStates → NoBlindAt t s) :
    SimHyp t O[t] id Eq (ValidState t) (¬ NoMiss t) (dr = true) where
  gStep _ _ _ hg hq := (goto_valid hw hg).resolve_left fun h => absurd (h ▸ hq) (by decide)
  gNonneg h := h.1
  cell p a hG ha := by
    have hp : p < t.nStates := Int.ofNat_lt.1 hG.2
    obtain ⟨x, hx, hopt⟩ := cell_acts hchk hp ha
    refine ⟨x, hx, ?_⟩
    rcases hopt with hopt | ⟨hdr, hxe⟩
    · have hO : ∀ deep, actOf O[t] deep (p : Int) a = some x := fun deep => by rw [actOf_opt_obs, hopt]
      refine .inr ⟨x, hO, ?_⟩
      cases x with
      | shift q => exact .shift rfl (actOf_opt_shift (hnb p hp) (hO fun _ => none))
      | reduce r => exact .reduce rfl rfl rfl
      | error => exact .error
    · exact .inl ⟨hxe, hdr⟩
  goto {stk p a r ln lhs top} hsp htop ha hobs hln hlhs hhead hv hl1 hl2 := by
    obtain ⟨q, hg, hgo⟩ := goto_of_check hchk hv hl1 hl2
    refine ⟨q, hg, ?_⟩
    rcases goto_valid hw hg with rfl | hq
    · refine .inl ⟨rfl, .inr fun hnm => ?_⟩
      exact absurd (hnm stk p a r ln lhs top (-1) hsp htop ha hobs hln hlhs hhead hg) (by decide)
    · exact .inr ⟨hq.1, hgo hq.1, fun h : q = -1 => absurd (h ▸ hq.1) (by decide)⟩

/-- How the run on the default encoding (`R1`) and the one on the displacement encoding (`R2`)
compare: same result and events; or the default run stopped alone in a reduction whose goto entry
is missing (state `-1`); or, with `defaultReduce`, it stopped on a plain error that the other
encoding answers with a reduction, its events (most recent first) a suffix of the other's. -/
def RunSim (t : Tables) (dr : Bool) (R1 R2 : Result × Cfg) : Prop :=
  (R1.1 = R2.1 ∧ R1.2.evs = R2.2.evs) ∨ (R1.2.state = -1 ∧ ¬ NoMiss t) ∨
  (dr = true ∧ (∃ o e, R1.1 = .syntaxError o e) ∧ R1.2.evs <:+ R2.2.evs)

theorem run_sim {t : Tables} {dr : Bool} {inp : Input} (hchk : checkOptimized t dr = true)
    (hwf : tablesWf t = true) (hnb : noBlindShift t = true) (hin : inputOk t inp = true)
    (i fuel : Nat) : RunSim t dr (run D[t] inp i fuel) (run O[t] inp i fuel) := by
  have hw := tablesFacts hwf
  unfold run
  rw [show D[t].finalStates = t.finalStates from rfl, show O[t].finalStates = t.finalStates from rfl]
  cases hf : t.finalStates[i]? with
  | none => exact .inl ⟨rfl, rfl⟩
  | some fin =>
    show RunSim t dr (runLoop D[t] inp fin fuel (initCfg inp i)) (runLoop O[t] inp fin fuel (initCfg inp i))
    have hi : (i : Int) < t.nStates :=
      Int.ofNat_lt.2 (Nat.lt_of_lt_of_le (Array.getElem?_eq_some_iff.1 hf).1 hw.fin)
    rcases runLoop_sim (simHyp_opt hchk hw (noBlindFacts hnb)) hw hin (f := fin) (f' := fin)
        (fun _ _ => Iff.rfl) fuel (initCfg inp i) (initCfg inp i)
        (Rel.init ⟨Int.natCast_nonneg i, hi⟩ rfl hw hin) with
      h | ⟨c0', c0, fuel0, hA, hL, hR⟩
    · exact .inl ⟨h.1, h.2.evs.eq⟩
    · -- the default run stopped in `c0`; the displacement run goes on from `c0'`
      rw [hL, hR]
      rcases hA with ⟨hst, hnm⟩ | ⟨hdr, hev⟩
      · exact .inr (.inl ⟨by unfold errorAt; rw [fetch_state, hst], hnm⟩)
      · refine .inr (.inr ⟨hdr, ⟨_, _, rfl⟩, ?_⟩)
        rw [errorAt_evs, hev.eq]
        exact runLoop_evs _ inp fin fuel0 c0'

theorem mem_preds {t : Tables} {preds : Array (List Nat)} (hp : predsOk t preds = true) {p x : Int}
    {s : Nat} (hv : ValidState t p) (hx0 : 0 ≤ x) (hx1 : x < (t.nSyms : Int))
    (hg : gotoDefault t p x = some (s : Int)) : p.toNat ∈ preds.getD s [] := by
  unfold predsOk at hp
  simp only [List.all_eq_true, List.mem_range] at hp
  have := hp p.toNat ((Int.toNat_lt hv.1).2 hv.2) x.toNat ((Int.toNat_lt hx0).2 hx1)
  rw [Int.toNat_of_nonneg hv.1, Int.toNat_of_nonneg hx0, hg] at this
  simpa [Int.not_lt.2 (Int.natCast_nonneg s)] using this

theorem backAll_sound {t : Tables} {preds : Array (List Nat)} (hp : predsOk t preds = true)
    (P : Nat → Bool) : ∀ (n : Nat) (e0 : Entry) (rest : List Entry) (s : Nat),
      Path t (ValidState t) (e0 :: rest) → e0.state = (s : Int) → backAll preds P n s = true →
      ∀ e, ((e0 :: rest).drop n).head? = some e → ∃ p : Nat, e.state = (p : Int) ∧ P p = true
  | 0, _, _, s, _, he0, hb, e, he => by
    cases he
    exact ⟨s, he0, hb⟩
  | n + 1, _, [], _, _, _, _, e, he => by simp at he
  | n + 1, e0, e1 :: rest, s, hpath, he0, hb, e, he => by
    obtain ⟨_, ⟨hx0, hx1, hg⟩, hrest⟩ := hpath
    rw [backAll] at hb
    exact backAll_sound hp P n e1 rest e1.state.toNat hrest (Int.toNat_of_nonneg hrest.1.1).symm
      (List.all_eq_true.1 hb _ (mem_preds hp hrest.1 hx0 hx1 (he0 ▸ hg))) e he

theorem noMiss_of_gotoClosed {t : Tables} {preds : Array (List Nat)}
    (h : gotoClosed t preds = true) : NoMiss t := by
  unfold gotoClosed at h
  simp only [Bool.and_eq_true, List.all_eq_true, List.mem_range] at h
  obtain ⟨hp, hall⟩ := h
  intro stk s a r ln lhs e q hpath htop ha hobs hln hlhs he hg
  obtain ⟨e0, rest, rfl, he0⟩ := htop
  -- the top of a path of valid states is a state
  have := hall s (Int.ofNat_lt.1 (he0 ▸ hpath.1.2)) a ha
  rw [hobs] at this
  simp only [ruleGotoOk, hln, hlhs] at this
  obtain ⟨p, hpe, hP⟩ := backAll_sound hp _ ln.toNat e0 rest s hpath he0 this e he
  rw [← hpe, hg] at hP
  simpa using hP

end TmVerif.LRCheck
