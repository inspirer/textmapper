import TmVerif.Model.TreeBuilder
import TmVerif.Proofs.Basic
/-!
C20 — the tree builder: what one `addNode` call does to a stack that is sorted by offset
(`addNode_spec`), the invariant `Inv0` for every event list, the loop invariant `Inv` for
well-nested ones, the `File` root (`build_file_single`).
-/
namespace TmVerif.TreeBuilder

theorem idsList_append (a b : List Tree) : idsList (a ++ b) = idsList a ++ idsList b := by
  induction a with
  | nil => simp [idsList]
  | cons t ts ih => simp [idsList, ih, List.append_assoc]

theorem subtreesList_append (a b : List Tree) :
    subtreesList (a ++ b) = subtreesList a ++ subtreesList b := by
  induction a with
  | nil => simp [subtreesList]
  | cons t ts ih => simp [subtreesList, ih, List.append_assoc]

theorem Tree.self_mem_subtrees (t : Tree) : t ∈ t.subtrees := by
  cases t; simp [Tree.subtrees]

theorem Tree.id_mem_ids (t : Tree) : t.id ∈ t.ids := by
  cases t; simp [Tree.ids, Tree.id]

theorem mem_subtreesList {R : List Tree} {t : Tree} :
    t ∈ subtreesList R ↔ ∃ r ∈ R, t ∈ r.subtrees := by
  induction R with
  | nil => simp [subtreesList]
  | cons a l ih => simp [subtreesList, ih]

theorem id_mem_idsList {R : List Tree} {r : Tree} (h : r ∈ R) : r.id ∈ idsList R := by
  induction R with
  | nil => cases h
  | cons t ts ih =>
    simp only [idsList, List.mem_append]
    rcases List.mem_cons.1 h with rfl | h
    · exact .inl r.id_mem_ids
    · exact .inr (ih h)

theorem subtreesList_sub {A B : List Tree} (h : ∀ t ∈ A, t ∈ B) :
    ∀ t ∈ subtreesList A, t ∈ subtreesList B := fun _ ht =>
  let ⟨r, hr, hs⟩ := mem_subtreesList.1 ht
  mem_subtreesList.2 ⟨r, h r hr, hs⟩

theorem forall_subtrees_addNode {P : Tree → Prop} {before kids after : List Tree} {id : Nat} {ev : Ev}
    (h : ∀ t ∈ subtreesList (before ++ (kids ++ after)), P t) (hn : P (.node id ev kids)) :
    ∀ t ∈ subtreesList (before ++ (.node id ev kids :: after)), P t := by
  intro t ht
  simp only [subtreesList_append, subtreesList, Tree.subtrees, List.mem_append, List.mem_cons] at h ht
  rcases ht with ht | (rfl | ht) | ht
  · exact h t (.inl ht)
  · exact hn
  · exact h t (.inr (.inl ht))
  · exact h t (.inr (.inr ht))

/-- On a stack (top first) sorted by offset the roots at or behind `o` lie on top: they are what `dropWhile` drops
and what `countP` counts (`start` and `end` of the Go loop). -/
theorem sorted_prefix (S : List Tree) (o : Nat) (hs : S.Pairwise (fun a b => b.off ≤ a.off)) :
    S.dropWhile (fun t => decide (t.off ≥ o)) = S.drop (S.countP fun t => decide (t.off ≥ o)) ∧
    (∀ t ∈ S.take (S.countP fun t => decide (t.off ≥ o)), o ≤ t.off) ∧
    ∀ t ∈ S.drop (S.countP fun t => decide (t.off ≥ o)), t.off < o := by
  induction S with
  | nil => simp
  | cons a l ih =>
    rw [List.pairwise_cons] at hs
    by_cases ha : a.off ≥ o
    · obtain ⟨h1, h2, h3⟩ := ih hs.2
      rw [List.dropWhile_cons_of_pos (by simpa using ha), List.countP_cons_of_pos (by simpa using ha),
        List.take_succ_cons, List.drop_succ_cons]
      exact ⟨h1, List.forall_mem_cons.2 ⟨ha, h2⟩, h3⟩
    · have hall : ∀ t ∈ a :: l, t.off < o := by
        intro t ht
        rcases List.mem_cons.1 ht with rfl | h
        · omega
        · have := hs.1 t h; omega
      rw [List.dropWhile_cons_of_neg (by simpa using ha), List.countP_eq_zero.2 (by simpa using hall)]
      exact ⟨rfl, by simp, hall⟩

/-- What one `addNode` call does, in Go order (bottom of the stack first): the stack splits into
`before ++ kids ++ after`; `kids` become the children of the new node, which takes their place. On a
stack sorted by offset the three parts are exactly the roots starting before the new node, inside
its half-open range, and at or after its end. -/
theorem addNode_spec (id : Nat) (S : List Tree) (ev : Ev) :
    ∃ before kids after, S.reverse = before ++ (kids ++ after) ∧
      (addNode id S ev).reverse = before ++ (Tree.node id ev kids :: after) ∧
      (S.Pairwise (fun a b => b.off ≤ a.off) →
        (∀ t ∈ before, t.off < ev.off) ∧ (∀ t ∈ kids, ev.off ≤ t.off ∧ t.off < ev.endo) ∧
        (∀ t ∈ after, ev.off ≤ t.off ∧ ev.endo ≤ t.off)) := by
  let p := fun t : Tree => decide (t.off ≥ ev.off)
  let q := fun t : Tree => decide (t.off ≥ ev.endo)
  let scanned := S.takeWhile p
  let rest := S.dropWhile p
  let sb := scanned.reverse
  let m := sb.length - scanned.countP q
  refine ⟨rest.reverse, sb.take m, sb.drop m, ?_, ?_, ?_⟩
  · rw [List.take_append_drop]
    show S.reverse = rest.reverse ++ scanned.reverse
    rw [← List.reverse_append, List.takeWhile_append_dropWhile]
  · show (addNode id S ev).reverse = _
    unfold addNode
    simp only [List.reverse_append, List.reverse_cons, List.reverse_reverse, List.append_assoc,
      List.singleton_append]
    rfl
  · intro hs
    have hsb : ∀ t ∈ sb, ev.off ≤ t.off := by
      intro t ht
      simpa [p] using List.all_eq_true.1 List.all_takeWhile t (List.mem_reverse.1 ht)
    obtain ⟨hrest, _, hlt⟩ := sorted_prefix S ev.off hs
    obtain ⟨_, hafter, hkids⟩ := sorted_prefix scanned ev.endo (hs.sublist (List.takeWhile_sublist p))
    -- `sb` is `scanned` in Go order: its last `cnt` roots are the top `cnt` of `scanned`
    have hm : scanned.length - m = scanned.countP q := by
      show scanned.length - (scanned.reverse.length - _) = _
      rw [List.length_reverse]; exact Nat.sub_sub_self List.countP_le_length
    exact ⟨fun t ht => hlt t (hrest ▸ List.mem_reverse.1 ht),
      fun t ht => ⟨hsb t (List.mem_of_mem_take ht),
        hkids t (by rw [List.take_reverse, hm] at ht; exact List.mem_reverse.1 ht)⟩,
      fun t ht => ⟨hsb t (List.mem_of_mem_drop ht),
        hafter t (by rw [List.drop_reverse, hm] at ht; exact List.mem_reverse.1 ht)⟩⟩

/-- what `parentOf evs i` tests at `j` -/
theorem parentOf_test {evs : List Ev} {i : Nat} {p : Ev} (hi : evs[i]? = some p) (j : Nat) :
    (decide (i < j) && (match evs[j]?, evs[i]? with
      | some c, some p => decide (contains c p)
      | _, _ => false)) = true ↔ i < j ∧ ∃ c, evs[j]? = some c ∧ contains c p := by
  rw [hi]; cases evs[j]? <;> simp

theorem parentOf_eq_some {evs : List Ev} {i j : Nat} {p c : Ev}
    (hi : evs[i]? = some p) (hj : evs[j]? = some c) (hij : i < j) (hc : contains c p)
    (hmin : ∀ j', i < j' → j' < j → ∀ c', evs[j']? = some c' → ¬ contains c' p) :
    parentOf evs i = some j := by
  unfold parentOf
  rw [List.find?_range_eq_some]
  refine ⟨(parentOf_test hi j).2 ⟨hij, c, hj, hc⟩, List.mem_range.2 (List.getElem?_eq_some_iff.1 hj).1,
    fun j' hj' => ?_⟩
  rw [Bool.not_eq_true', Bool.eq_false_iff]
  intro h
  obtain ⟨h1, c', hc', hcon⟩ := (parentOf_test hi j').1 h
  exact hmin j' h1 hj' c' hc' hcon

theorem parentOf_eq_none {evs : List Ev} {i : Nat} {p : Ev} (hi : evs[i]? = some p)
    (hno : ∀ j, i < j → j < evs.length → ∀ c, evs[j]? = some c → ¬ contains c p) : parentOf evs i = none := by
  unfold parentOf
  rw [List.find?_range_eq_none]
  intro j hj
  rw [Bool.not_eq_true', Bool.eq_false_iff]
  intro h
  obtain ⟨h1, c, hc, hcon⟩ := (parentOf_test hi j).1 h
  exact hno j h1 hj c hc hcon

theorem buildFrom_ind {evs : List Ev} (P : Nat → List Tree → Prop)
    (step : ∀ k S ev, evs[k]? = some ev → P k S.reverse → P (k + 1) (addNode k S ev).reverse) :
    ∀ (rest : List Ev) (k : Nat) (S : List Tree), evs.drop k = rest → P k S.reverse →
      P (k + rest.length) (buildFrom k S rest).reverse
  | [], _, _, _, h => h
  | ev :: rest, k, S, hd, h => by
    have hk : evs[k]? = some ev := by rw [← List.head?_drop, hd]; rfl
    have hd' : evs.drop (k + 1) = rest := by rw [← List.drop_drop, hd]; rfl
    rw [List.length_cons, ← Nat.add_assoc, Nat.add_right_comm]
    exact buildFrom_ind P step rest (k + 1) (addNode k S ev) hd' (step k S ev hk h)

theorem build_ind {evs : List Ev} (P : Nat → List Tree → Prop) (h0 : P 0 [])
    (step : ∀ k S ev, evs[k]? = some ev → P k S.reverse → P (k + 1) (addNode k S ev).reverse) :
    P evs.length (build evs) := by
  have := buildFrom_ind P step evs 0 [] rfl h0
  rwa [Nat.zero_add] at this

/-- holds for EVERY event list (no nesting assumption) -/
structure Inv0 (evs : List Ev) (k : Nat) (R : List Tree) : Prop where
  ids : (idsList R).Perm (List.range k)
  evOf : ∀ t ∈ subtreesList R, evs[t.id]? = some t.ev

theorem inv0_step {evs : List Ev} {k : Nat} {S : List Tree} {ev : Ev}
    (hk : evs[k]? = some ev) (h : Inv0 evs k S.reverse) : Inv0 evs (k + 1) (addNode k S ev).reverse := by
  obtain ⟨before, kids, after, hR, hR', _⟩ := addNode_spec k S ev
  rw [hR'] at *
  rw [hR] at h
  refine ⟨?_, ?_⟩
  · have h1 := h.ids
    simp only [idsList_append, idsList, Tree.ids, List.cons_append] at h1 ⊢
    rw [List.range_succ]
    exact List.perm_middle.trans ((h1.cons k).trans (List.perm_append_singleton k _).symm)
  · exact forall_subtrees_addNode h.evOf hk

theorem inv0_build (evs : List Ev) : Inv0 evs evs.length (build evs) :=
  build_ind (Inv0 evs) ⟨by simp [idsList], by simp [subtreesList]⟩ fun _ _ _ => inv0_step

/-- Invariant of the builder after `k` events; `R` is the stack in Go order. -/
structure Inv (evs : List Ev) (k : Nat) (R : List Tree) : Prop where
  ids : (idsList R).Perm (List.range k)
  /-- every node carries its event, its children are attached to their smallest container, in order -/
  good : ∀ t ∈ subtreesList R, NodeOK evs t
  /-- no event so far contains a root -/
  roots : ∀ r ∈ R, ∀ j, r.id < j → j < k → ∀ c, evs[j]? = some c → ¬ contains c r.ev
  sorted : R.Pairwise SibOrder

theorem Inv.root_lt {evs k R} (h : Inv evs k R) {r : Tree} (hr : r ∈ R) : r.id < k := by
  have := (h.ids.mem_iff).1 (id_mem_idsList hr)
  simpa using this

theorem Inv.root_ev {evs k R} (h : Inv evs k R) {r : Tree} (hr : r ∈ R) : evs[r.id]? = some r.ev :=
  (h.good r (mem_subtreesList.2 ⟨r, hr, r.self_mem_subtrees⟩)).1

theorem inv_nil (evs : List Ev) : Inv evs 0 [] :=
  ⟨by simp [idsList], by simp [subtreesList], by simp, by simp⟩

theorem Compat.endo_le {p f : Ev} (h : Compat p f)
    (hin : f.off ≤ p.off ∧ p.off < f.endo) : p.endo ≤ f.endo := by
  unfold Compat at h; omega

theorem Compat.endo_le_off {p f : Ev} (h : Compat p f) (hf : f.off ≤ f.endo) (hlt : p.off < f.off) :
    p.endo ≤ f.off := by
  unfold Compat at h; omega

/-- the stack (top first) is sorted by start offset, as `addNode_spec` asks -/
theorem sorted_off {evs : List Ev} {n k : Nat} {S : List Tree} (hb : InBounds n evs)
    (h : Inv evs k S.reverse) : S.Pairwise (fun a b => b.off ≤ a.off) := by
  refine List.pairwise_reverse.1 (List.Pairwise.imp_of_mem ?_ h.sorted)
  intro a b ha _ hab
  have := hb a.ev (List.mem_of_getElem? (h.root_ev ha))
  unfold SibOrder Tree.endo at hab
  unfold Tree.off at *
  omega

theorem inv_step {evs : List Ev} {n k : Nat} {S : List Tree} {ev : Ev}
    (hw : WellNested n evs) (hk : evs[k]? = some ev) (h : Inv evs k S.reverse) :
    Inv evs (k + 1) (addNode k S ev).reverse := by
  have hids := (inv0_step hk ⟨h.ids, fun t ht => (h.good t ht).1⟩).ids
  obtain ⟨before, kids, after, hR, hR', hparts⟩ := addNode_spec k S ev
  rw [hR'] at hids
  obtain ⟨hbefore, hkids, hafter⟩ := hparts (sorted_off hw.1 h)
  rw [hR'] at *
  rw [hR] at h
  have hevb := hw.1 ev (List.mem_of_getElem? hk)
  have mb : ∀ t ∈ before, t ∈ before ++ (kids ++ after) := fun t ht => List.mem_append_left _ ht
  have mk : ∀ t ∈ kids, t ∈ before ++ (kids ++ after) :=
    fun t ht => List.mem_append_right _ (List.mem_append_left _ ht)
  have ma : ∀ t ∈ after, t ∈ before ++ (kids ++ after) :=
    fun t ht => List.mem_append_right _ (List.mem_append_right _ ht)
  have hsorted := h.sorted
  rw [List.pairwise_append, List.pairwise_append] at hsorted
  obtain ⟨sb, ⟨sk, sa, ska⟩, sbka⟩ := hsorted
  refine ⟨?_, ?_, ?_, ?_⟩
  · exact hids
  · refine forall_subtrees_addNode h.good ⟨hk, ?_, sk⟩
    intro c hc
    have hcev := h.root_ev (mk c hc)
    have hclt := h.root_lt (mk c hc)
    have hin := hkids c hc
    exact ⟨parentOf_eq_some hcev hk hclt hin (h.roots c (mk c hc)), hin.1,
      (pairwise_get hw.2 hcev hk hclt).endo_le hin⟩
  · intro r hr j hj1 hj2 c hc
    simp only [List.mem_append, List.mem_cons] at hr
    have hjk := Nat.lt_succ_iff_lt_or_eq.1 hj2
    rcases hr with hr | rfl | hr
    · rcases hjk with hjk | rfl
      · exact h.roots r (mb r hr) j hj1 hjk c hc
      · rw [hk] at hc; cases hc
        exact fun hc => Nat.lt_irrefl _ (Nat.lt_of_lt_of_le (hbefore r hr) hc.1)
    · simp only [Tree.id] at hj1; omega
    · rcases hjk with hjk | rfl
      · exact h.roots r (ma r hr) j hj1 hjk c hc
      · rw [hk] at hc; cases hc
        exact fun hc => Nat.lt_irrefl _ (Nat.lt_of_lt_of_le hc.2 (hafter r hr).2)
  · rw [List.pairwise_append]
    refine ⟨sb, ?_, ?_⟩
    · rw [List.pairwise_cons]
      refine ⟨?_, sa⟩
      intro b hb
      exact ⟨(hafter b hb).2, fun _ => h.root_lt (ma b hb)⟩
    · intro a ha b hb
      rcases List.mem_cons.1 hb with rfl | hb
      · have haev := h.root_ev (mb a ha)
        have hlt : a.ev.off < ev.off := hbefore a ha
        exact ⟨(pairwise_get hw.2 haev hk (h.root_lt (mb a ha))).endo_le_off hevb.1 hlt,
          fun he => absurd he (Nat.ne_of_lt hlt)⟩
      · exact sbka a ha b (List.mem_append_right _ hb)

theorem inv_build {evs : List Ev} {n : Nat} (hw : WellNested n evs) : Inv evs evs.length (build evs) :=
  build_ind (Inv evs) (inv_nil evs) fun _ _ _ => inv_step hw

theorem buildFrom_append (k : Nat) (S : List Tree) (a b : List Ev) :
    buildFrom k S (a ++ b) = buildFrom (k + a.length) (buildFrom k S a) b := by
  induction a generalizing k S with
  | nil => simp [buildFrom]
  | cons e a ih =>
    simp only [List.cons_append, buildFrom, List.length_cons]
    rw [ih]
    congr 1
    omega

/-- if no reported node starts at the end offset `n`, the `File` node becomes the single root -/
theorem build_file_single {n : Nat} {evs : List Ev} (fileTy : Int) (hw : WellNested n evs)
    (hlt : ∀ e ∈ evs, e.off < n) :
    ∃ kids, build (evs ++ [⟨fileTy, 0, n⟩]) = [Tree.node evs.length ⟨fileTy, 0, n⟩ kids] := by
  have hinv := inv_build hw
  unfold build at hinv ⊢
  rw [buildFrom_append]
  simp only [buildFrom, Nat.zero_add]
  obtain ⟨before, kids, after, hR, hR', hparts⟩ := addNode_spec evs.length (buildFrom 0 [] evs) ⟨fileTy, 0, n⟩
  obtain ⟨hb, _, ha⟩ := hparts (sorted_off hw.1 hinv)
  have hbefore : before = [] :=
    List.eq_nil_iff_forall_not_mem.2 fun t ht => Nat.not_lt_zero _ (hb t ht)
  have hafter : after = [] := by
    refine List.eq_nil_iff_forall_not_mem.2 fun t ht => ?_
    have hmem : t ∈ (buildFrom 0 [] evs).reverse := by rw [hR]; simp [ht]
    have := hlt t.ev (List.mem_of_getElem? (hinv.root_ev hmem))
    exact Nat.lt_irrefl _ (Nat.lt_of_lt_of_le this (ha t ht).2)
  rw [hR', hbefore, hafter]
  exact ⟨kids, rfl⟩

end TmVerif.TreeBuilder
