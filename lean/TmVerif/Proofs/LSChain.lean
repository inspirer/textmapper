import TmVerif.Model.LS
/-!
C23 — the interleaving model of the handler chain (`Model/LS.lean`, part (c)): the invariant
"at most one task is between its wait and its unlock", its preservation by every scheduler step, and progress.
-/
namespace TmVerif.LS

variable {σ ρ ω : Type}

def Wire.note? : Wire ω → Option (Nat × ω)
  | .notes i o => some (i, o)
  | .reply _ _ => none

def notesOf (w : List (Wire ω)) : List (Nat × ω) := w.filterMap Wire.note?

@[simp] theorem setAt_same {α : Type} (f : Nat → α) (i : Nat) (a : α) : setAt f i a i = a := by simp [setAt]

theorem setAt_other {α : Type} {f : Nat → α} {i j : Nat} {a : α} (h : j ≠ i) : setAt f i a j = f j := by
  simp [setAt, h]

/-- The phases around the task `k` that holds the turn: tasks below `k` have released their successor,
task `k` has not, all later tasks and all undelivered ones are blocked. -/
structure Turn (phase : Nat → Phase) (k delivered : Nat) : Prop where
  hlt : ∀ j, j < k → (phase j).past = true
  hgt : ∀ j, k < j → phase j = .waiting
  hund : ∀ j, delivered ≤ j → phase j = .waiting
  hcur : (phase k).past = false

theorem Turn.setAt_cur {phase : Nat → Phase} {k delivered : Nat} (h : Turn phase k delivered)
    (hk : k < delivered) {p : Phase} (hp : p.past = false) : Turn (setAt phase k p) k delivered where
  hlt j hj := by rw [setAt_other (Nat.ne_of_lt hj)]; exact h.hlt j hj
  hgt j hj := by rw [setAt_other (Nat.ne_of_gt hj)]; exact h.hgt j hj
  hund j hj := by rw [setAt_other (Nat.ne_of_gt (Nat.lt_of_lt_of_le hk hj))]; exact h.hund j hj
  hcur := by rw [setAt_same]; exact hp

theorem Turn.setAt_release {phase : Nat → Phase} {k delivered : Nat} (h : Turn phase k delivered)
    (hk : k < delivered) {p : Phase} (hp : p.past = true) : Turn (setAt phase k p) (k + 1) delivered where
  hlt j hj := by
    by_cases hjk : j = k
    · rw [hjk, setAt_same]; exact hp
    · rw [setAt_other hjk]; exact h.hlt j (by omega)
  hgt j hj := by rw [setAt_other (by omega)]; exact h.hgt j (by omega)
  hund j hj := by rw [setAt_other (by omega)]; exact h.hund j hj
  hcur := by rw [setAt_other (Nat.succ_ne_self k), h.hgt (k + 1) (Nat.lt_succ_self k)]; rfl

theorem Turn.setAt_below {phase : Nat → Phase} {k delivered : Nat} (h : Turn phase k delivered)
    (hk : k ≤ delivered) {i : Nat} (hi : i < k) {p : Phase} (hp : p.past = true) :
    Turn (setAt phase i p) k delivered where
  hlt j hj := by
    by_cases hji : j = i
    · rw [hji, setAt_same]; exact hp
    · rw [setAt_other hji]; exact h.hlt j hj
  hgt j hj := by rw [setAt_other (by omega)]; exact h.hgt j hj
  hund j hj := by rw [setAt_other (by omega)]; exact h.hund j hj
  hcur := by rw [setAt_other (by omega)]; exact h.hcur

/-- Invariant of the chain: task `k` holds the turn (it is the only one that may be `running` or `executed`); state,
log, results and wire are those of the sequential execution of the first requests. -/
structure Inv (exec : σ → ρ → σ × ω) (reqs : List ρ) (s0 : σ) (s : Sys σ ω) (k : Nat) : Prop
    extends Turn s.phase k s.delivered where
  hdel : s.delivered ≤ reqs.length
  hk : k ≤ s.delivered
  hlog : s.log = List.range k ++ (if s.phase k = .executed then [k] else [])
  hst : s.st = seqState exec s0 (reqs.take s.log.length)
  hres : ∀ i, i ∈ s.log → s.result i = seqOut exec s0 reqs i
  hnotes : notesOf s.wire = s.log.filterMap (fun i => (seqOut exec s0 reqs i).map (Prod.mk i))
  hrep : ∀ i o, Wire.reply i o ∈ s.wire → seqOut exec s0 reqs i = some o

theorem inv_init (exec : σ → ρ → σ × ω) (reqs : List ρ) (s0 : σ) :
    Inv exec reqs s0 (Sys.init s0 : Sys σ ω) 0 where
  hlt := fun j h => absurd h (Nat.not_lt_zero j)
  hgt := fun _ _ => rfl
  hund := fun _ _ => rfl
  hcur := rfl
  hdel := Nat.zero_le _
  hk := Nat.le_refl _
  hlog := by simp [Sys.init]
  hst := by simp [Sys.init, seqState]
  hres := fun i h => by simp [Sys.init] at h
  hnotes := by simp [Sys.init, notesOf]
  hrep := fun i o h => by simp [Sys.init] at h

section
variable {exec : σ → ρ → σ × ω} {reqs : List ρ} {s0 : σ} {s : Sys σ ω} {k : Nat}

theorem Inv.lt_delivered (h : Inv exec reqs s0 s k) {i : Nat} (hp : s.phase i ≠ .waiting) :
    i < s.delivered :=
  Nat.lt_of_not_le fun hle => hp (h.hund i hle)

theorem Inv.active (h : Inv exec reqs s0 s k) {i : Nat} (hw : s.phase i ≠ .waiting)
    (hp : (s.phase i).past = false) : i = k ∧ i < s.delivered :=
  ⟨Nat.le_antisymm (Nat.le_of_not_lt fun hgt => hw (h.hgt i hgt))
      (Nat.le_of_not_lt fun hlt => by rw [h.hlt i hlt] at hp; exact nomatch hp),
    h.lt_delivered hw⟩

theorem Inv.past_lt (h : Inv exec reqs s0 s k) {i : Nat} (hp : (s.phase i).past = true) : i < k := by
  rcases Nat.lt_trichotomy i k with hlt | heq | hgt
  · exact hlt
  · subst heq; have := h.hcur; rw [hp] at this; exact nomatch this
  · have := h.hgt i hgt; rw [this] at hp; exact nomatch hp

theorem Inv.start_eq (h : Inv exec reqs s0 s k) {i : Nat} (hw : s.phase i = .waiting)
    (hprev : i = 0 ∨ (s.phase (i - 1)).past = true) : i = k := by
  rcases Nat.lt_trichotomy i k with hlt | heq | hgt
  · have := h.hlt i hlt; rw [hw] at this; exact nomatch this
  · exact heq
  · rcases hprev with h0 | hp
    · omega
    · have := h.past_lt hp
      omega

theorem Inv.log_eq_range (h : Inv exec reqs s0 s k) : s.log = List.range s.log.length := by
  rw [h.hlog]
  split <;> simp [List.range_succ]

theorem Inv.log_length_le (h : Inv exec reqs s0 s k) : s.log.length ≤ reqs.length := by
  rw [h.hlog, List.length_append, List.length_range]
  split
  · next hex => exact Nat.le_trans (h.lt_delivered (i := k) (by rw [hex]; nofun)) h.hdel
  · exact Nat.le_trans h.hk h.hdel

theorem Inv.log_before (h : Inv exec reqs s0 s k) (hp : s.phase k ≠ .executed) : s.log = List.range k := by
  rw [h.hlog, if_neg hp, List.append_nil]

/-- once every request is answered the turn has passed the last one -/
theorem Inv.log_of_all_done (h : Inv exec reqs s0 s k) (hdone : ∀ i, i < reqs.length → s.phase i = .done) :
    s.log = List.range reqs.length := by
  have hkl : k = reqs.length := by
    rcases Nat.lt_or_ge k reqs.length with h1 | h1
    · have hc := h.hcur
      rw [hdone k h1] at hc
      exact nomatch hc
    · exact Nat.le_antisymm (Nat.le_trans h.hk h.hdel) h1
  have hw : s.phase k = .waiting := h.hund k (hkl ▸ h.hdel)
  rw [h.log_before (by rw [hw]; nofun), hkl]

theorem Inv.mem_log_of_lt (h : Inv exec reqs s0 s k) {i : Nat} (hi : i < k) : i ∈ s.log := by
  rw [h.hlog]; simp [hi]

end

theorem seqState_take_succ (exec : σ → ρ → σ × ω) (s0 : σ) (reqs : List ρ) (k : Nat) (r : ρ)
    (hr : reqs[k]? = some r) :
    seqState exec s0 (reqs.take (k + 1)) = (exec (seqState exec s0 (reqs.take k)) r).1 := by
  unfold seqState
  rw [List.take_add_one, hr]
  simp [List.foldl_append]

theorem seqOut_of_get (exec : σ → ρ → σ × ω) (s0 : σ) {reqs : List ρ} {i : Nat} {r : ρ} (hr : reqs[i]? = some r) :
    seqOut exec s0 reqs i = some (exec (seqState exec s0 (reqs.take i)) r).2 := by
  rw [seqOut, hr]

/-- the index moves on exactly at `unlock` -/
theorem inv_step {exec : σ → ρ → σ × ω} {reqs : List ρ} {s0 : σ} {s s' : Sys σ ω} {k : Nat}
    (h : Inv exec reqs s0 s k) (st : Step exec reqs s s') : ∃ k', Inv exec reqs s0 s' k' := by
  cases st with
  | deliver hd =>
    exact ⟨k, { h with
      hdel := hd
      hk := Nat.le_succ_of_le h.hk
      hund := fun j hj => h.hund j (Nat.le_of_succ_le hj) }⟩
  | start i hi hw hprev =>
    have e := h.start_eq hw hprev
    subst e
    refine ⟨i, { h with toTurn := h.toTurn.setAt_cur hi rfl, hlog := ?_ }⟩
    simp only [setAt_same]
    simpa using h.log_before (by rw [hw]; nofun)
  | exec i r hrun hr =>
    obtain ⟨rfl, hi⟩ := h.active (by rw [hrun]; exact nofun) (by rw [hrun]; rfl)
    have hlog : s.log = List.range i := h.log_before (by rw [hrun]; nofun)
    have hlen : s.log.length = i := by rw [hlog]; simp
    have hst : s.st = seqState exec s0 (reqs.take i) := by rw [h.hst, hlen]
    have hout : seqOut exec s0 reqs i = some (exec s.st r).2 := hst ▸ seqOut_of_get exec s0 hr
    refine ⟨i, {
      toTurn := h.toTurn.setAt_cur hi rfl
      hdel := h.hdel
      hk := h.hk
      hlog := by simp [hlog]
      hst := by
        simp only [List.length_append, List.length_cons, List.length_nil, hlen]
        rw [seqState_take_succ exec s0 reqs i r hr, ← hst]
      hres := fun j hj => by
        by_cases hji : j = i
        · simp only [hji, setAt_same, hout]
        · simp only [setAt_other hji]; exact h.hres j (by simpa [hji] using hj)
      hnotes := by simp [notesOf, List.filterMap_append, ← h.hnotes, Wire.note?, hout]
      hrep := fun j o hj => h.hrep j o (by simpa using hj) }⟩
  | unlock i hex =>
    obtain ⟨rfl, hi⟩ := h.active (by rw [hex]; exact nofun) (by rw [hex]; rfl)
    refine ⟨i + 1, { h with toTurn := h.toTurn.setAt_release hi rfl, hk := hi, hlog := ?_ }⟩
    have := h.hlog
    rw [hex] at this
    simp only [setAt_other (Nat.succ_ne_self i), h.hgt (i + 1) (Nat.lt_succ_self i)]
    rw [this, List.range_succ]
    simp
  | write i o hun hres =>
    have hi := h.past_lt (i := i) (by rw [hun]; rfl)
    have hne : k ≠ i := Nat.ne_of_gt hi
    refine ⟨k, { h with
      toTurn := h.toTurn.setAt_below h.hk hi rfl
      hlog := by simp only [setAt_other hne]; exact h.hlog
      hnotes := by simp [notesOf, List.filterMap_append, ← h.hnotes, Wire.note?]
      hrep := fun j o' hj => by
        simp only [List.mem_append, List.mem_singleton] at hj
        rcases hj with hj | hj
        · exact h.hrep j o' hj
        · cases hj
          rw [← h.hres i (h.mem_log_of_lt hi)]
          exact hres }⟩

theorem inv_reach {exec : σ → ρ → σ × ω} {reqs : List ρ} {s0 : σ} {s : Sys σ ω}
    (h : Reach exec reqs s0 s) : ∃ k, Inv exec reqs s0 s k := by
  induction h with
  | init => exact ⟨0, inv_init exec reqs s0⟩
  | step _ st ih =>
    obtain ⟨k, hk⟩ := ih
    exact inv_step hk st

theorem inv_progress {exec : σ → ρ → σ × ω} {reqs : List ρ} {s0 : σ} {s : Sys σ ω} {k : Nat}
    (h : Inv exec reqs s0 s k) (hopen : ∃ i, i < reqs.length ∧ s.phase i ≠ .done) :
    ∃ s', Step exec reqs s s' := by
  by_cases hd : s.delivered < reqs.length
  · exact ⟨_, .deliver s hd⟩
  · have hdel : s.delivered = reqs.length := Nat.le_antisymm h.hdel (Nat.le_of_not_lt hd)
    by_cases hk : k < s.delivered
    · cases hp : s.phase k with
      | waiting =>
        refine ⟨_, .start s k hk hp ?_⟩
        cases k with
        | zero => exact Or.inl rfl
        | succ k' => exact Or.inr (h.hlt k' (Nat.lt_succ_self k'))
      | running =>
        have : k < reqs.length := hdel ▸ hk
        exact ⟨_, .exec s k reqs[k] hp (List.getElem?_eq_getElem this)⟩
      | executed => exact ⟨_, .unlock s k hp⟩
      | unlocked | done => have := h.hcur; rw [hp] at this; exact nomatch this
    · have hkd : k = s.delivered := Nat.le_antisymm h.hk (Nat.le_of_not_lt hk)
      obtain ⟨i, hi, hnd⟩ := hopen
      have hik : i < k := hkd ▸ hdel ▸ hi
      have hpast := h.hlt i hik
      have hun : s.phase i = .unlocked := by
        cases hp : s.phase i with
        | unlocked => rfl
        | done => exact absurd hp hnd
        | waiting | running | executed => rw [hp] at hpast; exact nomatch hpast
      have hres := h.hres i (h.mem_log_of_lt hik)
      refine ⟨_, .write s i (exec (seqState exec s0 (reqs.take i)) reqs[i]).2 hun ?_⟩
      rw [hres, seqOut_of_get exec s0 (List.getElem?_eq_getElem hi)]

end TmVerif.LS
