/-
What the justification checker `justOk` says, leastness by induction on the rank (`la_least`), and
closedness of `laGet la` as an `LASolution` (`la_solution`); `laAdd` changes masks only (for the
non-vacuity example of Props/C03.lean).
-/
import TmVerif.Proofs.LRRef
namespace TmVerif.LRRef
open TmVerif.CFG TmVerif.LR

theorem laDom_mem {la : LA} {s : Nat} {it : Item} (h : it ∈ laDom la s) :
    s < la.size ∧ ∃ p ∈ la.getD s [], p.1 = it := by
  obtain ⟨p, hm, he⟩ := List.mem_map.mp h
  exact ⟨lt_of_mem_getD hm, p, hm, he⟩

theorem laGet_bit_dom {la : LA} {s : Nat} {it : Item} {a : Nat}
    (h : (laGet la s it).testBit a = true) : it ∈ laDom la s := by
  unfold laGet at h
  split at h
  · rename_i p hp
    have he : p.1 = it := by simpa using List.find?_some hp
    exact he ▸ List.mem_map_of_mem (List.mem_of_find?_eq_some hp)
  · simp at h

/-- the two closure rules of a solution as one, at an item that `closureStep` lets `src` reach -/
theorem LASolution.closure {g : Grammar} {t : Tables} {dom : Nat → List Item} {L : Nat → Item → Nat}
    (hL : LASolution g t dom L) {s : Nat} {src it : Item} {beta : List Nat} {a : Nat}
    (hsrc : src ∈ dom s) (h : closureStep g src it = some beta)
    (ha : First g beta a ∨ NullableSeq g beta ∧ (L s src).testBit a = true) :
    (L s it).testBit a = true := by
  unfold closureStep at h
  split at h
  · rename_i x hx
    split at h
    · rename_i hc
      simp only [Bool.and_eq_true, decide_eq_true_eq, beq_iff_eq, List.contains_iff_mem] at hc
      obtain ⟨rule, hr1, hr2⟩ := mem_rulesOf.mp hc.2
      cases h
      obtain ⟨r, d⟩ := it
      cases hc.1.2
      rcases ha with hf | ⟨hn, hb⟩
      · exact hL.first s src x r rule hsrc hx hc.1.1 hr1 hr2 a hf
      · exact hL.null s src x r rule hsrc hx hc.1.1 hr1 hr2 hn a hb
    · cases h
  · cases h

theorem justOk_elim {g : Grammar} {t : Tables} {la : LA} {just : Just}
    (h : justOk g t la just = true) {s : Nat} {it : Item} {a : Nat}
    (hb : (laGet la s it).testBit a = true) :
    entryOk g t (nullable g) (firstSets g (nullable g)) la just s it a (jGet just s it a) = true := by
  obtain ⟨hs, p, hp, he⟩ := laDom_mem (laGet_bit_dom hb)
  unfold justOk at h
  simp only [List.all_eq_true, List.mem_range, Bool.and_eq_true, decide_eq_true_eq,
    Bool.or_eq_true, Bool.not_eq_true'] at h
  obtain ⟨h1, h2⟩ := h s hs p hp
  rw [he] at h1 h2
  rcases h2 a (testBit_lt_of_lt_two_pow h1 hb) with h3 | h3
  · rw [hb] at h3; cases h3
  · exact h3

theorem la_least {g : Grammar} {t : Tables} {la : LA} {just : Just}
    (h : justOk g t la just = true) {L : Nat → Item → Nat}
    (hL : LASolution g t (laDom la) L) :
    ∀ (n : Nat) (s : Nat) (it : Item) (a : Nat), (jGet just s it a).rank = n →
      (laGet la s it).testBit a = true → (L s it).testBit a = true := by
  intro n
  induction n using Nat.strongRecOn with
  | _ n ih =>
    intro s it a hn hb
    have he := justOk_elim h hb
    unfold entryOk at he
    split at he
    · -- init
      simp only [Bool.and_eq_true, beq_iff_eq, decide_eq_true_eq] at he
      obtain ⟨⟨⟨⟨h1, h2⟩, h3⟩, ha⟩, h5⟩ := he
      split at h5
      · rename_i inp hinp
        have heoi : inp.eoi = false := by simpa using h5
        have hit : it = (g.rules.size + s, 0) := Prod.ext (h3 ▸ (Nat.add_sub_cancel' h2).symm) h1
        rw [hit]
        exact hL.init s inp hinp heoi a ha
      · cases h5
    · -- first
      rename_i src _
      simp only [Bool.and_eq_true, List.contains_iff_mem] at he
      obtain ⟨hsrc, he⟩ := he
      split at he
      · rename_i beta hcs
        exact hL.closure hsrc hcs (.inl (firstOfSeq_sound (nullable_sound g) (firstSets_sound g) _ a he))
      · cases he
    · -- closure
      rename_i src _
      split at he
      · rename_i beta hcs
        simp only [Bool.and_eq_true, decide_eq_true_eq] at he
        obtain ⟨⟨hnull, hbit⟩, hrank⟩ := he
        exact hL.closure (laGet_bit_dom hbit) hcs
          (.inr ⟨seqNullable_sound (nullable_sound g) hnull, ih _ (hn ▸ hrank) s src a rfl hbit⟩)
      · cases he
    · -- goto
      rename_i s' src _
      simp only [Bool.and_eq_true, beq_iff_eq] at he
      obtain ⟨hit, he⟩ := he
      split at he
      · rename_i x hx
        simp only [Bool.and_eq_true, beq_iff_eq, decide_eq_true_eq] at he
        obtain ⟨⟨hgo, hbit⟩, hrank⟩ := he
        rw [hit]
        exact hL.goto s' src x s (laGet_bit_dom hbit) hx hgo a (ih _ (hn ▸ hrank) s' src a rfl hbit)
      · cases he

theorem laClosedAt_of_laClosed {g : Grammar} {t : Tables} {la : LA} (h : laClosed g t la = true)
    {s : Nat} {it : Item} (hd : it ∈ laDom la s) :
    laClosedAt g t (nullable g) (firstSets g (nullable g)) la s it = true := by
  obtain ⟨hs, p, hp, rfl⟩ := laDom_mem hd
  unfold laClosed at h
  simp only [List.all_eq_true, List.mem_range] at h
  exact h s hs p hp

theorem laClosed_goto {g : Grammar} {t : Tables} {la : LA} (h : laClosed g t la = true)
    {s : Nat} {it : Item} (hd : it ∈ laDom la s) {x : Nat} (hx : (rhsOf g it.1)[it.2]? = some x)
    {q : Int} (hq : gotoState t s x = some q) (hq0 : 0 ≤ q) :
    subMask (laGet la s it) (laGet la q.toNat (it.1, it.2 + 1)) = true := by
  have := laClosedAt_of_laClosed h hd
  unfold laClosedAt at this
  simp only [hx, hq, Bool.and_eq_true, Bool.or_eq_true, decide_eq_true_eq] at this
  exact this.1.resolve_left (Int.not_lt.2 hq0)

theorem laClosed_closure {g : Grammar} {t : Tables} {la : LA} (h : laClosed g t la = true)
    {s : Nat} {it : Item} (hd : it ∈ laDom la s) {x : Nat} (hx : (rhsOf g it.1)[it.2]? = some x)
    (hnt : g.nTerms ≤ x) {r : Nat} (hr : r ∈ rulesOf g x) :
    subMask (closureContribution g (nullable g) (firstSets g (nullable g)) it (laGet la s it))
      (laGet la s (r, 0)) = true := by
  have := laClosedAt_of_laClosed h hd
  unfold laClosedAt at this
  simp only [hx, Bool.and_eq_true, Bool.or_eq_true, decide_eq_true_eq, List.all_eq_true] at this
  exact this.2.resolve_left (Nat.not_lt.2 hnt) r hr

theorem la_solution {g : Grammar} {t : Tables} {la : LA} (hwf : g.wf = true)
    (hnf : nfClosed g = true) (hinit : laInitOk g la = true) (hc : laClosed g t la = true) :
    LASolution g t (laDom la) (laGet la) := by
  have hN := nfClosed_elim hwf hnf
  refine ⟨?_, ?_, ?_, ?_⟩
  · intro i inp hinp heoi a ha
    unfold laInitOk at hinit
    simp only [List.all_eq_true, List.mem_range] at hinit
    have := hinit i (Array.getElem?_eq_some_iff.mp hinp).1
    rw [hinp] at this
    simp only [heoi, Bool.false_or] at this
    exact subMask_msub this a ((allTerms_testBit g a).mpr ha)
  · intro s it x q hdom hx hgo a hb
    exact subMask_msub (laClosed_goto hc hdom hx hgo (Int.natCast_nonneg q)) a hb
  · intro s it x r rule hdom hx hnt hr hlhs a hf
    exact subMask_msub (laClosed_closure hc hdom hx hnt (mem_rulesOf.mpr ⟨rule, hr, hlhs⟩)) a
      (closureContribution_bit.mpr (.inl (first_complete hN hf)))
  · intro s it x r rule hdom hx hnt hr hlhs hns a hb
    exact subMask_msub (laClosed_closure hc hdom hx hnt (mem_rulesOf.mpr ⟨rule, hr, hlhs⟩)) a
      (closureContribution_bit.mpr (.inr ⟨seqNullable_complete hN hns, hb⟩))

theorem laDom_laAdd (la : LA) (s : Nat) (it : Item) (m : Nat) :
    laDom (laAdd la s it m) = laDom la := by
  funext s'
  unfold laDom laAdd
  rw [getD_modify]
  split
  · rw [List.map_map]
    exact List.map_congr_left fun p _ => by rw [Function.comp_apply]; split <;> rfl
  · rfl

/-- `laGet la s it ≠ 0`: the state has the item -/
theorem laGet_laAdd (la : LA) (s : Nat) (it : Item) (m : Nat) (h : laGet la s it ≠ 0) :
    laGet (laAdd la s it m) s it = laGet la s it ||| m := by
  unfold laGet laAdd at *
  rw [getD_modify]
  by_cases hs : s < la.size
  · rw [if_pos ⟨rfl, hs⟩, List.find?_map]
    -- the rewritten pair keeps its item, so the search finds the same position
    have e : ((fun p : Item × Nat => p.1 == it) ∘
        fun p => if (p.1 == it) = true then (p.1, p.2 ||| m) else p) = fun p => p.1 == it := by
      funext p; simp only [Function.comp_apply]; split <;> rfl
    rw [e]
    cases hf : (la.getD s []).find? (fun p => p.1 == it) with
    | none => rw [hf] at h; exact absurd rfl h
    | some p => simp only [Option.map_some, List.find?_some hf, if_true]
  · -- outside the array no item is found
    rw [Array.getD_eq_getD_getElem?, Array.getElem?_eq_none (Nat.not_lt.1 hs)] at h
    exact absurd rfl h

end TmVerif.LRRef
