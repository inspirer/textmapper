import TmVerif.Proofs.LexSim
/-!
C09: from the boolean validator to the statement about `Tables.Scan`; the characters of a byte string are
characters `Scan` can meet.
-/
namespace TmVerif.LexSpec
open TmVerif.Charset TmVerif.Regex TmVerif.LexTables

theorem checkDfa_closed (rules : List Rule) (t : Tables) (h : checkDfa rules t = true) :
    t.wf = true ∧ ∃ V, closedOk rules t V = true := by
  unfold checkDfa at h
  revert h
  fun_cases checkDfaV defaultFuel rules t
  -- the one row that returns `.ok`
  case case3 hwf V _ hc => exact fun _ => ⟨by simpa using hwf, V, hc⟩
  all_goals exact nofun

theorem scan_eq_spec (rules : List Rule) (t : Tables) (hc : checkClasses rules t = true)
    (hd : checkDfa rules t = true) (he : noEoiShift t = true) (sc : Nat) (hsc : sc < t.stateMap.size)
    (chars : List (Int × Nat)) (hok : CharsOk t chars) :
    lexScanChars t (sc : Int) chars = some (scanSpec rules (sc : Int) chars) := by
  obtain ⟨hwf, V, hV⟩ := checkDfa_closed rules t hd
  simp only [closedOk, Bool.and_eq_true] at hV
  obtain ⟨⟨hr, hst⟩, hpairs⟩ := hV
  unfold startsOk at hst
  have := List.all_eq_true.1 hst sc (List.mem_range.2 hsc)
  rw [Array.getElem?_eq_getElem hsc] at this
  simp only [Bool.and_eq_true, List.contains_iff_mem, Option.isNone_iff_eq_none] at this
  obtain ⟨hm, hacc⟩ := this
  rw [lexScanChars_start ((getI_natCast ..).trans (Array.getElem?_eq_getElem hsc)), scanSpec]
  apply scanLoop_eq rules t V hwf hc hr hpairs he chars hok _ _ 0 none 0 0 hm (vecSub_initVec rules _)
  exact (rel_none hacc).2 (Or.inl ⟨rfl, rfl⟩)

theorem isCont_bounds {b : Nat} (h : isCont b = true) : 0x80 ≤ b ∧ b ≤ 0xBF := by
  simpa only [isCont, Bool.and_eq_true, decide_eq_true_eq] using h

/-- The window of the second byte lies inside the continuation bytes, and ends at `hi` after the lead byte that caps it. -/
theorem second_byte_bounds {c d : Prop} [Decidable c] [Decidable d] {lo hi b1 : Nat} (hlo : 0x80 ≤ lo) (hhi : hi ≤ 0xBF)
    (h : (decide ((if c then lo else 0x80) ≤ b1) && decide (b1 ≤ if d then hi else 0xBF)) = true) :
    0x80 ≤ b1 ∧ b1 ≤ 0xBF ∧ (d → b1 ≤ hi) := by
  rw [Bool.and_eq_true, decide_eq_true_eq, decide_eq_true_eq] at h
  obtain ⟨h1, h2⟩ := h
  exact ⟨by split at h1 <;> omega, by split at h2 <;> omega, fun hd => by rwa [if_pos hd] at h2⟩

/-- The lead byte bounds the high bits and every later byte (`≤ 0xBF`) contributes six more; after the lead byte
`0xF4` the second byte is capped at `0x8F`, which is what keeps a four-byte form below `0x110000`. -/
theorem decodeRune_range (inp : List Nat) (r : Int) (w : Nat) (h : decodeRune inp = some (r, w)) :
    0 ≤ r ∧ r ≤ 0x10FFFF ∧ 1 ≤ w := by
  revert h
  -- one case per row of the decoder, with the tests on the lead byte that lead to it in the context; the four rows
  -- that return a rune are taken first (`c`: the test on the later bytes), the rest return `none`
  fun_cases decodeRune inp
  case case2 => intro h; cases h; omega
  case case4 c =>
    intro h; cases h
    have := isCont_bounds c
    rw [Int.ofNat_eq_natCast]; omega
  case case7 c =>
    intro h; cases h
    rw [Bool.and_eq_true] at c
    have := isCont_bounds c.2
    have := second_byte_bounds (by decide) (by decide) c.1
    rw [Int.ofNat_eq_natCast]; omega
  case case10 c =>
    intro h; cases h
    rw [Bool.and_eq_true, Bool.and_eq_true] at c
    have := isCont_bounds c.2
    have := isCont_bounds c.1.2
    have := second_byte_bounds (by decide) (by decide) c.1.1
    rw [beq_iff_eq] at this
    rw [Int.ofNat_eq_natCast]; omega
  all_goals exact nofun

theorem decodeText_ok (fuel : Nat) (text : List Nat) :
    ∀ c ∈ decodeText fuel text, 0 ≤ c.1 ∧ c.1 ≤ 0x10FFFF ∧ 1 ≤ c.2 := by
  fun_induction decodeText fuel text
  case case1 | case2 => exact fun _ h => nomatch h
  case case3 r w hd ih => exact List.forall_mem_cons.2 ⟨decodeRune_range _ r w hd, ih⟩
  case case4 ih => exact List.forall_mem_cons.2 ⟨by decide, ih⟩

theorem charsOk_charsOf (t : Tables) (text : List Nat) (h : ∀ b ∈ text, b < 256) :
    CharsOk t (charsOf t.scanBytes text) := by
  intro c hc
  generalize t.scanBytes = bytes at hc ⊢
  cases bytes with
  | true =>
    simp only [charsOf, if_true, List.mem_map] at hc
    obtain ⟨b, hb, rfl⟩ := hc
    have := h b hb
    simp only [maxRune, if_true]
    omega
  | false => exact decodeText_ok _ _ c hc

end TmVerif.LexSpec
