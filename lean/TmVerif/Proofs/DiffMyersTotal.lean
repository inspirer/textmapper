import TmVerif.Proofs.DiffMyersRound
/-!
`lcsWith raw` for an oracle with the contract `GoodOracle` (the Myers search has it: `middleRaw_spec`) always returns
a script, and the script is minimal: `log.Fatal` in `trace`, an out-of-range split and the fuel of the model are never
reached. The inputs of `trace` have no common first or last element (`Pre`); that keeps the split point off the
corners of the grid, so both sub-problems are smaller, and they are `Pre` again because the snake ends at a mismatch
on both sides.
-/
namespace TmVerif.Diff
variable {α : Type} [DecidableEq α]

omit [DecidableEq α] in
theorem noMatch_take (a b : List α) (i j x y : Nat) (h : NoMatch a b x y) : NoMatch (a.take i) (b.take j) x y := by
  intro ⟨h1, h2, he⟩
  simp only [List.length_take] at h1 h2
  apply h
  refine ⟨by omega, by omega, ?_⟩
  simpa [List.getElem_take] using he

omit [DecidableEq α] in
theorem noMatch_drop (a b : List α) (p q x y : Nat) :
    NoMatch (a.drop p) (b.drop q) x y ↔ NoMatch a b (p + x) (q + y) := by
  unfold NoMatch
  simp only [List.length_drop, List.getElem_drop]
  constructor
  · exact fun h ⟨h1, h2, he⟩ => h ⟨by omega, by omega, he⟩
  · exact fun h ⟨h1, h2, he⟩ => h ⟨by omega, by omega, he⟩

omit [DecidableEq α] in
theorem noMatch_cons (x y : α) (xs ys : List α) (i j : Nat) :
    NoMatch (x :: xs) (y :: ys) (i + 1) (j + 1) ↔ NoMatch xs ys i j := by
  unfold NoMatch
  simp only [List.length_cons, List.getElem_cons_succ, Nat.add_lt_add_iff_right]

omit [DecidableEq α] in
theorem noMatch_head {x y : α} (h : x ≠ y) (xs ys : List α) : NoMatch (x :: xs) (y :: ys) 0 0 :=
  fun ⟨_, _, he⟩ => h he

omit [DecidableEq α] in
theorem noMatch_zero {a b : List α} (h : ∀ x xs y ys, a = x :: xs → b = y :: ys → False) :
    NoMatch a b 0 0 := by
  intro ⟨h1, h2, _⟩
  cases a with
  | nil => simp at h1
  | cons x xs =>
    cases b with
    | nil => simp at h2
    | cons y ys => exact h x xs y ys rfl rfl

theorem commonPrefix_stop (a b : List α) :
    NoMatch a b (commonPrefix a b) (commonPrefix a b) := by
  fun_induction commonPrefix a b with
  | case1 x xs ys ih => exact (noMatch_cons _ _ _ _ _ _).mpr ih
  | case2 x xs y ys hne => exact noMatch_head hne xs ys
  | case3 a b hn => exact noMatch_zero hn

theorem commonSuffix_stop {a b : List α} {s : Nat} (hs : commonSuffix a b = s) (x y : Nat)
    (hx : x + s + 1 = a.length) (hy : y + s + 1 = b.length) : NoMatch a b x y :=
  noMatch_of_reverse a b x y s s hx hy (hs ▸ commonPrefix_stop a.reverse b.reverse)

theorem snakeLen_stop (mx : Nat) (xs ys : List α) (h : NoMatch xs ys mx mx) :
    NoMatch xs ys (snakeLen mx xs ys) (snakeLen mx xs ys) := by
  fun_induction snakeLen mx xs ys with
  | case1 mx x xs ys ih => exact (noMatch_cons _ _ _ _ _ _).mpr (ih ((noMatch_cons _ _ _ _ _ _).mp h))
  | case2 mx x xs y ys hne => exact noMatch_head hne xs ys
  | case3 mx xs ys hn =>
    cases mx with
    | zero => exact h
    | succ mx => exact noMatch_zero fun x xs y ys => hn mx x xs y ys rfl

/-- the re-checked snake is a common prefix -/
theorem lcsRec_snakeLen (mx : Nat) (xs ys : List α) :
    lcsRec xs ys = snakeLen mx xs ys +
      lcsRec (xs.drop (snakeLen mx xs ys)) (ys.drop (snakeLen mx xs ys)) := by
  have ⟨h1, h2⟩ := snakeLen_spec mx xs ys
  generalize snakeLen mx xs ys = s at h1 h2 ⊢
  have h := lcsRec_prefix (xs.take s) (xs.drop s) (ys.drop s)
  rwa [List.take_append_drop, h1, h2, List.take_append_drop] at h

def Pre (a b : List α) : Prop :=
  NoMatch a b 0 0 ∧ ∀ x y, x + 1 = a.length → y + 1 = b.length → NoMatch a b x y

omit [DecidableEq α] in
theorem pre_take (a b : List α) (i j : Nat) (hi : i ≤ a.length) (hj : j ≤ b.length)
    (h0 : NoMatch a b 0 0) (hlast : ∀ x y, x + 1 = i → y + 1 = j → NoMatch a b x y) :
    Pre (a.take i) (b.take j) := by
  refine ⟨noMatch_take a b i j 0 0 h0, fun x y hx hy => noMatch_take a b i j x y (hlast x y ?_ ?_)⟩
  · rwa [List.length_take, Nat.min_eq_left hi] at hx
  · rwa [List.length_take, Nat.min_eq_left hj] at hy

omit [DecidableEq α] in
theorem pre_drop (a b : List α) (p q : Nat) (h0 : NoMatch a b p q)
    (hlast : ∀ x y, x + 1 = a.length → y + 1 = b.length → NoMatch a b x y) :
    Pre (a.drop p) (b.drop q) := by
  refine ⟨(noMatch_drop a b p q 0 0).mpr h0,
    fun x y hx hy => (noMatch_drop a b p q x y).mpr (hlast _ _ ?_ ?_)⟩
  · rw [List.length_drop] at hx; omega
  · rw [List.length_drop] at hy; omega

theorem dist_ge_two (a b : List α) (ha : 0 < a.length) (hb : 0 < b.length) (hp : Pre a b) :
    2 + 2 * lcsRec a b ≤ a.length + b.length := by
  obtain ⟨h0, h1⟩ := hp
  obtain ⟨m, hm⟩ := Nat.exists_eq_add_one_of_ne_zero (Nat.ne_of_gt ha)
  obtain ⟨n, hn⟩ := Nat.exists_eq_add_one_of_ne_zero (Nat.ne_of_gt hb)
  apply Classical.byContradiction
  intro hlt
  -- else the far corner is within 1 of the origin; no match enters it, so a neighbour is within 0: a point of the
  -- main diagonal reached by matches alone, and there is no match at the origin
  have hd : Dle a b 1 (m + 1) (n + 1) := by
    unfold Dle
    rw [← hm, ← hn, Lp_full]
    omega
  have hz : ∀ x : Nat, ¬ Dle a b 0 (x + 1) (x + 1) := fun x hdx =>
    dle_nomatch_zero a b 0 0 h0 (dle_diag_back a b 0 _ _ 1 1 hdx (by omega) (by omega))
  rcases dle_nomatch_succ a b 0 m n (h1 m n hm.symm hn.symm) hd with h | h
  · have hb' := dle_diagonal_bound a b 0 _ _ h
    obtain rfl : m = n + 1 := by omega
    exact hz _ h
  · have hb' := dle_diagonal_bound a b 0 _ _ h
    obtain rfl : n = m + 1 := by omega
    exact hz _ h

theorem GoodSplit.not_corner {a b : List α} {ai bi mx : Nat} (h : GoodSplit a b ai bi mx)
    (hdist : 2 + 2 * lcsRec a b ≤ a.length + b.length) :
    ¬ ((ai = a.length ∧ bi = b.length) ∨ (ai = 0 ∧ bi = 0)) := by
  obtain ⟨d, d', hdd, htot, hhalf⟩ := h.half
  rintro (⟨rfl, rfl⟩ | ⟨rfl, rfl⟩)
  · rw [Lp_full] at hhalf
    omega
  · rw [Lp_zero_left] at hhalf
    omega

omit [DecidableEq α] in
theorem take_shorter (a b : List α) (i j fuel : Nat) (hi : i ≤ a.length) (hj : j ≤ b.length)
    (hne : ¬ (i = a.length ∧ j = b.length)) (hf : a.length + b.length < fuel + 1) :
    (a.take i).length + (b.take j).length < fuel := by
  rw [List.length_take, List.length_take, Nat.min_eq_left hi, Nat.min_eq_left hj]
  omega

omit [DecidableEq α] in
theorem drop_shorter (a b : List α) (i j fuel : Nat) (ha : 0 < a.length) (hb : 0 < b.length)
    (hne : ¬ (i = 0 ∧ j = 0)) (hf : a.length + b.length < fuel + 1) :
    (a.drop i).length + (b.drop j).length < fuel := by
  rw [List.length_drop, List.length_drop]
  omega

section
variable {raw : List α → List α → Option (Nat × Nat × Nat)} (hraw : GoodOracle raw)
include hraw

theorem traceWith_total (fuel : Nat) (a b : List α) (hf : a.length + b.length < fuel) (hp : Pre a b) :
    ∃ t, traceWith raw fuel a b = some t := by
  induction fuel generalizing a b with
  | zero => omega
  | succ fuel ih =>
    unfold traceWith
    -- one side empty (1, 2) or a single element (3, 4); the split (5)
    split
    case h_1 => exact ⟨_, rfl⟩
    case h_2 => exact ⟨_, rfl⟩
    case h_3 => split <;> exact ⟨_, rfl⟩
    case h_4 => split <;> exact ⟨_, rfl⟩
    case h_5 hna _ hnb _ =>
      have hla : 0 < a.length := List.length_pos_iff.mpr hna
      have hlb : 0 < b.length := List.length_pos_iff.mpr hnb
      have hdist := dist_ge_two a b hla hlb hp
      obtain ⟨ai, bi, mx, hmid, hgood⟩ := hraw a b
      have hcorner := hgood.not_corner hdist
      rw [hmid]
      simp only
      rw [if_neg (not_or.mpr ⟨Nat.not_lt.mpr hgood.opt.1, Nat.not_lt.mpr hgood.opt.2.1⟩),
        if_neg hcorner]
      -- a mismatch follows the re-checked snake, because one follows the bound `mx` of the search
      have hsn := (noMatch_drop a b ai bi _ _).mp
        (snakeLen_stop mx _ _ ((noMatch_drop a b ai bi mx mx).mpr hgood.after))
      generalize snakeLen mx (a.drop ai) (b.drop bi) = s at hsn ⊢
      obtain ⟨l, hl⟩ := ih (a.take ai) (b.take bi)
        (take_shorter a b ai bi fuel hgood.opt.1 hgood.opt.2.1 (fun h => hcorner (Or.inl h)) hf)
        (pre_take a b ai bi hgood.opt.1 hgood.opt.2.1 hp.1 hgood.before)
      obtain ⟨r, hr⟩ := ih (a.drop (ai + s)) (b.drop (bi + s))
        (drop_shorter a b _ _ fuel hla hlb (fun h => hcorner (Or.inr (by omega))) hf)
        (pre_drop a b _ _ hsn hp.2)
      rw [hl, hr]
      exact ⟨_, rfl⟩

theorem lcsWith_total (a b : List α) : ∃ cs, lcsWith raw a b = some cs := by
  unfold lcsWith lcsRawWith
  simp only
  generalize hp : commonPrefix a b = p
  have hstop := commonPrefix_stop a b
  rw [hp] at hstop
  generalize hs : commonSuffix (a.drop p) (b.drop p) = s
  have hpre : Pre ((a.drop p).take ((a.drop p).length - s)) ((b.drop p).take ((b.drop p).length - s)) :=
    pre_take _ _ _ _ (Nat.sub_le _ _) (Nat.sub_le _ _) ((noMatch_drop a b p p 0 0).mpr hstop)
      (fun x y hx hy => commonSuffix_stop hs x y (by omega) (by omega))
  obtain ⟨t, ht⟩ := traceWith_total hraw _ _ _ (Nat.lt_succ_self _) hpre
  rw [ht]
  exact ⟨_, rfl⟩

theorem optimalSplit_of_good : OptimalSplit raw := by
  intro a b ai bi mx h _ _
  obtain ⟨ai', bi', mx', h', hgood⟩ := hraw a b
  obtain ⟨rfl, rfl, rfl⟩ : ai' = ai ∧ bi' = bi ∧ mx' = mx := by
    simpa using h'.symm.trans h
  have h3 := hgood.opt.2.2
  have hs := lcsRec_snakeLen mx' (a.drop ai') (b.drop bi')
  simp only [List.drop_drop] at hs
  unfold Lp Ls at h3
  omega

theorem lcsWith_spec (a b : List α) : ∃ cs, lcsWith raw a b = some cs ∧ Valid cs a b ∧
    scriptCost cs + 2 * lcsRec a b = a.length + b.length := by
  obtain ⟨cs, h⟩ := lcsWith_total hraw a b
  exact ⟨cs, h, lcsWith_valid raw a b cs h, lcsWith_minimal raw (optimalSplit_of_good hraw) a b cs h⟩

end

end TmVerif.Diff
