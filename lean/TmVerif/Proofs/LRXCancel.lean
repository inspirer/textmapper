import TmVerif.Proofs.LRXStep
/-!
Cancellation (C29): the run with `cancelAt = k` against the run with `cancelAt = 0`, and the bound on
the number of shifts after the cancellation.
-/
namespace TmVerif.LRX
open TmVerif.LR

theorem xrunLoop_cancel (x : XTables) (inp : Input) (fin : Int) (stop : Bool) (k : Nat) (fuel : Nat)
    (c : XCfg) :
    xrunLoop x inp fin stop k fuel c = xrunLoop x inp fin stop 0 fuel c ∨
      ((xrunLoop x inp fin stop k fuel c).1 = .cancelled ∧
        (xrunLoop x inp fin stop k fuel c).2.evs <:+ (xrunLoop x inp fin stop 0 fuel c).2.evs) := by
  induction fuel generalizing c with
  | zero => exact .inl rfl
  | succ n ih =>
    by_cases hfin : c.state = fin
    · left; rw [xrunLoop_succ_fin hfin, xrunLoop_succ_fin hfin]
    · rcases xstep_cancel x inp fin stop k c with h | ⟨c', h, he⟩
      · cases hs : xstep x inp fin stop 0 c with
        | cont c' =>
          rw [xrunLoop_succ_cont hfin (h.trans hs), xrunLoop_succ_cont hfin hs]
          exact ih c'
        | done r c' =>
          rw [xrunLoop_succ_done hfin (h.trans hs), xrunLoop_succ_done hfin hs]
          exact .inl rfl
      · right
        rw [xrunLoop_succ_done hfin h]
        refine ⟨rfl, ?_⟩
        show c'.evs <:+ _
        rw [he]
        exact (xrunLoop_moves x inp fin stop 0 (n + 1) c).evs_suffix

/-- only a polled iteration moves the counter, by one (a panic may leave it) -/
theorem preBody_shiftCounter (x : XTables) (inp : Input) (c1 : XCfg) (a : Act) :
    (preBody x inp c1 a).cfg.shiftCounter = c1.shiftCounter ∨
      (polled x c1 a = true ∧ (preBody x inp c1 a).cfg.shiftCounter = c1.shiftCounter + 1) := by
  cases a with
  | reduce r => exact .inl (xreducePre_moves x inp (false, false) c1 r).1.shiftCounter_eq
  | shift q =>
    unfold preBody polled
    cases c1.next with
    | none => exact .inl rfl
    | some tk => cases hc : x.cancellable <;> simp [XPre.cfg]
  | error =>
    unfold preBody polled
    cases failedShift x c1 <;> simp [XPre.cfg]

theorem xpre_shiftCounter (x : XTables) (inp : Input) (k : Nat) (c : XCfg)
    (hk : k ≠ 0) (hn : c.nodeCount ≥ k) :
    (xpre x inp k c).cfg.shiftCounter = c.shiftCounter ∨
      ((xpre x inp k c).cfg.shiftCounter = c.shiftCounter + 1 ∧
        ((c.shiftCounter + 1) % 512 = 0 → ∃ c', xpre x inp k c = .done .cancelled c')) := by
  unfold xpre
  cases hd : xdecode x inp c with
  | none => exact .inl rfl
  | some p =>
    have hs := (xdecode_moves (false, false) (c1 := p.1) (a := p.2) hd).shiftCounter_eq
    dsimp only
    by_cases hg : polled x p.1 p.2 = true ∧ pollHit k p.1
    · rw [if_pos hg]
      exact .inr ⟨congrArg (· + 1) hs, fun _ => ⟨_, rfl⟩⟩
    · rw [if_neg hg, ← hs]
      refine (preBody_shiftCounter x inp p.1 p.2).imp_right fun ⟨hp, h1⟩ => ⟨h1, fun hm => ?_⟩
      refine absurd ⟨hp, hm, hk, ?_⟩ hg
      unfold XCfg.nodeCount
      rw [xdecode_evs (c1 := p.1) (a := p.2) hd]
      exact hn

theorem below_bound {n B : Nat} {r : XResult} (h : n < B) : n ≤ B ∧ (n = B → r = .cancelled) :=
  ⟨Nat.le_of_lt h, fun e => absurd e (Nat.ne_of_lt h)⟩

theorem xstep_shiftCounter_below (x : XTables) (inp : Input) (fin : Int) (stop : Bool) (k : Nat) (c : XCfg)
    (hk : k ≠ 0) (hn : c.nodeCount ≥ k) {B : Nat} (hB : B % 512 = 0)
    (hlt : c.shiftCounter < B) :
    (xstep x inp fin stop k c).Holds (fun c' => c'.shiftCounter < B ∧ c'.nodeCount ≥ k)
      (fun r c' => c'.shiftCounter ≤ B ∧ (c'.shiftCounter = B → r = .cancelled)) := by
  have hnc : (xstep x inp fin stop k c).cfg.nodeCount ≥ k :=
    Nat.le_trans hn (nodeCount_mono (xstep_moves x inp fin stop k c).evs_suffix)
  have key : (xstep x inp fin stop k c).cfg.shiftCounter < B ∨
      ((xstep x inp fin stop k c).cfg.shiftCounter = B ∧
        ∃ c', xstep x inp fin stop k c = .done .cancelled c') := by
    -- first flag `false`: `onError` makes no `shift` or `bump` move, the only ones that write the counter
    rw [xstep_pre, (XPre.run_cfg_moves inp (b := false) fin stop _).shiftCounter_eq]
    rcases xpre_shiftCounter x inp k c hk hn with h | ⟨h, hm⟩
    · exact .inl (h ▸ hlt)
    · rcases Nat.lt_or_eq_of_le (show c.shiftCounter + 1 ≤ B from hlt) with h6 | h6
      · exact .inl (h ▸ h6)
      · obtain ⟨c', hc'⟩ := hm (h6 ▸ hB)
        exact .inr ⟨h.trans h6, c', by rw [hc']; rfl⟩
  cases hs : xstep x inp fin stop k c with
  | cont c' =>
    rw [hs] at key hnc
    rcases key with h | ⟨_, _, h⟩
    · exact ⟨h, hnc⟩
    · cases h
  | done r c' =>
    rw [hs] at key
    rcases key with h | ⟨h, _, h'⟩
    · exact below_bound h
    · cases h'; exact ⟨Nat.le_of_eq h, fun _ => rfl⟩

theorem xrunLoop_shiftCounter_bound (x : XTables) (inp : Input) (fin : Int) (stop : Bool) (k : Nat)
    (hk : k ≠ 0) (fuel : Nat) (c : XCfg) (B : Nat)
    (hB : B % 512 = 0) (hlt : c.shiftCounter < B) (hn : c.nodeCount ≥ k) :
    (xrunLoop x inp fin stop k fuel c).2.shiftCounter ≤ B ∧
      ((xrunLoop x inp fin stop k fuel c).2.shiftCounter = B →
        (xrunLoop x inp fin stop k fuel c).1 = .cancelled) :=
  xrunLoop_induct (fun _ h => below_bound h.1) (fun _ h _ => below_bound h.1)
    (fun c h _ => xstep_shiftCounter_below x inp fin stop k c hk h.2 hB h.1) fuel c ⟨hlt, hn⟩

theorem xrunLoop_cancelled {x : XTables} {inp : Input} {fin : Int} {stop : Bool} {k : Nat} (fuel : Nat)
    (c : XCfg) (h : (xrunLoop x inp fin stop k fuel c).1 = .cancelled) :
    x.cancellable = true ∧ k ≠ 0 :=
  xrunLoop_induct (P := fun _ => True) (Q := fun r _ => r = .cancelled → x.cancellable = true ∧ k ≠ 0)
    (fun _ _ h => nomatch h) (fun _ _ _ h => nomatch h)
    (fun c _ _ => by
      cases hs : xstep x inp fin stop k c with
      | cont c' => exact trivial
      | done r c' =>
        rintro rfl
        exact (((xstep_done hs).resolve_left nofun).resolve_left nofun).2) fuel c trivial h

theorem xrun_cancelled {x : XTables} {inp : Input} {input : Nat} {stop : Bool} {k fuel : Nat}
    (h : (xrun x inp input stop k fuel).1 = .cancelled) : x.cancellable = true ∧ k ≠ 0 := by
  unfold xrun at h
  split at h
  · cases h
  · exact xrunLoop_cancelled fuel _ h

end TmVerif.LRX
