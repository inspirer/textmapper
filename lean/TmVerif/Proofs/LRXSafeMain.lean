/-
C19 panic-freedom and halting: `onError`, `xstep` and `xrunLoop` under the invariant `XInv`.

Halting: under the certificates the potential
`W · (2 · (tokens left) + [not committed]) + weight · (stack height) + rank i (next token) (top state)`
decreases with every iteration of `xrunLoop`, recovery included. `Committed` holds after a recovery:
`reduceAll` has checked that the reductions under the next token end in a shift, so no second error
can occur before a token is consumed.
-/
import TmVerif.Proofs.LRXSafeRecover
import TmVerif.Proofs.LRXRecover
namespace TmVerif.LRX
open TmVerif.LR TmVerif.CFG TmVerif.LRSound
open TmVerif.EventNesting (nx)
variable {g : Grammar} {x : XTables} {cert : Cert} {xc : XCert} {i : Nat}

theorem errPrelude_inv {inp : Input} {c : XCfg} (h : XInv g x cert i inp c) :
    XInv g x cert i inp (errPrelude inp c) ∧ nx (errPrelude inp c) = nx c ∧
      (errPrelude inp c).stack = c.stack := by
  unfold errPrelude
  split
  · have hfetch := h.fetch
    obtain ⟨_, _, _, _, _, _, hn⟩ := h
    -- `XInv` reads `stack`, `state`, `next` and `pos` only
    exact ⟨hfetch, fetch_nx inp c hn, fetch_stack inp c⟩
  · exact ⟨h, rfl, rfl⟩

theorem onError_spec (hc : CertFacts g x.t cert) (hx : XFacts g x cert xc) {inp : Input}
    (htok : TokOk x.t inp) (fin : Int) (hfi : fin = finOf x i) (stop : Bool) (c : XCfg)
    (h : XInv g x cert i inp c) :
    (∃ o e c', onError x inp fin stop c = .done (.syntaxError o e) c') ∨
    (∃ c3, onError x inp fin stop c = .cont c3 ∧ RecPost g x cert i inp fin c c3) := by
  cases hr : x.recovering with
  | false =>
    rw [onError_eq_norec inp fin stop c hr]
    exact Or.inl ⟨_, _, _, rfl⟩
  | true =>
    rw [onError_eq_rec inp fin stop c hr]
    split
    · exact Or.inl ⟨_, _, _, rfl⟩
    · obtain ⟨h1, p1, p2⟩ := errPrelude_inv h
      have hinv : XInv g x cert i inp { errPrelude inp c with recovering := 4 } := h1
      obtain ⟨res, hres, hok⟩ := recoverFromError_total hc hx hr htok fin hfi _ hinv
      rw [hres]
      cases res with
      | none => exact Or.inl ⟨_, _, _, rfl⟩
      | some c3 =>
        exact Or.inr ⟨c3, rfl, (hok c3 rfl).mono p2 (Nat.le_of_eq p1.symm)⟩

theorem xstep_safe (hc : CertFacts g x.t cert) (hx : XFacts g x cert xc) {inp : Input}
    (htok : TokOk x.t inp) (fin : Int) (hfi : fin = finOf x i) (stop : Bool) (k : Nat) (c : XCfg)
    (h : XInv g x cert i inp c) (hne : c.state ≠ fin) :
    (xstep x inp fin stop k c).Holds (XInv g x cert i inp) (fun r _ => r ≠ .panic) := by
  obtain ⟨s, rest, syms, hstk, hmap, hst, hn⟩ := h
  have hp := xpre_spec hc hx htok k fin c hstk hmap hst hn hfi hne
  rw [xstep_pre]
  generalize xpre x inp k c = p at hp
  cases hp with
  | cancelled c' => exact fun h => nomatch h
  | reduce c' s' rest' syms' h1 h2 h3 h4 => exact ⟨s', rest', syms', h1, h2, h3, h4⟩
  | shift c' q _ _ _ hinv => exact hinv
  | err c' _ hinv =>
    show (onError x inp fin stop c').Holds _ _
    rcases onError_spec hc hx htok fin hfi stop c' hinv with ⟨_, _, _, h⟩ | ⟨_, h, h'⟩
    · exact h ▸ fun h => nomatch h
    · exact h ▸ h'.1

theorem xrunLoop_no_panic (hc : CertFacts g x.t cert) (hx : XFacts g x cert xc) {inp : Input}
    (htok : TokOk x.t inp) (fin : Int) (hfi : fin = finOf x i) (stop : Bool) (k : Nat) :
    ∀ (fuel : Nat) (c : XCfg), XInv g x cert i inp c →
      (xrunLoop x inp fin stop k fuel c).1 ≠ .panic :=
  xrunLoop_induct (fun _ _ h => nomatch h) (fun _ _ _ h => nomatch h)
    (xstep_safe hc hx htok fin hfi stop k)

theorem XIter.inv (hc : CertFacts g x.t cert) (hx : XFacts g x cert xc) {inp : Input}
    (htok : TokOk x.t inp) {fin : Int} (hfi : fin = finOf x i) {stop : Bool} {k : Nat}
    {c c' : XCfg} {m : Nat}
    (h : XIter x inp fin stop k c c' m) (hinv : XInv g x cert i inp c) : XInv g x cert i inp c' := by
  induction h with
  | refl => exact hinv
  | step hne hs _ ih =>
    apply ih
    have := xstep_safe hc hx htok fin hfi stop k _ hinv hne
    rw [hs] at this
    exact this

theorem Committed.succ {inp : Input} {fin : Int} {c : XCfg} {s : Nat} {rest : List Nat}
    (h : Committed x inp fin c) (hmap : c.stack.map (·.state) = (s :: rest).map Int.ofNat) :
    ∃ n, simC x (symAt inp (nx c)) fin (n + 1) (s :: rest) = some true := by
  obtain ⟨sts, n, hm, hs1⟩ := h
  obtain rfl : sts = s :: rest :=
    (List.map_inj_right fun _ _ => Int.ofNat.inj).1 (hm.symm.trans hmap)
  cases n with
  | zero => rw [simC] at hs1; cases hs1
  | succ n => exact ⟨n, hs1⟩

/-- a reduction of the real loop is the first step of the simulation `reduceAll` has made -/
theorem Committed.reduce {inp : Input} {fin : Int} {c c' : XCfg} {s s' : Nat} {rest rest' : List Nat}
    (h : Committed x inp fin c) (hmap : c.stack.map (·.state) = (s :: rest).map Int.ofNat)
    (hmap' : c'.stack.map (·.state) = (s' :: rest').map Int.ofNat) (hidx : nx c' = nx c)
    (hsim : ∀ n, simC x (symAt inp (nx c)) fin (n + 1) (s :: rest) =
      simC x (symAt inp (nx c)) fin n (s' :: rest')) : Committed x inp fin c' := by
  obtain ⟨n, hs1⟩ := h.succ hmap
  exact ⟨s' :: rest', n, hmap', by rw [hidx, ← hsim]; exact hs1⟩

theorem Committed.not_error {inp : Input} {fin : Int} {c : XCfg} {s : Nat} {rest : List Nat}
    (h : Committed x inp fin c) (hmap : c.stack.map (·.state) = (s :: rest).map Int.ofNat)
    (hne : (s : Int) ≠ fin) (hact : actOf x.t noDeep s (symAt inp (nx c)) = some .error) : False := by
  obtain ⟨n, hs1⟩ := h.succ hmap
  rw [simC] at hs1
  simp only [hne, if_false, hact] at hs1
  cases hs1

def HaltFacts (g : Grammar) (x : XTables) (cert : Cert) : Prop :=
  ∀ i, i < g.inputs.size → ∀ p X q, (p, X, q) ∈ xedges x → p ∈ reachOf cert i → X = 0 →
    (p : Int) ≠ finOf x i → q = finOf x i

theorem haltFacts (h : xhaltOk g x cert = true) : HaltFacts g x cert := by
  intro i hi p X q hm hp hX hpf
  unfold xhaltOk at h
  simp only [List.all_eq_true, List.mem_range] at h
  have := h i hi (p, X, q) hm
  simp only [Bool.or_eq_true, Bool.not_eq_true', List.contains_eq_mem, decide_eq_false_iff_not,
    bne_iff_ne, ne_eq, beq_iff_eq] at this
  rcases this with ((h1 | h1) | h1) | h1
  · exact absurd hp h1
  · exact absurd hX h1
  · exact absurd h1 hpf
  · exact h1

def xpsi (x : XTables) (xc : XCert) (i : Nat) (inp : Input) (b : Bool) (c : XCfg) : Nat :=
  rankW x.t xc * (2 * (inp.toks.size - nx c) + (if b then 0 else 1)) +
    xc.weight * c.stack.length + rankOf xc i (symAt inp (nx c)) c.state.toNat + 1

theorem XInv.rank_le (hc : CertFacts g x.t cert) (hx : XFacts g x cert xc) {inp : Input}
    (htok : TokOk x.t inp) {c : XCfg} (h : XInv g x cert i inp c) :
    rankOf xc i (symAt inp (nx c)) c.state.toNat ≤ rankBound x := by
  obtain ⟨s, rest, syms, hstk, _, hst, _⟩ := h
  have h0 : 0 < x.t.nTerms := hc.nTermsPos
  rw [hst, Int.toNat_natCast]
  exact hx.rk.rankB i _ s hstk.input_lt (symAt_lt_nTerms htok h0 _).1 (hstk.lt hc s List.mem_cons_self)

theorem xpsi_eq {inp : Input} {b : Bool} {c : XCfg} {s : Nat} {rest : List Nat}
    (hmap : c.stack.map (·.state) = (s :: rest).map Int.ofNat) (hst : c.state = (s : Int)) :
    xpsi x xc i inp b c = rankW x.t xc * (2 * (inp.toks.size - nx c) + (if b then 0 else 1)) +
      phi xc i (symAt inp (nx c)) (s :: rest) + 1 := by
  unfold xpsi
  rw [Nat.add_assoc (rankW x.t xc * _), phi_of_stack _ hmap hst]

/-- `W` pays for the one stack entry the step may add and for any rank -/
theorem xpsi_lt (hc : CertFacts g x.t cert) (hx : XFacts g x cert xc) {inp : Input}
    (htok : TokOk x.t inp) {b b' : Bool} {c c' : XCfg} (hinv' : XInv g x cert i inp c')
    (hu : 2 * (inp.toks.size - nx c') + (if b' then 0 else 1) + 1 ≤
      2 * (inp.toks.size - nx c) + (if b then 0 else 1))
    (hlen : c'.stack.length ≤ c.stack.length + 1) : xpsi x xc i inp b' c' < xpsi x xc i inp b c :=
  Nat.succ_lt_succ (pot_unit_lt (Nat.le_of_eq (rankW_eq x xc).symm) hu hlen
    (hinv'.rank_le hc hx htok))

/-- at `xinit`: no token consumed, a stack of height 1, not committed -/
theorem xpsi_xinit_le (hc : CertFacts g x.t cert) (hx : XFacts g x cert xc) {inp : Input}
    (htok : TokOk x.t inp) (hinv : XInv g x cert i inp (xinit inp i)) :
    xpsi x xc i inp false (xinit inp i) ≤ (2 * inp.toks.size + 2) * (4 * x.t.nStates + 12 + xc.weight) := by
  have hr : rankOf xc i (symAt inp 0) (xinit inp i).state.toNat ≤ _ := hinv.rank_le hc hx htok
  show rankW x.t xc * (2 * inp.toks.size + 1) + xc.weight * 1 +
    rankOf xc i (symAt inp 0) (xinit inp i).state.toNat + 1 ≤ _
  rw [Nat.mul_comm _ (4 * x.t.nStates + 12 + xc.weight), Nat.mul_succ _ (2 * inp.toks.size + 1)]
  unfold rankW rankBound at *
  omega

theorem two_mul_sub_succ {n m : Nat} (h : m < n) : 2 * (n - (m + 1)) + 2 ≤ 2 * (n - m) := by
  omega

theorem xrunLoop_halts (hc : CertFacts g x.t cert) (hx : XFacts g x cert xc)
    (hh : HaltFacts g x cert) {inp : Input} (htok : TokOk x.t inp) (fin : Int)
    (hfi : fin = finOf x i) (stop : Bool) (k : Nat) :
    ∀ (fuel : Nat) (c : XCfg) (b : Bool), XInv g x cert i inp c →
      (b = true → Committed x inp fin c) → xpsi x xc i inp b c < fuel →
      (xrunLoop x inp fin stop k fuel c).1 ≠ .fuel := by
  intro fuel
  induction fuel with
  | zero => exact fun _ _ _ _ h => absurd h (Nat.not_lt_zero _)
  | succ fuel ih =>
    intro c b hinv hcom hpsi
    rw [xrunLoop]
    split
    · exact fun h => nomatch h
    · next hne =>
      obtain ⟨s, rest, syms, hstk, hmap, hst, hn⟩ := hinv
      have hout := xpre_spec hc hx htok k fin c hstk hmap hst hn hfi hne
      have hdec : ∀ {b' c'}, xpsi x xc i inp b' c' < xpsi x xc i inp b c →
          xpsi x xc i inp b' c' < fuel :=
        fun h => Nat.lt_of_lt_of_le h (Nat.le_of_lt_succ hpsi)
      rw [xstep_pre]
      generalize xpre x inp k c = p at hout
      cases hout with
      | cancelled c' => exact fun h => nomatch h
      | reduce c' s' rest' syms' hstk' hmap' hst' hn' hidx' hphi hsim =>
        refine ih c' b ⟨s', rest', syms', hstk', hmap', hst', hn'⟩
          (fun hb => (hcom hb).reduce hmap hmap' hidx' hsim) (hdec ?_)
        rw [xpsi_eq hmap' hst', hidx', xpsi_eq hmap hst]
        exact Nat.succ_lt_succ (Nat.add_lt_add_left hphi _)
      | shift c' q hedge hlen hst' hinv' hidx1 =>
        show (xrunLoop x inp fin stop k fuel c').1 ≠ .fuel
        by_cases hz : symAt inp (nx c) = 0
        · -- EOI: the target is the final state
          have hq := hh i hstk.input_lt s _ q hedge (hstk.mem_reach s List.mem_cons_self) hz
            (by rw [← hst, ← hfi]; exact hne)
          have hfin' : c'.state = fin := by rw [hst', hq, hfi]
          cases fuel with
          | zero => exact absurd (Nat.lt_of_succ_lt_succ hpsi) (Nat.not_lt_zero _)
          | succ f => rw [xrunLoop_succ_fin hfin']; exact fun h => nomatch h
        · have hlt : nx c < inp.toks.size := Nat.lt_of_not_le fun h => hz (symAt_ge inp h)
          refine ih c' false hinv' (fun h => nomatch h)
            (hdec (xpsi_lt hc hx htok hinv' ?_ (Nat.le_of_eq hlen)))
          rw [hidx1 hz]
          exact Nat.le_trans (two_mul_sub_succ hlt) (Nat.le_add_right _ _)
      | err c' hact hinv' hstk' hidx' =>
        obtain rfl : b = false :=
          Bool.eq_false_iff.2 fun hb => (hcom hb).not_error hmap (hst ▸ hne) hact
        show (match onError x inp fin stop c' with
          | .cont c'' => xrunLoop x inp fin stop k fuel c''
          | .done r c'' => (r, c'')).1 ≠ .fuel
        rcases onError_spec hc hx htok fin hfi stop c' hinv' with ⟨o, e, c'', h2⟩ | ⟨c3, h2, h3⟩
        · rw [h2]; exact fun h => nomatch h
        · rw [h2]
          obtain ⟨r1, r2, r3, r5⟩ := h3
          exact ih c3 true r1 (fun _ => r5) (hdec (xpsi_lt hc hx htok r1
            (Nat.succ_le_succ (Nat.mul_le_mul_left 2 (Nat.sub_le_sub_left (hidx' ▸ r2) _))) (hstk' ▸ r3)))

end TmVerif.LRX
