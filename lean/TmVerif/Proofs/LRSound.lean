/-
How the decoded action depends on the deep-lookahead oracle (`actOf_cell`), what `certOk` and
`Grammar.wf` say, and the transition relation `Edge` with its membership in `edges`.
-/
import TmVerif.Model.LRSoundK
import TmVerif.Proofs.LR
namespace TmVerif.LRSound
open TmVerif.LR TmVerif.CFG
open TmVerif.LRSoundK (cellPtr)

/-- The oracle matters only in a cell that holds a pointer, and there only through its answer. -/
theorem actOf_cell (t : Tables) (deep : Int → Option Int) (s a : Int) :
    actOf t deep s a = match cellPtr t s a with
      | none => actOf t noDeep s a
      | some x => (deep x).bind fun r => actOf t (fun _ => some r) s a := by
  -- row by row of `cellPtr`: `actOf` makes the same tests; `case4` is the row with the pointer
  fun_cases cellPtr t s a <;> unfold actOf <;> simp only [*, if_true, if_false, Bool.false_eq_true]
  case case4 x _ _ => cases deep x <;> rfl

theorem actOf_mono (t : Tables) (deep deep' : Int → Option Int) (s a : Int) (x : Act)
    (hd : ∀ p r, deep p = some r → deep' p = some r)
    (h : actOf t deep s a = some x) : actOf t deep' s a = some x := by
  rw [actOf_cell] at h ⊢
  cases hp : cellPtr t s a with
  | none => rw [hp] at h; exact h
  | some y =>
    simp only [hp] at h ⊢
    cases hy : deep y with
    | none => rw [hy] at h; cases h
    | some r => rw [hy] at h; rw [hd y r hy]; exact h

theorem actOf_noDeep (t : Tables) (deep : Int → Option Int) (s a : Int) (x : Act)
    (h : actOf t noDeep s a = some x) : actOf t deep s a = some x :=
  actOf_mono t noDeep deep s a x (fun _ _ h => nomatch h) h

structure CertFacts (g : Grammar) (t : Tables) (cert : Cert) : Prop where
  wf : g.wf = true
  nTerms : t.nTerms = g.nTerms
  nSyms : t.nSyms = g.nSyms
  nIn : g.inputs.size ≤ t.nStates
  fin : t.finalStates.size = g.inputs.size
  pastEntry : ∀ i, i < g.inputs.size → pastOf cert (i : Nat) = []
  acts : ∀ s, s < t.nStates → ∀ x ∈ stateActs t s, actOk g t cert s x = true
  gotos : ∀ s, s < t.nStates → ∀ k, k < t.nSyms - t.nTerms →
    gotoOk g.inputs.size t cert s (t.nTerms + k) = true
  finals : ∀ i, i < g.inputs.size → finalOk g t cert i = true

theorem certFacts {g : Grammar} {t : Tables} {cert : Cert} (h : certOk g t cert = true) :
    CertFacts g t cert := by
  unfold certOk at h
  simp only [Bool.and_eq_true, decide_eq_true_eq, List.all_eq_true, List.mem_range,
    beq_iff_eq] at h
  obtain ⟨⟨⟨⟨⟨⟨⟨⟨h1, h2⟩, h3⟩, h4⟩, h5⟩, _⟩, h7⟩, h8⟩, h9⟩ := h
  exact ⟨h1, h2, h3, h4, h5, h7, fun s hs => (h8 s hs).1, fun s hs => (h8 s hs).2, h9⟩

structure WfFacts (g : Grammar) : Prop where
  nTermsPos : 1 ≤ g.nTerms
  le : g.nTerms ≤ g.nSyms
  rules : ∀ r ∈ g.rules.toList, g.nTerms ≤ r.lhs ∧ r.lhs < g.nSyms ∧ ∀ s ∈ r.rhs, 0 < s ∧ s < g.nSyms
  inputs : ∀ i ∈ g.inputs.toList, g.nTerms ≤ i.sym ∧ i.sym < g.nSyms

theorem wfFacts {g : Grammar} (h : g.wf = true) : WfFacts g := by
  unfold Grammar.wf at h
  simp only [Bool.and_eq_true, decide_eq_true_eq, Array.all_eq_true_iff_forall_mem, List.all_eq_true, ge_iff_le] at h
  obtain ⟨⟨⟨h1, h2⟩, h3⟩, h4⟩ := h
  refine ⟨h1, h2, ?_, ?_⟩
  · intro r hr
    have := h3 r (Array.mem_toList_iff.mp hr)
    exact ⟨this.1.1, this.1.2, this.2⟩
  · intro i hi
    exact h4 i (Array.mem_toList_iff.mp hi)

def TermEdge (t : Tables) (p a : Nat) (q : Int) : Prop :=
  p < t.nStates ∧ a < t.nTerms ∧ needsTok t p = some true ∧ actOf t noDeep p a = some (.shift q)

def NtEdge (t : Tables) (p X : Nat) (q : Int) : Prop :=
  p < t.nStates ∧ t.nTerms ≤ X ∧ X < t.nSyms ∧ gotoState t p X = some q ∧ 0 ≤ q

def Edge (t : Tables) (p X : Nat) (q : Int) : Prop := TermEdge t p X q ∨ NtEdge t p X q

theorem Edge.lt {t : Tables} {p X : Nat} {q : Int} (h : Edge t p X q) : p < t.nStates := by
  rcases h with h | h <;> exact h.1

theorem mem_stateActs_tok {t : Tables} {s a : Nat} (hnt : needsTok t s = some true)
    (ha : a < t.nTerms) : (some a, actOf t noDeep s a) ∈ stateActs t s := by
  unfold stateActs
  rw [hnt]
  exact List.mem_map.mpr ⟨a, List.mem_range.mpr ha, rfl⟩

theorem mem_stateActs_notok {t : Tables} {s : Nat} (hnt : needsTok t s = some false) :
    (none, actOf t noDeep s 0) ∈ stateActs t s := by
  unfold stateActs
  rw [hnt]
  exact List.mem_singleton.mpr rfl

/-- Everything a proof needs to know about what `decode` finds in a certified state;
`(if b then some a else none, some act)` is the entry of `stateActs` under which `actOk` accepted
the action. -/
theorem cell_cert {g : Grammar} {t : Tables} {cert : Cert} (hc : CertFacts g t cert) {s a : Nat}
    (hs : s < t.nStates) (ha : a < t.nTerms) :
    ∃ b act, needsTok t s = some b ∧ (∀ deep, actOf t deep s a = some act) ∧
      (if b then some a else none, some act) ∈ stateActs t s ∧
      actOk g t cert s (if b then some a else none, some act) = true := by
  -- `actOk` accepts no entry of `stateActs` without an action
  have some_act : ∀ {o : Option Nat} {oa : Option Act}, (o, oa) ∈ stateActs t s →
      ∃ act, oa = some act ∧ (o, some act) ∈ stateActs t s ∧
        actOk g t cert s (o, some act) = true := by
    intro o oa hmem
    have hok := hc.acts s hs _ hmem
    cases oa with
    | none => cases o <;> cases hok
    | some act => exact ⟨act, rfl, hmem, hok⟩
  cases hnt : needsTok t (s : Int) with
  | none =>
    obtain ⟨_, h, _⟩ := some_act (o := none) (oa := none)
      (by unfold stateActs; rw [hnt]; exact List.mem_singleton.mpr rfl)
    cases h
  | some b =>
    cases b with
    | true =>
      obtain ⟨act, h1, hm, h2⟩ := some_act (mem_stateActs_tok hnt ha)
      exact ⟨true, act, rfl, fun deep => actOf_noDeep t deep s a act h1, hm, h2⟩
    | false =>
      obtain ⟨act, h1, hm, h2⟩ := some_act (mem_stateActs_notok hnt)
      exact ⟨false, act, rfl,
        fun deep => (actOf_of_needsTok_false hnt deep noDeep a 0).trans h1, hm, h2⟩

theorem termEdge_mem {t : Tables} {p a : Nat} {q : Int} (h : TermEdge t p a q) :
    (p, a, q) ∈ edges t := by
  obtain ⟨hp, ha, hn, hact⟩ := h
  unfold edges
  rw [List.mem_flatMap]
  refine ⟨p, List.mem_range.mpr hp, List.mem_append_left _ ?_⟩
  rw [List.mem_filterMap]
  exact ⟨(some a, some (.shift q)), hact ▸ mem_stateActs_tok hn ha, rfl⟩

theorem ntEdge_mem_gotos {t : Tables} {p X : Nat} {q : Int} (h : NtEdge t p X q) :
    (p, X, q) ∈ (List.range (t.nSyms - t.nTerms)).filterMap fun k =>
      match gotoState t p (t.nTerms + k : Nat) with
      | some q => if q ≥ 0 then some (p, t.nTerms + k, q) else none
      | none => none := by
  obtain ⟨_, hX1, hX2, hg, hq⟩ := h
  rw [List.mem_filterMap]
  refine ⟨X - t.nTerms, List.mem_range.mpr (Nat.sub_lt_sub_right hX1 hX2), ?_⟩
  rw [Nat.add_sub_cancel' hX1, hg]
  simp [hq]

theorem ntEdge_mem {t : Tables} {p X : Nat} {q : Int} (h : NtEdge t p X q) :
    (p, X, q) ∈ edges t := by
  unfold edges
  rw [List.mem_flatMap]
  exact ⟨p, List.mem_range.mpr h.1, List.mem_append_right _ (ntEdge_mem_gotos h)⟩

theorem edge_mem {t : Tables} {p X : Nat} {q : Int} (h : Edge t p X q) : (p, X, q) ∈ edges t :=
  h.elim termEdge_mem ntEdge_mem

theorem edgeOk_elim {nIn : Nat} {t : Tables} {cert : Cert} {p : Nat} {x q : Int}
    (h : edgeOk nIn t cert p x q = true) :
    ∃ q' : Nat, q = (q' : Int) ∧ nIn ≤ q' ∧ q' < t.nStates ∧
      pastOf cert (q' : Nat) <+: x :: pastOf cert (p : Nat) := by
  unfold edgeOk at h
  simp only [Bool.and_eq_true, decide_eq_true_eq, List.isPrefixOf_iff_prefix] at h
  obtain ⟨⟨h1, h2⟩, h3⟩ := h
  obtain ⟨q', rfl⟩ := Int.eq_ofNat_of_zero_le (Int.le_trans (Int.natCast_nonneg nIn) h1)
  exact ⟨q', rfl, Int.ofNat_le.mp h1, Int.ofNat_lt.mp h2, h3⟩

theorem nt_goto {nIn : Nat} {t : Tables} {cert : Cert} {s X : Nat}
    (hg : ∀ k, k < t.nSyms - t.nTerms → gotoOk nIn t cert s (t.nTerms + k) = true)
    (hs : s < t.nStates) (h1 : t.nTerms ≤ X) (h2 : X < t.nSyms) :
    ∃ q, gotoState t s X = some q ∧
      (q = -1 ∨ (NtEdge t s X q ∧ edgeOk nIn t cert s (X : Nat) q = true)) := by
  have h := hg (X - t.nTerms) (Nat.sub_lt_sub_right h1 h2)
  unfold gotoOk at h
  rw [Nat.add_sub_cancel' h1] at h
  cases hq : gotoState t s X with
  | none => rw [hq] at h; cases h
  | some q =>
    rw [hq] at h
    simp only [Bool.or_eq_true, beq_iff_eq] at h
    refine ⟨q, rfl, h.imp_right fun hok => ⟨⟨hs, h1, h2, hq, ?_⟩, hok⟩⟩
    obtain ⟨q', rfl, _⟩ := edgeOk_elim hok
    exact Int.natCast_nonneg q'

theorem ntEdge_ok {nIn : Nat} {t : Tables} {cert : Cert} {p X : Nat} {q : Int}
    (hg : ∀ k, k < t.nSyms - t.nTerms → gotoOk nIn t cert p (t.nTerms + k) = true)
    (h : NtEdge t p X q) : edgeOk nIn t cert p (X : Nat) q = true := by
  obtain ⟨hp, hX1, hX2, hgo, hq⟩ := h
  obtain ⟨q', hq', h⟩ := nt_goto hg hp hX1 hX2
  rw [hgo] at hq'
  injection hq' with hq'
  subst hq'
  rcases h with h | h
  · omega
  · exact h.2

theorem edge_ok {g : Grammar} {t : Tables} {cert : Cert} (hc : CertFacts g t cert)
    {p X : Nat} {q : Int} (h : Edge t p X q) :
    edgeOk g.inputs.size t cert p (X : Nat) q = true := by
  rcases h with ⟨hp, ha, hn, hact⟩ | h
  · exact hc.acts p hp _ (hact ▸ mem_stateActs_tok hn ha)
  · exact ntEdge_ok (hc.gotos p h.1) h

theorem nTerms_pos_of_wf {g : Grammar} {t : Tables} (hwf : g.wf = true) (hn : t.nTerms = g.nTerms) :
    0 < t.nTerms :=
  hn ▸ (wfFacts hwf).nTermsPos

theorem CertFacts.nTermsPos {g : Grammar} {t : Tables} {cert : Cert} (hc : CertFacts g t cert) :
    0 < t.nTerms :=
  nTerms_pos_of_wf hc.wf hc.nTerms

end TmVerif.LRSound
