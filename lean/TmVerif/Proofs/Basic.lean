/-!
General facts about core types (lists, arrays, options, `Relation.TransGen`) that the proof modules share.
Nothing of the model is imported. Where core has the fact, the proofs use core directly:
`List.foldlRecOn` (fold invariant), `List.Perm.eq_of_pairwise`, `List.Perm.foldl_eq'`, `List.Sublist.of_cons_cons`.
-/

/-! Core derives no `DecidableEq` for `Except`; closed runs of the models (`… = .ok …`) are compared by `decide`. -/
deriving instance DecidableEq for Except

namespace TmVerif

/-- Fold invariant that also sees the part of the list already consumed. -/
theorem foldl_inv {α β : Type} (P : List α → β → Prop) (f : β → α → β) (l : List α) :
    ∀ (done : List α) (b : β), P done b →
      (∀ done x b, x ∈ l → P done b → P (done ++ [x]) (f b x)) → P (done ++ l) (l.foldl f b) := by
  induction l with
  | nil => intro done b h _; simpa using h
  | cons x l ih =>
    intro done b h hs
    have := ih (done ++ [x]) (f b x) (hs done x b List.mem_cons_self h)
      (fun d y c hy => hs d y c (List.mem_cons_of_mem _ hy))
    simpa using this

theorem pairwise_get {α : Type} {R : α → α → Prop} {l : List α} (h : l.Pairwise R) {i j : Nat} {a b : α}
    (hi : l[i]? = some a) (hj : l[j]? = some b) (hij : i < j) : R a b := by
  obtain ⟨hi1, rfl⟩ := List.getElem?_eq_some_iff.1 hi
  obtain ⟨hj1, rfl⟩ := List.getElem?_eq_some_iff.1 hj
  exact List.pairwise_iff_getElem.1 h i j hi1 hj1 hij

theorem nodup_key_inj {α κ : Type} {key : α → κ} {xs : List α} (hd : (xs.map key).Nodup) :
    ∀ a ∈ xs, ∀ b ∈ xs, key a = key b → a = b :=
  have hp : xs.Pairwise fun a b => key a ≠ key b := List.pairwise_map.1 hd
  fun _ ha _ hb => List.Pairwise.forall_of_forall_of_flip (R := fun a b => key a = key b → a = b)
    (fun _ _ _ => rfl) (hp.imp fun h e => absurd e h) (hp.imp fun h e => absurd e.symm h) ha hb

theorem getD_set {α : Type} (l : List α) (v w : Nat) (x d : α) :
    (l.set v x)[w]?.getD d = if w = v ∧ v < l.length then x else l[w]?.getD d := by
  rw [List.getElem?_set]
  by_cases h1 : v = w
  · subst h1
    by_cases h2 : v < l.length <;> simp [h2]
  · have : ¬ w = v := fun h => h1 h.symm
    simp [h1, this]

theorem getD_modify {α : Type} (arr : Array α) (i : Nat) (f : α → α) (j : Nat) (d : α) :
    (arr.modify i f).getD j d = if i = j ∧ j < arr.size then f (arr.getD j d) else arr.getD j d := by
  simp only [Array.getD_eq_getD_getElem?, Array.getElem?_modify]
  by_cases hi : i = j
  · subst hi
    by_cases hX : i < arr.size <;> simp [hX]
  · simp [hi]

theorem mem_toList_of_getElem? {α : Type} {a : Array α} {j : Nat} {x : α} (h : a[j]? = some x) :
    x ∈ a.toList :=
  Array.mem_toList_iff.mpr (Array.mem_of_getElem? h)

theorem lt_of_mem_getD {α : Type} {xs : Array (List α)} {s : Nat} {a : α}
    (h : a ∈ xs.getD s []) : s < xs.size := by
  rcases Nat.lt_or_ge s xs.size with h' | h'
  · exact h'
  · rw [Array.getD_eq_getD_getElem?, Array.getElem?_eq_none h'] at h
    cases h

theorem getD_replicate {α : Type} (n i : Nat) (x : α) : (Array.replicate n x).getD i x = x := by
  rw [Array.getD_eq_getD_getElem?, Array.getElem?_replicate]
  split <;> rfl

theorem transGen_closed {α : Type} {r : α → α → Prop} {P : α → Prop} (h : ∀ a, P a → ∀ b, r a b → P b)
    {a b : α} (ha : P a) (p : Relation.TransGen r a b) : P b := by
  induction p with
  | single e => exact h _ ha _ e
  | tail _ e ih => exact h _ ih _ e

theorem transGen_head_iff {α : Type} {r : α → α → Prop} {a c : α} :
    Relation.TransGen r a c ↔ ∃ b, r a b ∧ (b = c ∨ Relation.TransGen r b c) := by
  constructor
  · intro p
    induction p with
    | single e => exact ⟨_, e, .inl rfl⟩
    | tail _ e ih =>
      obtain ⟨b, hab, h⟩ := ih
      rcases h with rfl | q
      · exact ⟨b, hab, .inr (.single e)⟩
      · exact ⟨b, hab, .inr (.tail q e)⟩
  · rintro ⟨b, hab, rfl | q⟩
    · exact .single hab
    · exact .trans (.single hab) q

namespace Templates

/-- Two lists of the same length related pointwise (core has no `Forall₂`). -/
inductive All2 {α β : Type} (R : α → β → Prop) : List α → List β → Prop
  | nil : All2 R [] []
  | cons {a : α} {b : β} {l : List α} {l' : List β} : R a b → All2 R l l' → All2 R (a :: l) (b :: l')

variable {α β : Type} {R : α → β → Prop}

theorem All2.get : ∀ {l : List α} {l' : List β}, All2 R l l' →
    ∀ (i : Nat) (x : α), l[i]? = some x → ∃ y, l'[i]? = some y ∧ R x y
  | _, _, .nil, _, _, h => nomatch h
  | _, _, .cons hr _, 0, _, h => by cases h; exact ⟨_, rfl, hr⟩
  | _, _, .cons _ ht, i + 1, x, h => All2.get ht i x h

theorem All2.mem {l : List α} {l' : List β} (h : All2 R l l') (x : α) (hx : x ∈ l) : ∃ y ∈ l', R x y :=
  let ⟨i, hi⟩ := List.mem_iff_getElem?.1 hx
  let ⟨y, hy, hr⟩ := h.get i x hi
  ⟨y, List.mem_of_getElem? hy, hr⟩

theorem All2.flip : ∀ {l : List α} {l' : List β}, All2 R l l' → All2 (fun b a => R a b) l' l
  | _, _, .nil => .nil
  | _, _, .cons hr ht => .cons hr (All2.flip ht)

theorem All2.get' {l : List α} {l' : List β} (h : All2 R l l')
    (i : Nat) (y : β) (hy : l'[i]? = some y) : ∃ x, l[i]? = some x ∧ R x y :=
  All2.get h.flip i y hy

theorem All2.map_eq {f : β → α} : ∀ {l : List α} {l' : List β}, All2 (fun x y => f y = x) l l' → l'.map f = l
  | _, _, .nil => rfl
  | _, _, .cons hr ht => by rw [List.map_cons, hr, All2.map_eq ht]

/-- The implication may use that the left element is a member of the left list. -/
theorem All2.imp {S : α → β → Prop} :
    ∀ {l : List α} {l' : List β}, (∀ a ∈ l, ∀ b, R a b → S a b) → All2 R l l' → All2 S l l'
  | _, _, _, .nil => .nil
  | _, _, h, .cons hr ht =>
    .cons (h _ List.mem_cons_self _ hr) (All2.imp (fun a ha => h a (List.mem_cons_of_mem _ ha)) ht)

end Templates

section
open Templates
variable {α β : Type}

theorem mapM_eq_some_iff {f : α → Option β} :
    ∀ {l : List α} {l' : List β}, l.mapM f = some l' ↔ All2 (fun x y => f x = some y) l l'
  | [], l' => by
    rw [List.mapM_nil]
    exact ⟨fun h => by cases h; exact .nil, fun h => by cases h; rfl⟩
  | a :: l, l' => by
    simp only [List.mapM_cons, Option.bind_eq_bind, Option.bind_eq_some_iff, Option.pure_def,
      Option.some.injEq]
    constructor
    · rintro ⟨y, h1, ys, h2, rfl⟩
      exact .cons h1 (mapM_eq_some_iff.1 h2)
    · rintro (_ | ⟨h1, h2⟩)
      exact ⟨_, h1, _, mapM_eq_some_iff.2 h2, rfl⟩

theorem mapM_some_of_forall {f : α → Option β} (l : List α)
    (h : ∀ a ∈ l, ∃ b, f a = some b) : ∃ bs, l.mapM f = some bs := by
  induction l with
  | nil => exact ⟨[], rfl⟩
  | cons a l ih =>
    obtain ⟨b, hb⟩ := h a List.mem_cons_self
    obtain ⟨bs, hbs⟩ := ih fun x hx => h x (List.mem_cons_of_mem _ hx)
    exact ⟨b :: bs, by simp [List.mapM_cons, hb, hbs]⟩

end
end TmVerif
