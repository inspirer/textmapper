import TmVerif.Model.SourcePos
/-!
For C22 (position arithmetic): the table lookup of `lineCol` expressed through the prefix of the text before the offset.
-/
namespace TmVerif.SourcePos

theorem lineOffsetsFrom_bounds (bs : List Nat) (base : Nat) : ∀ x ∈ lineOffsetsFrom bs base,
    base < x ∧ x ≤ base + bs.length := by
  fun_induction lineOffsetsFrom bs base with
  | case1 => exact fun x h => nomatch h
  | case2 rest base ih =>
    intro x h
    rw [List.length_cons]
    rcases List.mem_cons.mp h with e | h'
    · omega
    · have := ih x h'; omega
  | case3 b rest base hb ih =>
    intro x h
    rw [List.length_cons]
    have := ih x h; omega

theorem lineOffsetsFrom_gt (bs : List Nat) (base : Nat) : ∀ x ∈ lineOffsetsFrom bs base, base < x :=
  fun x h => (lineOffsetsFrom_bounds bs base x h).1

theorem lineOffsetsFrom_le : ∀ (bs : List Nat) (base : Nat), ∀ x ∈ lineOffsetsFrom bs base, x ≤ base + bs.length :=
  fun bs base x h => (lineOffsetsFrom_bounds bs base x h).2

/-- The line-start table is strictly increasing (so the binary search of `sort.Search` finds the least
index, as `searchGT` assumes). -/
theorem lineOffsetsFrom_sorted (bs : List Nat) (base : Nat) : (lineOffsetsFrom bs base).Pairwise (· < ·) := by
  fun_induction lineOffsetsFrom bs base with
  | case1 => exact .nil
  | case2 rest base ih => exact List.pairwise_cons.mpr ⟨lineOffsetsFrom_gt rest (base + 1), ih⟩
  | case3 _ _ _ _ ih => exact ih

theorem lineOffsets_sorted (bs : List Nat) : (lineOffsets bs).Pairwise (· < ·) := by
  unfold lineOffsets
  exact List.pairwise_cons.mpr ⟨lineOffsetsFrom_gt bs 0, lineOffsetsFrom_sorted bs 0⟩

theorem lineOffsetsFrom_length (bs : List Nat) (base : Nat) : (lineOffsetsFrom bs base).length = bs.count 10 := by
  induction bs generalizing base with
  | nil => rfl
  | cons b rest ih =>
    unfold lineOffsetsFrom
    by_cases hb : b = 10 <;> simp [hb, ih]

theorem lineOffsetsFrom_append (l₁ l₂ : List Nat) (base : Nat) :
    lineOffsetsFrom (l₁ ++ l₂) base = lineOffsetsFrom l₁ base ++ lineOffsetsFrom l₂ (base + l₁.length) := by
  induction l₁ generalizing base with
  | nil => rfl
  | cons b l ih =>
    simp only [List.cons_append, lineOffsetsFrom, ih, List.length_cons, Nat.add_assoc, Nat.add_comm 1]
    split <;> rfl

/-- `r` is the text reversed: the last entry of the table of a text is the start of its last line. -/
theorem lastStart (r : List Nat) (base : Nat) : ∃ s, (base :: lineOffsetsFrom r.reverse base).getLast? = some s ∧
    s + (r.takeWhile (fun b => b != 10)).length = base + r.length := by
  induction r with
  | nil => exact ⟨base, rfl, rfl⟩
  | cons x r ih =>
    obtain ⟨s, hs, e⟩ := ih
    rw [List.reverse_cons, lineOffsetsFrom_append]
    by_cases hx : x = 10
    · subst hx
      refine ⟨base + r.length + 1, ?_, by simp; omega⟩
      rw [← List.cons_append, List.getLast?_append]
      simp [lineOffsetsFrom]
    · refine ⟨s, ?_, ?_⟩
      · simpa [hx, lineOffsetsFrom] using hs
      · simp [hx]; omega

theorem findIdx_append_of (p : α → Bool) (l₁ l₂ : List α) (h₁ : ∀ x ∈ l₁, p x = false)
    (h₂ : ∀ x, l₂.head? = some x → p x = true) : (l₁ ++ l₂).findIdx p = l₁.length := by
  rw [List.findIdx_append, List.findIdx_eq_length_of_false h₁, if_neg (Nat.lt_irrefl _)]
  cases l₂ with
  | nil => exact Nat.zero_add _
  | cons y l₂ => rw [List.findIdx_cons, h₂ y rfl]; exact Nat.zero_add _

/-- The search lands after the line starts of the prefix before `offset`, and the entry in front of it is the start
of the prefix's last line. -/
theorem lineCol_table (bs : List Nat) (offset : Nat) (h : offset ≤ bs.length) :
    searchGT (lineOffsets bs) offset = (bs.take offset).count 10 + 1 ∧
      (lineOffsets bs).getD ((bs.take offset).count 10) 0 +
        ((bs.take offset).reverse.takeWhile (fun b => b != 10)).length = offset ∧
      (bs.take offset).count 10 + 1 ≤ (lineOffsets bs).length := by
  have hlen : (bs.take offset).length = offset := List.length_take_of_le h
  obtain ⟨s, hs, e⟩ := lastStart (bs.take offset).reverse 0
  rw [List.length_reverse, hlen, Nat.zero_add] at e
  rw [List.reverse_reverse] at hs
  have hL : lineOffsets bs =
      (0 :: lineOffsetsFrom (bs.take offset) 0) ++ lineOffsetsFrom (bs.drop offset) offset := by
    have := lineOffsetsFrom_append (bs.take offset) (bs.drop offset) 0
    rw [List.take_append_drop, hlen, Nat.zero_add] at this
    rw [lineOffsets, this]; rfl
  have hcount := lineOffsetsFrom_length (bs.take offset) 0
  refine ⟨?_, ?_, ?_⟩
  · rw [hL, searchGT, findIdx_append_of, List.length_cons, hcount]
    · intro x hx
      have : x ≤ offset := by
        rcases List.mem_cons.1 hx with rfl | hx
        · exact Nat.zero_le _
        · simpa [hlen] using lineOffsetsFrom_le _ 0 x hx
      simpa using this
    · intro x hx
      have := lineOffsetsFrom_gt _ offset x (List.mem_of_mem_head? hx)
      simpa using this
  · rw [hL, List.getD_eq_getElem?_getD, List.getElem?_append_left (by simp [hcount]), ← hcount,
      show (lineOffsetsFrom (bs.take offset) 0).length = (0 :: lineOffsetsFrom (bs.take offset) 0).length - 1 from rfl,
      ← List.getLast?_eq_getElem?, hs]
    exact e
  · rw [hL, List.length_append, List.length_cons, hcount]; exact Nat.le_add_right _ _

theorem lineCol_eq_spec (bs : List Nat) (offset : Nat) (h : offset ≤ bs.length) :
    lineCol bs offset = lineColSpec bs offset := by
  obtain ⟨hk, e, _⟩ := lineCol_table bs offset h
  unfold lineCol lineColOf lineColSpec
  simp only [hk, Nat.add_sub_cancel]
  rw [Nat.sub_eq_of_eq_add (e.symm.trans (Nat.add_comm _ _)), Nat.add_comm 1, Nat.add_comm 1]

theorem lineColSpec_succ (bs : List Nat) (o : Nat) (h : o < bs.length) :
    lineColSpec bs (o + 1) =
      if bs[o] = 10 then ((lineColSpec bs o).1 + 1, 1) else ((lineColSpec bs o).1, (lineColSpec bs o).2 + 1) := by
  unfold lineColSpec
  simp only [List.take_add_one, List.getElem?_eq_getElem h, Option.toList_some, List.count_append, List.reverse_append,
    List.reverse_cons, List.reverse_nil, List.nil_append, List.cons_append, List.takeWhile_cons]
  by_cases hb : bs[o] = 10
  · rw [if_pos hb, hb]
    rfl
  · simp [hb]
    omega

/-- The column locates the start `s` of the line: no newline from `s` to `offset`, and `s` is 0 or follows a newline. -/
theorem lineColSpec_col (bs : List Nat) (offset : Nat) (h : offset ≤ bs.length) :
    ∃ s, s + (lineColSpec bs offset).2 = offset + 1 ∧ (∀ i, s ≤ i → i < offset → bs[i]? ≠ some 10) ∧
      (s = 0 ∨ bs[s - 1]? = some 10) := by
  induction offset with
  | zero => exact ⟨0, rfl, fun i _ hi => absurd hi (Nat.not_lt_zero i), Or.inl rfl⟩
  | succ o ih =>
    obtain ⟨s, e, hno, hs⟩ := ih (Nat.le_of_succ_le h)
    have hb : bs[o]? = some bs[o] := List.getElem?_eq_getElem h
    rw [lineColSpec_succ bs o h]
    split
    · next h10 => exact ⟨o + 1, rfl, fun i h1 h2 => absurd h2 (Nat.not_lt.2 h1), Or.inr (h10 ▸ hb)⟩
    · next h10 =>
      refine ⟨s, by rw [← e]; exact (Nat.add_assoc ..).symm, fun i h1 h2 => ?_, hs⟩
      by_cases hio : i = o
      · rw [hio, hb]
        exact fun e => h10 (Option.some.inj e)
      · exact hno i h1 (by omega)

theorem mapRegexError_accepted (rng : SrcRange) (textLen errOff errEnd : Int)
    (hg : errOff ≤ errEnd ∧ errEnd ≤ textLen ∧ errOff < textLen) :
    mapRegexError rng textLen errOff errEnd =
      { offset := rng.offset + (errOff + 1)
        endOffset := if errOff < errEnd then rng.offset + errEnd + 1 else rng.endOffset - 1
        line := rng.line
        column := rng.column + (errOff + 1) } :=
  if_pos hg

end TmVerif.SourcePos
