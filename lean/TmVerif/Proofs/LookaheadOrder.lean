import TmVerif.Proofs.Lookahead
import TmVerif.Proofs.Basic
/-!
C08, order part: invariants of the DFS of `newLookaheadRule`.

When neither `cycle` nor the fuel flag is raised, the post-order list `order` contains every
predecessor of a node before the node (so position in `order` is a rank compatible with every
alternative), and `depth x` is witnessed by a descending path of that many nodes (so
`top.depth = len(nodes)+1` yields a path through all nodes, which pins the total order down).
-/
namespace TmVerif.Lookahead

def Dfs.bad (st : Dfs) : Bool := st.cycle || st.fuelOut

def Linked (R : Int → Int → Prop) (xs : List Int) : Prop := ∀ e ∈ pairsOf xs, R e.1 e.2

theorem linked_cons_cons {R : Int → Int → Prop} {a b : Int} {t : List Int} :
    Linked R (a :: b :: t) ↔ R a b ∧ Linked R (b :: t) := by
  simp only [Linked, pairsOf, List.forall_mem_cons]

theorem Linked.pairwise {R : Int → Int → Prop} (trans : ∀ a b c, R a b → R b c → R a c) :
    ∀ xs, Linked R xs → xs.Pairwise R
  | [], _ => .nil
  | [_], _ => List.pairwise_singleton ..
  | a :: b :: t, h => by
    obtain ⟨hab, ht⟩ := linked_cons_cons.mp h
    have hp := Linked.pairwise trans (b :: t) ht
    refine List.pairwise_cons.2 ⟨fun y hy => ?_, hp⟩
    rcases List.mem_cons.1 hy with rfl | hy
    · exact hab
    · exact trans _ _ _ hab ((List.pairwise_cons.1 hp).1 y hy)

def DescP (prev : Int → List Int) : List Int → Prop
  | [] => True
  | [_] => True
  | b :: a :: t => a ∈ prev b ∧ DescP prev (a :: t)

-- `DescP` unfolds on a cons, which is what extending a path by one node needs; order arguments go through `Linked`.
theorem descP_iff_linked {prev : Int → List Int} :
    ∀ {l : List Int}, DescP prev l ↔ Linked (fun b a => a ∈ prev b) l
  | [] => ⟨fun _ _ he => absurd he List.not_mem_nil, fun _ => trivial⟩
  | [_] => ⟨fun _ _ he => absurd he List.not_mem_nil, fun _ => trivial⟩
  | _ :: _ :: _ => by rw [linked_cons_cons, ← descP_iff_linked]; rfl

def HasPath (prev : Int → List Int) (x : Int) (d : Nat) : Prop :=
  ∃ t : List Int, DescP prev (x :: t) ∧ t.length + 1 = d

/-- What holds between calls of `dfs`: `order` lists exactly the finished nodes (state 2), once each; while no flag
is raised, every predecessor of a finished node is finished and comes earlier in `order` (`before`), and `depth x`
is the length of some descending path from `x` (`path`). -/
structure Inv (prev : Int → List Int) (st : Dfs) : Prop where
  mem_iff : ∀ x, x ∈ st.order ↔ st.state x = 2
  nodup : st.order.Nodup
  before : st.bad = false → ∀ x ∈ st.order, ∀ p ∈ prev x,
    p ∈ st.order ∧ st.order.idxOf p < st.order.idxOf x
  path : st.bad = false → ∀ x ∈ st.order, HasPath prev x (st.depth x)

theorem upd_self (f : Int → Nat) (x : Int) (v : Nat) : upd f x v x = v := if_pos rfl

theorem upd_ne (f : Int → Nat) {x y : Int} (v : Nat) (h : y ≠ x) : upd f x v y = f y := if_neg h

/-- What visiting the nodes `ps` from state `st` leaves behind: the invariant holds again, `order` has only grown,
nodes in progress (state 1) stay so, a raised flag stays raised (`good`), and unless a flag is raised every node
of `ps` is finished. -/
structure Visited (prev : Int → List Int) (ps : List Int) (st st' : Dfs) : Prop where
  inv : Inv prev st'
  mem : ∀ x ∈ st.order, x ∈ st'.order
  inprog : ∀ y, st.state y = 1 → st'.state y = 1
  good : st'.bad = false → st.bad = false
  done : st'.bad = false → ∀ p ∈ ps, p ∈ st'.order

variable {prev : Int → List Int}

theorem Visited.refl {ps : List Int} {st : Dfs} (hinv : Inv prev st)
    (hps : ∀ p ∈ ps, p ∈ st.order) : Visited prev ps st st :=
  ⟨hinv, fun _ h => h, fun _ h => h, fun h => h, fun _ => hps⟩

theorem Visited.append {ps qs : List Int} {a b c : Dfs} (h1 : Visited prev ps a b)
    (h2 : Visited prev qs b c) : Visited prev (ps ++ qs) a c where
  inv := h2.inv
  mem x hx := h2.mem x (h1.mem x hx)
  inprog y hy := h2.inprog y (h1.inprog y hy)
  good hb := h1.good (h2.good hb)
  done hb p hp := (List.mem_append.1 hp).elim (fun hp => h2.mem p (h1.done (h2.good hb) p hp)) (h2.done hb p)

/-- Raising a flag changes neither `order` nor `state`, and makes every `bad = false → …` part vacuous. -/
theorem Visited.raise {ps : List Int} {st : Dfs} (hinv : Inv prev st) {c f : Bool}
    (h : (c || f) = true) : Visited prev ps st { st with cycle := c, fuelOut := f } :=
  have hF : ∀ {P : Prop}, (c || f) = false → P := fun h' => absurd (h.symm.trans h') Bool.noConfusion
  ⟨⟨hinv.mem_iff, hinv.nodup, hF, hF⟩, fun _ h => h, fun _ h => h, hF, hF⟩

/-- loop-carried depth of the node whose predecessor list `ps0` is being traversed -/
def DInv (prev : Int → List Int) (ps0 : List Int) (sd : Dfs × Nat) : Prop :=
  sd.1.bad = false → sd.2 = 1 ∨ ∃ p ∈ ps0, ∃ d', HasPath prev p d' ∧ sd.2 = d' + 1

/-- the contract of `dfs prev fuel` as the loop body sees it -/
def DfsSpec (prev : Int → List Int) (rec : Int → Dfs → Dfs) : Prop :=
  ∀ p s, Inv prev s → Visited prev [p] s (rec p s)

theorem loop_spec {rec : Int → Dfs → Dfs} (H : DfsSpec prev rec) (ps : List Int) (st : Dfs) (hinv : Inv prev st) :
    Visited prev ps st (ps.foldl (visit rec) (st, 1)).1 ∧ DInv prev ps (ps.foldl (visit rec) (st, 1)) := by
  refine foldl_inv (fun done sd' => Visited prev done st sd'.1 ∧ DInv prev ps sd') _ ps [] (st, 1)
    ⟨.refl hinv fun _ h => (List.not_mem_nil h).elim, fun _ => .inl rfl⟩ ?_
  intro done p sd' hp ⟨hV, hD⟩
  have hv : Visited prev [p] sd'.1 (visit rec sd' p).1 := H p sd'.1 hV.inv
  refine ⟨hV.append hv, fun hb => ?_⟩
  simp only [visit] at hb ⊢
  split
  · exact .inr ⟨p, hp, _, hv.inv.path hb p (hv.done hb p (List.mem_singleton_self p)), rfl⟩
  · exact hD (hv.good hb)

theorem hasPath_one (prev : Int → List Int) (x : Int) : HasPath prev x 1 :=
  ⟨[], trivial, rfl⟩

theorem hasPath_succ {n p : Int} {d : Nat} (hp : p ∈ prev n)
    (h : HasPath prev p d) : HasPath prev n (d + 1) := by
  obtain ⟨t, ht, hl⟩ := h
  exact ⟨p :: t, ⟨hp, ht⟩, by simp [hl]⟩

def dfsStart (n : Int) (s : Dfs) : Dfs := { s with state := upd s.state n 1 }

def dfsFinish (n : Int) (r : Dfs × Nat) : Dfs :=
  { r.1 with state := upd r.1.state n 2, depth := upd r.1.depth n r.2, order := r.1.order ++ [n] }

theorem dfs_new {fuel : Nat} {n : Int} {s : Dfs} (h1 : ¬ s.state n = 1)
    (h2 : ¬ s.state n = 2) :
    dfs prev (fuel + 1) n s =
      dfsFinish n ((prev n).foldl (visit (dfs prev fuel)) (dfsStart n s, 1)) := by
  simp [dfs, h1, h2, dfsStart, dfsFinish]

theorem dfs_spec (prev : Int → List Int) : ∀ fuel, DfsSpec prev (dfs prev fuel) := by
  intro fuel
  induction fuel with
  | zero => exact fun p s hinv => .raise hinv (Bool.or_true _)
  | succ fuel ih =>
    intro n s hinv
    by_cases h1 : s.state n = 1
    · simp only [dfs, h1, if_true]
      exact .raise hinv (Bool.true_or _)
    by_cases h2 : s.state n = 2
    · simp only [dfs, h2, if_true]
      exact .refl hinv fun _ hq => List.mem_singleton.1 hq ▸ (hinv.mem_iff n).2 h2
    rw [dfs_new h1 h2]
    have hinv1 : Inv prev (dfsStart n s) := by
      refine ⟨fun x => ?_, hinv.nodup, hinv.before, hinv.path⟩
      by_cases hx : x = n
      · -- `n` is not finished, before and after
        subst hx
        simpa [dfsStart, upd_self] using mt (hinv.mem_iff x).1 h2
      · simpa only [dfsStart, upd_ne _ _ hx] using hinv.mem_iff x
    obtain ⟨hV, hD⟩ := loop_spec ih (prev n) (dfsStart n s) hinv1
    generalize (prev n).foldl (visit (dfs prev fuel)) (dfsStart n s, 1) = r at hV hD
    have hI := hV.inv
    -- `n` is still in progress after the loop, so not in `order`
    have hn1 : r.1.state n = 1 := hV.inprog n (upd_self ..)
    have hnot : n ∉ r.1.order := fun hm => by rw [(hI.mem_iff n).1 hm] at hn1; cases hn1
    -- below, `(dfsFinish n r).bad` is `r.1.bad` by unfolding
    refine {
      inv := { mem_iff := fun x => ?mem_iff, nodup := ?nodup, before := fun hb x hx p hp => ?before,
               path := fun hb x hx => ?path }
      mem := fun x hx => List.mem_append_left _ (hV.mem x hx)
      inprog := fun y hy => ?inprog
      good := hV.good
      done := fun _ q hq => List.mem_append_right _ hq }
    case mem_iff =>
      simp only [dfsFinish, List.mem_append, List.mem_singleton]
      by_cases hx : x = n
      · simp [hx, upd_self]
      · simpa only [upd_ne _ _ hx, hx, or_false] using hI.mem_iff x
    case nodup =>
      exact List.nodup_append.2 ⟨hI.nodup, List.pairwise_singleton _ n,
        fun a ha b hb hab => hnot (List.mem_singleton.1 hb ▸ hab ▸ ha)⟩
    case before =>
      simp only [dfsFinish, List.mem_append, List.mem_singleton] at hx ⊢
      rcases hx with hx | rfl
      · obtain ⟨hpm, hlt⟩ := hI.before hb x hx p hp
        refine ⟨.inl hpm, ?_⟩
        simpa only [List.idxOf_append, hpm, hx, if_true] using hlt
      · -- the loop has finished every predecessor
        have hpm := hV.done hb p hp
        refine ⟨.inl hpm, ?_⟩
        simp only [List.idxOf_append, hpm, hnot, if_true, if_false]
        exact Nat.lt_add_left _ (List.idxOf_lt_length_of_mem hpm)
    case path =>
      simp only [dfsFinish, List.mem_append, List.mem_singleton] at hx ⊢
      rcases hx with hx | rfl
      · have hne : x ≠ n := fun h => hnot (h ▸ hx)
        rw [upd_ne _ _ hne]
        exact hI.path hb x hx
      · rw [upd_self]
        rcases hD hb with h1' | ⟨p, hp, d', hpath, hd'⟩
        · rw [h1']; exact hasPath_one prev x
        · rw [hd']; exact hasPath_succ hp hpath
    case inprog =>
      have hyn : y ≠ n := fun h => h1 (h ▸ hy)
      exact (upd_ne _ _ hyn).trans (hV.inprog y ((upd_ne _ _ hyn).trans hy))

theorem mem_prevOf {las : List Alt} {a b : Int} : a ∈ prevOf las b ↔ (a, b) ∈ edges las := by
  simp only [prevOf, List.mem_filterMap, Option.ite_none_right_eq_some, Option.some.injEq]
  exact ⟨fun ⟨_, he, hb, ha⟩ => by rw [← ha, ← hb]; exact he, fun he => ⟨(a, b), he, rfl, rfl⟩⟩

theorem mem_edges {las : List Alt} {e : Int × Int} :
    e ∈ edges las ↔ ∃ la ∈ las, e ∈ pairsOf (inputsOf la) := by
  simp [edges, List.mem_flatMap]

theorem pairsOf_sublist {xs : List Int} {e : Int × Int} (h : e ∈ pairsOf xs) : [e.1, e.2].Sublist xs := by
  fun_induction pairsOf xs with
  | case1 a b t ih =>
    rcases List.mem_cons.1 h with rfl | h
    · exact .cons_cons _ (.cons_cons _ (List.nil_sublist _))
    · exact (ih h).cons a
  | case2 => cases h

theorem mem_inputs_of_edge {las : List Alt} {a b : Int} (h : a ∈ prevOf las b) : a ∈ las.flatMap inputsOf := by
  obtain ⟨la, hla, he⟩ := mem_edges.1 (mem_prevOf.1 h)
  exact List.mem_flatMap.2 ⟨la, hla, (pairsOf_sublist he).subset List.mem_cons_self⟩

theorem mem_inputs_of_topPrev {las : List Alt} {z : Int} (h : z ∈ topPrev las) :
    z ∈ las.flatMap inputsOf := by
  simp only [topPrev, List.mem_filterMap] at h
  obtain ⟨la, hla, hl⟩ := h
  exact List.mem_flatMap.2 ⟨la, hla, List.mem_of_getLast? hl⟩

theorem mem_insertNew {acc : List Int} {x y : Int} : y ∈ insertNew acc x ↔ y ∈ acc ∨ y = x := by
  unfold insertNew
  split
  · next hc => simp only [List.contains_iff_mem] at hc; exact ⟨Or.inl, fun h => h.elim id (· ▸ hc)⟩
  · simp

theorem mem_nodesOf {las : List Alt} {x : Int} (h : x ∈ las.flatMap inputsOf) : x ∈ nodesOf las :=
  foldl_inv (fun done acc => x ∈ done → x ∈ acc) insertNew _ [] [] id
    (fun _ _ _ _ ih hx => mem_insertNew.2 ((List.mem_append.1 hx).imp ih List.mem_singleton.1)) h

theorem chain_ranked {st : Dfs} (hinv : Inv prev st) (hb : st.bad = false)
    (xs : List Int) (hl : Linked (fun a b => a ∈ prev b) xs) (hz : ∀ z, xs.getLast? = some z → z ∈ st.order) :
    xs.Pairwise (fun a b => st.order.idxOf a < st.order.idxOf b) := by
  have hpw : xs.Pairwise fun a b => b ∈ st.order → a ∈ st.order ∧ st.order.idxOf a < st.order.idxOf b :=
    Linked.pairwise (fun a b c h1 h2 hc => ⟨(h1 (h2 hc).1).1, Nat.lt_trans (h1 (h2 hc).1).2 (h2 hc).2⟩) xs
      fun e he hm => hinv.before hb e.2 hm e.1 (hl e he)
  have hmem : ∀ x ∈ xs, x ∈ st.order := by
    rcases List.eq_nil_or_concat xs with rfl | ⟨ini, z, h⟩
    · intro x hx; cases hx
    · rw [List.concat_eq_append] at h
      subst h
      have hzo : z ∈ st.order := hz z (by simp)
      intro x hx
      rcases List.mem_append.1 hx with hx | hx
      · exact ((List.pairwise_append.1 hpw).2.2 x hx z (List.mem_singleton_self z) hzo).1
      · exact List.mem_singleton.1 hx ▸ hzo
  exact hpw.imp_of_mem fun _ hb' h => (h (hmem _ hb')).2

def dfsTopRaw (las : List Alt) : Dfs × Nat :=
  (topPrev las).foldl (visit (dfs (prevOf las) ((nodesOf las).length + 2))) (dfsInit, 1)

theorem inv_init (prev : Int → List Int) : Inv prev dfsInit :=
  ⟨by simp [dfsInit], by simp [dfsInit], by simp [dfsInit], by simp [dfsInit]⟩

theorem dfsTopRaw_spec (las : List Alt) :
    Visited (prevOf las) (topPrev las) dfsInit (dfsTopRaw las).1 ∧ DInv (prevOf las) (topPrev las) (dfsTopRaw las) :=
  loop_spec (dfs_spec (prevOf las) ((nodesOf las).length + 2)) (topPrev las) dfsInit (inv_init _)

theorem orderedBy_of_good (las : List Alt) (hb : (dfsTopRaw las).1.bad = false) :
    OrderedBy las fun x => (dfsTopRaw las).1.order.idxOf x := by
  have hV := (dfsTopRaw_spec las).1
  intro la hla
  exact chain_ranked hV.inv hb (inputsOf la) (fun e he => mem_prevOf.2 (mem_edges.2 ⟨la, hla, he⟩))
    fun z hz => hV.done hb z (List.mem_filterMap.2 ⟨la, hla, hz⟩)

theorem subset_of_nodup_length {l₁ l₂ : List Int} (hn : l₁.Nodup) (hs : ∀ x ∈ l₁, x ∈ l₂)
    (hl : l₂.length ≤ l₁.length) : ∀ x ∈ l₂, x ∈ l₁ := by
  intro x hx
  refine Classical.byContradiction fun hx1 => ?_
  have := (List.nodup_cons.2 ⟨hx1, hn⟩).length_le_of_subset (l₂ := l₂)
    (fun y hy => (List.mem_cons.1 hy).elim (· ▸ hx) (hs y))
  rw [List.length_cons] at this
  omega

theorem agree_on_chain {r1 r2 : Int → Nat} {l : List Int} (h1 : l.Pairwise fun b a => r1 a < r1 b)
    (h2 : l.Pairwise fun b a => r2 a < r2 b) : ∀ x ∈ l, ∀ y ∈ l, (r1 x < r1 y ↔ r2 x < r2 y) :=
  -- both ranks fall strictly along `l`, so either compares two members as their positions in `l` do
  fun _ hx _ hy => List.Pairwise.forall_of_forall_of_flip (R := fun x y => r1 x < r1 y ↔ r2 x < r2 y)
    (fun _ _ => by omega) (h1.imp₂ (fun _ _ _ _ => by omega) h2)
    (h1.imp₂ (fun _ _ _ _ => by simp only [flip]; omega) h2) hx hy

theorem order_unique (las : List Alt) (hb : (dfsTopRaw las).1.bad = false)
    (hd : (dfsTopRaw las).2 = (nodesOf las).length + 1) (r1 r2 : Int → Nat)
    (h1 : OrderedBy las r1) (h2 : OrderedBy las r2) :
    ∀ x ∈ las.flatMap inputsOf, ∀ y ∈ las.flatMap inputsOf, (r1 x < r1 y ↔ r2 x < r2 y) := by
  have hD := (dfsTopRaw_spec las).2
  intro x hx y hy
  rcases hD hb with h0 | ⟨p, hp, d', ⟨t, hdesc, hlen⟩, hdd⟩
  · -- no node at all
    have hnil : nodesOf las = [] := List.eq_nil_of_length_eq_zero (by omega)
    exact absurd (mem_nodesOf hx) (hnil ▸ List.not_mem_nil)
  · have hlk := descP_iff_linked.mp hdesc
    have desc : ∀ r : Int → Nat, OrderedBy las r → (p :: t).Pairwise fun b a => r a < r b := fun r hr =>
      Linked.pairwise (R := fun b a => r a < r b) (fun _ _ _ h h' => Nat.lt_trans h' h) _ fun e he => by
        obtain ⟨la, hla, he'⟩ := mem_edges.1 (mem_prevOf.1 (hlk e he))
        exact (hr la hla).forall_sublist (pairsOf_sublist he')
    have hp1 := desc r1 h1
    have hp2 := desc r2 h2
    have hnd : (p :: t).Nodup := hp1.imp (fun {a b} h => by intro hab; subst hab; omega)
    -- the path stays among the nodes, so it lists all of them
    have hin : (p :: t).Pairwise fun _ a => a ∈ las.flatMap inputsOf :=
      Linked.pairwise (fun _ _ _ _ h => h) _ fun e he => mem_inputs_of_edge (hlk e he)
    have hsub : ∀ z ∈ p :: t, z ∈ nodesOf las := fun z hz => mem_nodesOf <|
      (List.mem_cons.1 hz).elim (· ▸ mem_inputs_of_topPrev hp) ((List.pairwise_cons.1 hin).1 z)
    have hall := subset_of_nodup_length hnd hsub (by simp; omega)
    exact agree_on_chain hp1 hp2 x (hall x (mem_nodesOf hx)) y (hall y (mem_nodesOf hy))

theorem newLookaheadRule_ok {las : List Alt} {r : Rule} (h : newLookaheadRule las = .ok r) :
    (dfsTopRaw las).1.bad = false ∧ (dfsTopRaw las).2 = (nodesOf las).length + 1 ∧
      elim las.length las (dfsTop las).1.order = .ok r := by
  revert h
  fun_cases newLookaheadRule las
  -- the three tests fail one after the other, then `elim` gives the answer; `dfsTop las` is `dfsTopRaw las` but for
  -- the `0` appended to `order`, so the flags and the depth are the same by unfolding
  case case4 top hf hc hd =>
    simp only [Bool.not_eq_true] at hf hc
    exact fun h => ⟨Bool.or_eq_false_iff.2 ⟨hc, hf⟩, Decidable.not_not.1 hd, h⟩
  all_goals exact nofun

end TmVerif.Lookahead
