/-
Completeness of the LR runtime model, the part that does not depend on the kind of certificate:
small-step execution (`Steps`), what one shift / one reduction does once `decode` has answered, and
the walk along a derivation (`Walk.derives`) for any system of items that moves with the automaton
(`Walk`) — the LR(1)-item certificate `complOk` and the LR(k)-item certificate `complKOk` are its
two instances. Then the run over the augmented rule of an input, from its initial item in the entry
state to the complete item in the final state (`Walk.accept`): every sentence is accepted, with or
without the end-of-input requirement (`Walk.accept_word`).
-/
import TmVerif.Proofs.LRRef
import TmVerif.Proofs.LRSoundInv
namespace TmVerif.LRComplete
open TmVerif.LR TmVerif.CFG TmVerif.LRSound TmVerif.LRRef

inductive Steps (t : Tables) (inp : Input) : Cfg → Cfg → Prop
  | refl (c : Cfg) : Steps t inp c c
  | head (c c' c'' : Cfg) : step t inp c = .cont c' → Steps t inp c' c'' → Steps t inp c c''

theorem Steps.single {t : Tables} {inp : Input} {c c' : Cfg} (h : step t inp c = .cont c') :
    Steps t inp c c' := .head c c' c' h (.refl c')

theorem Steps.trans {t : Tables} {inp : Input} {c c' c'' : Cfg} (h1 : Steps t inp c c')
    (h2 : Steps t inp c' c'') : Steps t inp c c'' := by
  induction h1 with
  | refl c => exact h2
  | head c c1 c2 hs _ ih => exact .head c c1 c'' hs (ih h2)

theorem runLoop_of_steps {t : Tables} {inp : Input} (fin : Int) {c c' : Cfg}
    (h : Steps t inp c c') (hfin : c'.state = fin) :
    ∃ fuel c'', runLoop t inp fin fuel c = (.accept, c'') := by
  induction h with
  | refl c => exact ⟨1, c, by rw [runLoop, if_pos hfin]⟩
  | head c c1 c2 hs _ ih =>
    by_cases hc : c.state = fin
    · exact ⟨1, c, by rw [runLoop, if_pos hc]⟩
    · obtain ⟨fuel, c'', hr⟩ := ih hfin
      refine ⟨fuel + 1, c'', ?_⟩
      rw [runLoop, if_neg hc, hs]
      exact hr

def TopState (c : Cfg) (s : Nat) : Prop :=
  c.state = (s : Int) ∧ ∃ e rest, c.stack = e :: rest ∧ e.state = (s : Int)

def Pushed (c' : Cfg) (q : Nat) (stk : List Entry) : Prop :=
  c'.state = (q : Int) ∧ ∃ e, e.state = (q : Int) ∧ c'.stack = e :: stk

theorem Pushed.top {c' : Cfg} {q : Nat} {stk : List Entry} (h : Pushed c' q stk) :
    TopState c' q := by
  obtain ⟨h1, e, h2, h3⟩ := h
  exact ⟨h1, e, stk, h3, h2⟩

def Reads (inp : Input) : Nat → List Nat → Prop
  | _, [] => True
  | m, a :: u => symAt inp m = a ∧ Reads inp (m + 1) u

theorem reads_append (inp : Input) : ∀ (u v : List Nat) (m : Nat),
    Reads inp m (u ++ v) ↔ Reads inp m u ∧ Reads inp (m + u.length) v
  | [], v, m => by simp [Reads]
  | a :: u, v, m => by
    simp only [List.cons_append, Reads, List.length_cons, reads_append inp u v (m + 1)]
    have : m + 1 + u.length = m + (u.length + 1) := by omega
    rw [this, and_assoc]

theorem reads_iff_get (inp : Input) : ∀ (u : List Nat) (m : Nat),
    Reads inp m u ↔ ∀ j (h : j < u.length), symAt inp (m + j) = u[j]
  | [], _ => ⟨fun _ _ => nofun, fun _ => trivial⟩
  | a :: u, m => by
    rw [Reads, reads_iff_get inp u (m + 1)]
    simp only [Nat.add_right_comm m 1, Nat.add_assoc m]
    constructor
    · rintro ⟨h0, h⟩ (_ | j) hj
      · exact h0
      · exact h j (Nat.lt_of_succ_lt_succ hj)
    · exact fun h => ⟨h 0 (Nat.zero_lt_succ _), fun j hj => h (j + 1) (Nat.succ_lt_succ hj)⟩

theorem reads_take (inp : Input) (n : Nat) :
    Reads inp 0 ((inp.toks.toList.take n).map (fun tk => tk.sym.toNat)) := by
  rw [reads_iff_get]
  intro j hj
  simp only [List.length_map, List.length_take, Array.length_toList] at hj
  have hlt : j < inp.toks.size := by omega
  rw [Nat.zero_add, symAt_lt inp hlt]
  simp

def word (inp : Input) : List Nat := inp.toks.toList.map (fun tk => tk.sym.toNat)

theorem word_length (inp : Input) : (word inp).length = inp.toks.size := by simp [word]

theorem reads_word (inp : Input) : Reads inp 0 (word inp) := by
  have hr := reads_take inp inp.toks.size
  rwa [List.take_of_length_le (by simp)] at hr

theorem initCfg_top (inp : Input) (i : Nat) : TopState (initCfg inp i) i :=
  ⟨rfl, _, [], rfl, rfl⟩

theorem rhsOf_rule {g : Grammar} {r : Nat} {rule : Rule} (h : g.rules[r]? = some rule) :
    rhsOf g r = rule.rhs := by
  obtain ⟨hlt, _⟩ := Array.getElem?_eq_some_iff.mp h
  unfold rhsOf
  rw [if_pos hlt, h]
  rfl

theorem rhsOf_input {g : Grammar} {i : Nat} {inp : GInput} (h : g.inputs[i]? = some inp) :
    rhsOf g (g.rules.size + i) = if inp.eoi then [inp.sym, 0] else [inp.sym] := by
  unfold rhsOf
  have : ¬ g.rules.size + i < g.rules.size := by omega
  rw [if_neg this, Nat.add_sub_cancel_left, h]

theorem drop_eq_cons_iff {l : List Nat} {d x : Nat} {rest : List Nat} :
    l.drop d = x :: rest ↔ l[d]? = some x ∧ l.drop (d + 1) = rest := by
  rw [← List.head?_drop, ← List.tail_drop]
  cases l.drop d <;> simp

/-- the last conjunct, here and in `reduce_of_decode` (the new configuration keeps the lexer position
of `c`, or of `c` after a fetch, and holds no new token), is for `LRCompleteK.PosOk.step` -/
theorem shift_of_decode {t : Tables} {inp : Input} (htok : TokOk t inp) {c : Cfg} {m q : Nat}
    (hn : NextOk inp c m) (hd : decode t inp c = some ((c.fetch inp).1, .shift q)) :
    ∃ c', step t inp c = .cont c' ∧ Pushed c' q c.stack ∧ NextOk inp c' (m + 1) ∧
      ∃ c2, (c2 = c ∨ c2 = (c.fetch inp).1) ∧ c'.pos = c2.pos ∧
        ∀ tk, c'.next = some tk → c2.next = some tk := by
  obtain ⟨_, f2, f6⟩ := fetch_spec inp c m hn
  obtain ⟨c', e, happ, _, he, hstk', hst', _, hn', hpos, hnx⟩ := apply_shift htok q f6 f2
  exact ⟨c', (step_of_decode hd).trans happ, ⟨hst', e, he, by rw [hstk', fetch_stack]⟩, hn',
    _, .inr rfl, hpos, hnx⟩

theorem reduce_of_decode {t : Tables} {inp : Input} {c c1 : Cfg} {m n X q : Nat} {r : Int}
    {ents rest0 : List Entry} {e0 : Entry}
    (hn : NextOk inp c m) (hd : decode t inp c = some (c1, .reduce r))
    (hlen : geti t.ruleLen r = some (n : Int)) (hsym : geti t.ruleSymbol r = some (X : Int))
    (hstk : c.stack = ents ++ e0 :: rest0) (hents : ents.length = n)
    (hgoto : gotoState t e0.state X = some (q : Int)) :
    ∃ c', step t inp c = .cont c' ∧ Pushed c' q (e0 :: rest0) ∧ NextOk inp c' m ∧
      ∃ c2, (c2 = c ∨ c2 = (c.fetch inp).1) ∧ c'.pos = c2.pos ∧
        ∀ tk, c'.next = some tk → c2.next = some tk := by
  have hc1 := decode_fetch hd
  obtain ⟨e1, _, hn1⟩ := fetched hc1 hn
  have hdrop : c1.stack.drop (n : Int).toNat = e0 :: rest0 := by
    rw [e1, hstk, Int.toNat_natCast, ← hents, List.drop_left]
  obtain ⟨c2, off, endo, h2, happ⟩ := apply_reduce_goto (inp := inp) hlen hsym hdrop hgoto
  replace h2 := h2 ▸ redParts_fst inp c1 _
  have hq : ¬ (q : Int) = -1 := by omega
  simp only [step_of_decode hd, happ, if_neg hq]
  refine ⟨_, rfl, ⟨rfl, _, rfl, rfl⟩, (fetched h2 hn1).2.2, c2, ?_, rfl, fun _ h => h⟩
  -- a second fetch changes nothing
  rw [(fetched_eq hc1).2.2.2] at h2
  exact h2.elim (fun h => h ▸ hc1) .inr

/-- A system of items over the states of the automaton. `mem s it`: the item belongs to state
`s`; `sub it it'`: the lookahead set of `it'` contains that of `it`; `la it p` / `ctx it p`: the
input from position `p` on may follow the item's rule / the symbol behind its dot; `ok c m`: the
token bookkeeping of `c` when `m` tokens are consumed. -/
structure Items (ι : Type) where
  mem : Nat → ι → Prop
  rule : ι → Nat
  dot : ι → Nat
  sub : ι → ι → Prop
  la : ι → Nat → Prop
  ctx : ι → Nat → Prop
  ok : Cfg → Nat → Prop

def Items.Adv {ι : Type} (I : Items ι) (q : Nat) (it : ι) (n : Nat) (it' : ι) : Prop :=
  I.mem q it' ∧ I.rule it' = I.rule it ∧ I.dot it' = I.dot it + n ∧ I.sub it it'

/-- The items move with the runtime: the state shifts the terminal behind a dot when the context
allows what follows, has a goto on the nonterminal behind a dot and holds its initial items
(closure), and reduces by a complete item on the input its lookahead set allows. -/
structure Walk (g : Grammar) (t : Tables) (inp : Input) (ι : Type) extends Items ι where
  wf : g.wf = true
  sub_refl : ∀ it, sub it it
  sub_trans : ∀ {a b c}, sub a b → sub b c → sub a c
  sub_la : ∀ {a b p}, rule b = rule a → sub a b → la a p → la b p
  ctx_of : ∀ {it p v}, DerivesSeq g ((rhsOf g (rule it)).drop (dot it + 1)) v → Reads inp p v →
    la it (p + v.length) → ctx it p
  shift : ∀ {s it a c m}, mem s it → (rhsOf g (rule it))[dot it]? = some a → a < g.nTerms →
    TopState c s → ok c m → symAt inp m = a → ctx it (m + 1) →
    ∃ q it' c', step t inp c = .cont c' ∧ toItems.Adv q it 1 it' ∧ Pushed c' q c.stack ∧
      ok c' (m + 1)
  goto : ∀ {s it X}, mem s it → (rhsOf g (rule it))[dot it]? = some X → g.nTerms ≤ X →
    ∃ q : Nat, gotoState t s X = some (q : Int) ∧ ∃ it', toItems.Adv q it 1 it'
  clos : ∀ {s it X j} {r : Rule}, mem s it → (rhsOf g (rule it))[dot it]? = some X →
    g.nTerms ≤ X → g.rules[j]? = some r → r.lhs = X →
    ∃ it', mem s it' ∧ rule it' = j ∧ dot it' = 0 ∧ ∀ p, ctx it p → la it' p
  reduce : ∀ {s it} {r : Rule} {c m ents e0 rest0} {q : Nat}, mem s it →
    g.rules[rule it]? = some r → dot it = r.rhs.length → la it m → ok c m →
    c.state = (s : Int) → c.stack = ents ++ e0 :: rest0 → ents.length = r.rhs.length →
    gotoState t e0.state r.lhs = some (q : Int) →
    ∃ c', step t inp c = .cont c' ∧ Pushed c' q (e0 :: rest0) ∧ ok c' m

section walk
variable {g : Grammar} {t : Tables} {inp : Input} {ι : Type} (W : Walk g t inp ι)

/-- The walk along a derivation. One symbol: from the state holding `[A → α . X β, L]` over the
yield of `X`; the rest of a rule body: from `[A → α . β, L]` to `[A → α β ., L]` over the yield of
`β`. The end position `m + u.length` is a variable `m'` with an equation, so that the `cons` case
splits the sum in that equation and not under `W.la`, `W.ctx` and `W.ok`. -/
theorem Walk.derives :
    (∀ {X : Nat} {u : List Nat}, Derives g X u →
      ∀ (s : Nat) (it : ι) (c : Cfg) (m m' : Nat), m + u.length = m' →
        W.mem s it → (rhsOf g (W.rule it))[W.dot it]? = some X →
        TopState c s → W.ok c m → Reads inp m u → W.ctx it m' →
        ∃ (q : Nat) (it' : ι) (c' : Cfg), Steps t inp c c' ∧ W.Adv q it 1 it' ∧
          Pushed c' q c.stack ∧ W.ok c' m') ∧
    ∀ {α : List Nat} {u : List Nat}, DerivesSeq g α u →
      ∀ (s : Nat) (it : ι) (c : Cfg) (m m' : Nat), m + u.length = m' →
        W.mem s it → (rhsOf g (W.rule it)).drop (W.dot it) = α →
        TopState c s → W.ok c m → Reads inp m u → W.la it m' →
        ∃ (s' : Nat) (it' : ι) (c' : Cfg) (ents : List Entry), Steps t inp c c' ∧
          W.Adv s' it α.length it' ∧ TopState c' s' ∧ c'.stack = ents ++ c.stack ∧
          ents.length = α.length ∧ W.ok c' m' := by
  refine Derives.ind ?term ?rule ?nil ?cons
  case term =>
    rintro a ha s it c m _ rfl hm hx htop hn hr hctx
    obtain ⟨q, it', c', hs, hadv, hp, hn'⟩ := W.shift hm hx ha htop hn hr.1 hctx
    exact ⟨q, it', c', Steps.single hs, hadv, hp, hn'⟩
  case rule =>
    intro r u hrm _ ih s it c m m' he hm hx htop hn hr hctx
    have hge : g.nTerms ≤ r.lhs := ((wfFacts W.wf).rules r hrm).1
    obtain ⟨k, hk⟩ := Array.mem_iff_getElem?.mp (Array.mem_toList_iff.mp hrm)
    obtain ⟨it1, hm1, hr1, hd1, hla1⟩ := W.clos hm hx hge hk rfl
    have hrhs1 : rhsOf g (W.rule it1) = r.rhs := by rw [hr1]; exact rhsOf_rule hk
    obtain ⟨s', it2, c2, ents, hst2, ⟨hm2, hr2, hd2, hsub2⟩, htop2, hstk2, hlen2, hn2⟩ :=
      ih s it1 c m m' he hm1 (by rw [hrhs1, hd1]; rfl) htop hn hr (hla1 _ hctx)
    obtain ⟨q, hgoto, it', hadv⟩ := W.goto hm hx hge
    obtain ⟨e0, rest0, hstk0, he0⟩ := htop.2
    rw [← he0] at hgoto
    obtain ⟨c', hstep, hp, hn'⟩ := W.reduce hm2 (by rw [hr2, hr1]; exact hk)
      (by rw [hd2, hd1, Nat.zero_add]) (W.sub_la hr2 hsub2 (hla1 _ hctx)) hn2 htop2.1
      (by rw [hstk2, hstk0]) hlen2 hgoto
    refine ⟨q, it', c', hst2.trans (Steps.single hstep), hadv, ?_, hn'⟩
    rw [hstk0]; exact hp
  case nil =>
    rintro s it c m _ rfl hm _ htop hn _ _
    exact ⟨s, it, c, [], .refl c, ⟨hm, rfl, rfl, W.sub_refl it⟩, htop, rfl, rfl, hn⟩
  case cons =>
    intro X α u v _ hα ihX ihα s it c m m' he hm hdrop htop hn hr hla
    obtain ⟨hx, hdrop'⟩ := drop_eq_cons_iff.1 hdrop
    obtain ⟨hr1, hr2⟩ := (reads_append inp u v m).mp hr
    -- the yield of `X` ends at `m + u.length`; after it comes the yield of the rest, then what
    -- the item's context allows
    rw [List.length_append, ← Nat.add_assoc] at he
    have hctx : W.ctx it (m + u.length) := W.ctx_of (hdrop' ▸ hα) hr2 (he ▸ hla)
    obtain ⟨q, it1, c1, hst1, ⟨hm1, hru1, hd1, hsub1⟩, hp1, hn1⟩ :=
      ihX s it c m _ rfl hm hx htop hn hr1 hctx
    have hdrop1 : (rhsOf g (W.rule it1)).drop (W.dot it1) = α := by
      rw [hru1, hd1]; exact hdrop'
    obtain ⟨s', it2, c2, ents, hst2, ⟨hm2, hru2, hd2, hsub2⟩, htop2, hstk2, hlen2, hn2⟩ :=
      ihα q it1 c1 _ m' he hm1 hdrop1 hp1.top hn1 hr2 (W.sub_la hru1 hsub1 hla)
    obtain ⟨_, e, _, hstk1⟩ := hp1
    exact ⟨s', it2, c2, ents ++ [e], hst1.trans hst2,
      ⟨hm2, by rw [hru2, hru1], by rw [hd2, hd1, List.length_cons, Nat.add_assoc, Nat.add_comm 1],
        W.sub_trans hsub1 hsub2⟩,
      htop2, by rw [hstk2, hstk1, List.append_assoc]; rfl,
      by rw [List.length_append, hlen2]; rfl, hn2⟩

variable (fin : ∀ {s i it}, W.mem s it → W.rule it = g.rules.size + i →
  W.dot it = (rhsOf g (W.rule it)).length → t.finalStates[i]? = some (s : Int))
include fin

theorem Walk.accept {i : Nat} {it : ι} (hm : W.mem i it) (hr : W.rule it = g.rules.size + i)
    (hd : W.dot it = 0) {u : List Nat} (hD : DerivesSeq g (rhsOf g (g.rules.size + i)) u)
    (hok : W.ok (initCfg inp i) 0) (hu : Reads inp 0 u) (hla : W.la it u.length) :
    ∃ fuel c, run t inp i fuel = (Result.accept, c) := by
  obtain ⟨s', it', c', _, hst, ⟨hm', hr', hd', _⟩, htop, _⟩ :=
    W.derives.2 hD i it (initCfg inp i) 0 _ (Nat.zero_add _) hm (by rw [hr, hd]; rfl)
      (initCfg_top inp i) hok hu hla
  -- the complete item of the augmented rule sits in the final state only
  simp only [run_of_final (fin hm' (hr'.trans hr) (by rw [hd', hd, Nat.zero_add, hr', hr]))]
  exact runLoop_of_steps _ hst htop.1

/-- Every sentence is accepted, for items whose initial item in the entry state allows what follows
the text: anything for an input without the end-of-input requirement, and whatever lies behind the
end-of-input token for one with it. -/
theorem Walk.accept_word
    (start : ∀ {i gi}, g.inputs[i]? = some gi → ∃ it, W.mem i it ∧ W.rule it = g.rules.size + i ∧
      W.dot it = 0 ∧ ∀ p, (gi.eoi = true → inp.toks.size < p) → W.la it p)
    (ok0 : ∀ i : Nat, W.ok (initCfg inp i) 0) {i : Nat} {w : List Nat} (hsent : Sentence g i w)
    (hr : Reads inp 0 w)
    (hend : ∀ gi, g.inputs[i]? = some gi → gi.eoi = true → inp.toks.size ≤ w.length) :
    ∃ fuel c, run t inp i fuel = (Result.accept, c) := by
  obtain ⟨gi, hgi, hD⟩ := hsent
  obtain ⟨it, hm, hru, hd, hla⟩ := start hgi
  cases heoi : gi.eoi with
  | true =>
    -- the text, then EOI
    have hle := hend gi hgi heoi
    refine W.accept fin hm hru hd (u := w ++ [0]) ?_ (ok0 i)
      ((reads_append inp w [0] 0).mpr ⟨hr, ?_, trivial⟩)
      (hla _ fun _ => by rw [List.length_append, List.length_singleton]; omega)
    · rw [rhsOf_input hgi, if_pos heoi]
      exact .cons _ _ _ _ hD (derivesSeq_single (.term 0 (wfFacts W.wf).nTermsPos))
    · rw [Nat.zero_add]
      exact symAt_ge inp hle
  | false =>
    refine W.accept fin hm hru hd (u := w) ?_ (ok0 i) hr (hla _ fun h => by rw [heoi] at h; cases h)
    rw [rhsOf_input hgi, heoi]
    exact derivesSeq_single hD

end walk

end TmVerif.LRComplete
