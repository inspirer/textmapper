import TmVerif.Proofs.Basic
import TmVerif.Proofs.LexTables
import TmVerif.Model.ShiftDfa
/-!
C24: the arithmetic of 6-bit fields and of the codes `Pack` stores in them; the byte classes of `Pack`'s first loop;
the invariant of the packing loop (`Inv`, `PackSpec`); the simulation of `Tables.Scan` by `Scanner.Scan`, which uses
the packed scanner only through `Packed`.
-/
namespace TmVerif.ShiftDfa
open TmVerif.LexTables

variable {t : Tables}

def field (q x : Nat) : Nat := (x >>> (q * 6)) &&& 63

theorem field_or (q x y : Nat) : field q (x ||| y) = field q x ||| field q y := by
  unfold field
  rw [Nat.shiftRight_or_distrib, Nat.and_or_distrib_right]

theorem field_zero (q : Nat) : field q 0 = 0 := by simp [field]

theorem shiftLeft_lt (q v : Nat) (hv : v < 64) (hq : q ≤ 9) : v <<< (q * 6) < 2 ^ 64 := by
  rw [Nat.shiftLeft_eq]
  have h1 : 2 ^ (q * 6) ≤ 2 ^ 54 := Nat.pow_le_pow_right (by decide) (by omega)
  have h2 : v * 2 ^ (q * 6) ≤ 63 * 2 ^ 54 := Nat.mul_le_mul (by omega) h1
  have : 63 * 2 ^ 54 < 2 ^ 64 := by decide
  omega

theorem and63 (x : Nat) : x &&& 63 = x % 64 := by
  have h63 : (63 : Nat) = 2 ^ 6 - 1 := by decide
  rw [h63, Nat.and_two_pow_sub_one_eq_mod]

theorem field_eq_mod (q x : Nat) : field q x = (x >>> (q * 6)) % 64 := and63 _

theorem field_shiftLeft (q q' v : Nat) (hv : v < 64) :
    field q (v <<< (q' * 6)) = if q = q' then v else 0 := by
  by_cases hq : q = q'
  · rw [if_pos hq, hq, field_eq_mod, Nat.shiftLeft_shiftRight, Nat.mod_eq_of_lt hv]
  · -- bit `i` of the field is bit `q * 6 + i - q' * 6` of `v`, for `i < 6` and when that index is not negative
    have hbit : ∀ j, 6 ≤ j → v.testBit j = false := fun j hj =>
      Nat.testBit_lt_two_pow (Nat.lt_of_lt_of_le hv (Nat.pow_le_pow_right (by decide) hj : 2 ^ 6 ≤ 2 ^ j))
    rw [if_neg hq]
    apply Nat.eq_of_testBit_eq
    intro i
    rw [field, Nat.testBit_and, Nat.testBit_shiftRight, Nat.testBit_shiftLeft,
      show (63 : Nat) = 2 ^ 6 - 1 from rfl, Nat.testBit_two_pow_sub_one, Nat.zero_testBit]
    by_cases hlt : q * 6 + i ≥ q' * 6 ∧ i < 6
    · rw [hbit _ (by omega), Bool.and_false, Bool.false_and]
    · simp only [Bool.and_eq_false_imp, Bool.and_eq_true, decide_eq_true_eq, decide_eq_false_iff_not]
      intro h; exact fun hi => hlt ⟨h.1, hi⟩

theorem ok_of_guard {ε α : Type} {c : Prop} [Decidable c] {e : ε} {x : Except ε α} {r : α}
    (h : (if c then .error e else x) = .ok r) : ¬ c ∧ x = .ok r := by
  by_cases hc : c
  · rw [if_pos hc] at h; exact nomatch h
  · exact ⟨hc, by rwa [if_neg hc] at h⟩

/-- value of `encodeTarget` when it succeeds -/
def encVal (x : Int) : Nat := if x < 0 then ((-1 - x) * 2 + 1).toNat else (x * 6).toNat

/-- A successor state `≤ 9` or an action `< 32` is encoded in six bits. -/
theorem encodeTarget_ok {x : Int} {v : Nat} (h : encodeTarget x = .ok v) (hx : x ≤ 9) :
    v = encVal x ∧ v < 64 := by
  unfold encVal
  revert h
  -- an action `≥ 32` (an error); an action; a state
  fun_cases encodeTarget x
  case case1 => exact nofun
  case case2 hneg ha => rw [if_pos hneg]; intro h; cases h; omega
  case case3 hneg => rw [if_neg hneg]; intro h; cases h; omega

theorem encVal_neg (x : Int) (hx : x < 0) : encVal x % 2 = 1 ∧ ((encVal x / 2 : Nat) : Int) = -1 - x := by
  unfold encVal
  simp only [hx, if_true]
  omega

theorem encVal_nonneg (x : Int) (hx : ¬ x < 0) : encVal x = 6 * x.toNat := by
  unfold encVal
  simp only [hx, if_false]
  omega

theorem shift_state {st q : Nat} (h : st % 64 = 6 * q) : st % 2 = 0 ∧ st % 64 = q * 6 ∧ st % 64 / 6 = q := by
  omega

theorem action_state {st : Nat} {x : Int} (hx : x < 0) (h : st % 64 = encVal x) :
    st % 2 = 1 ∧ ((st % 64 % 256 / 2 : Nat) : Int) = -1 - x := by
  -- both sides read the six-bit code only
  rw [← Nat.mod_mod_of_dvd st (by decide : 2 ∣ 64), Nat.mod_eq_of_lt (by omega : st % 64 < 256), h]
  exact encVal_neg x hx

theorem orBytes_size (l : List Nat) (v : Nat) (tb : Array Nat) : (orBytes tb l v).size = tb.size := by
  induction l generalizing tb with
  | nil => rfl
  | cons a l ih => exact (ih _).trans Array.size_modify

theorem orBytes_append (tb : Array Nat) (l l' : List Nat) (v : Nat) :
    orBytes tb (l ++ l') v = orBytes (orBytes tb l v) l' v := List.foldl_append

theorem orBytes_getD (l : List Nat) (v : Nat) (tb : Array Nat) (i : Nat) (hi : i < tb.size) :
    (orBytes tb l v).getD i 0 = if i ∈ l then tb.getD i 0 ||| v else tb.getD i 0 := by
  induction l generalizing tb with
  | nil => rfl
  | cons a l ih =>
    rw [orBytes, List.foldl_cons, ← orBytes, ih _ (by rwa [Array.size_modify]), getD_modify]
    by_cases hia : a = i
    · subst hia
      simp only [hi, and_self, if_true, List.mem_cons, true_or]
      -- a byte listed twice is ORed twice
      split
      · rw [Nat.or_assoc, Nat.or_self]
      · rfl
    · simp only [hia, Ne.symm hia, false_and, if_false, List.mem_cons, false_or]

/-- `e` before byte `k` is processed by the loop `for i := uint8(0); i < 128; i++` of `Pack`. -/
def walk (t : Tables) : Nat → Nat
  | 0 => 0
  | k + 1 => walkStep t (walk t k) k

/-- `walk t k` is the segment of `k - 1` (segment 0 before the first byte), in the form `symIndex_eq` asks for. -/
theorem walk_spec (w : WF t) (k : Nat) :
    ∃ h : walk t k < t.symbolMap.size,
      (walk t k = 0 ∨ t.symbolMap[walk t k].start ≤ (k : Int) - 1) ∧
      ∀ h1 : walk t k + 1 < t.symbolMap.size, (k : Int) - 1 < t.symbolMap[walk t k + 1].start := by
  induction k with
  | zero =>
    refine ⟨w.map_ne, Or.inl rfl, fun h1 => ?_⟩
    have := w.sorted 0 (walk t 0 + 1) (Nat.succ_pos _) h1
    have := w.start0 w.map_ne
    omega
  | succ k ih =>
    obtain ⟨he, hlo, hhi⟩ := ih
    rw [show walk t (k + 1) = walkStep t (walk t k) k from rfl]
    generalize walk t k = e at *
    fun_cases walkStep t e k
    case case1 en hen heq =>
      obtain ⟨h1, rfl⟩ := Array.getElem?_eq_some_iff.1 hen
      exact ⟨h1, Or.inr (by omega), fun h2 => by have := w.sorted (e + 1) (e + 1 + 1) (by omega) h2; omega⟩
    case case2 en hen heq =>
      obtain ⟨h1, rfl⟩ := Array.getElem?_eq_some_iff.1 hen
      have := hhi h1
      exact ⟨he, by omega, fun _ => by omega⟩
    case case3 hen =>
      exact ⟨he, by omega, fun h => absurd h (by rw [Array.getElem?_eq_none_iff] at hen; omega)⟩

/-- symbol of byte `b` according to the lookup of `Tables.Scan` -/
def symN (t : Tables) (b : Nat) : Nat := ((symOf t b).getD 0).toNat

/-- After byte `k` the loop cursor of `Pack` is where the binary search of `Scan` lands. -/
theorem walk_succ (w : WF t) (k : Nat) :
    walk t (k + 1) = symIndex t k ∧ symIndex t k < t.symbolMap.size := by
  obtain ⟨he, hlo, hhi⟩ := walk_spec w (k + 1)
  have hsi : symIndex t k = walk t (k + 1) :=
    symIndex_eq t w k _ he (by omega) fun h => by have := hhi h; omega
  exact ⟨hsi.symm, hsi ▸ he⟩

theorem symOf_nat (w : WF t) (k : Nat) :
    symOf t k = some (symN t k : Int) ∧ symN t k < t.numSymbols.toNat := by
  obtain ⟨-, he⟩ := walk_succ w k
  obtain ⟨h0, hn⟩ := w.targets _ he
  have hs : symOf t k = some t.symbolMap[symIndex t k].target := by
    rw [symOf, Array.getElem?_eq_getElem he]; rfl
  rw [symN, hs, Option.getD_some, Int.toNat_of_nonneg h0]
  exact ⟨rfl, by omega⟩

theorem symBytes_fold (w : WF t) (k : Nat) :
    ∃ sb, (List.range k).foldlM (symBytesStep t) (0, Array.replicate t.numSymbols.toNat []) = some (walk t k, sb) ∧
      sb.size = t.numSymbols.toNat ∧ ∀ s, sb.getD s [] = (List.range k).filter fun i => symN t i = s := by
  induction k with
  | zero =>
    exact ⟨_, rfl, Array.size_replicate, fun s => getD_replicate ..⟩
  | succ k ih =>
    obtain ⟨sb, hf, hsz, hmem⟩ := ih
    obtain ⟨hwk, -⟩ := walk_succ w k
    obtain ⟨hsym, hlt⟩ := symOf_nat w k
    obtain ⟨en, hen, (htg : en.target = _)⟩ := Option.map_eq_some_iff.1 hsym
    have hsn : symN t k < sb.size := hsz ▸ hlt
    have hstep : symBytesStep t (walk t k, sb) k = some (walk t (k + 1), sb.modify (symN t k) (· ++ [k])) := by
      rw [symBytesStep, show walkStep t (walk t k, sb).1 k = walk t (k + 1) from rfl, hwk, hen]
      simp only [htg, Int.toNat_natCast, Int.natCast_nonneg, hsn, and_self, if_true]
    rw [List.range_succ, List.foldlM_append, hf]
    simp only [Option.bind_eq_bind, Option.bind_some, List.foldlM_cons, List.foldlM_nil, hstep]
    refine ⟨_, rfl, Array.size_modify.trans hsz, fun s => ?_⟩
    rw [List.filter_append, ← hmem s, getD_modify]
    by_cases h : symN t k = s
    · subst h
      rw [if_pos ⟨rfl, hsn⟩]
      simp
    · rw [if_neg (h ∘ And.left)]
      simp [h]

def cellVal (t : Tables) (q s : Nat) : Nat := encVal (t.dfa.getD (q * t.numSymbols.toNat + s) 0)

theorem cellVal_of_get {q s : Nat} {x : Int} (h : t.dfa[q * t.numSymbols.toNat + s]? = some x) :
    cellVal t q s = encVal x := by
  rw [cellVal, Array.getD_eq_getD_getElem?, h]; rfl

/-- The rows into which `Pack` ORs the cells of symbol `s`: the ASCII bytes of `s`, and all bytes from 128 on when
`s` is the symbol of the last map entry. -/
def rowBytes (sb : Array (List Nat)) (uni : Int) (s : Nat) : List Nat :=
  sb.getD s [] ++ if (s : Int) ≠ uni then [] else List.range' 128 128

theorem packCell_ok {sb : Array (List Nat)} {uni : Int} {r r' : Scanner} {q s : Nat}
    (hq : q ≤ 9) (hlt : ∀ (i : Nat) x, t.dfa[i]? = some x → x ≤ 9)
    (h : packCell t t.numSymbols.toNat sb uni r (q, s) = .ok r') :
    cellVal t q s < 64 ∧ (s = 0 → cellVal t q s % 2 = 1) ∧
      r' = ⟨orBytes r.table (rowBytes sb uni s) (cellVal t q s <<< (q * 6)),
        if s = 0 then r.onEoi.setIfInBounds q (cellVal t q s / 2) else r.onEoi⟩ := by
  unfold packCell at h
  simp only at h
  cases hx : t.dfa[q * t.numSymbols.toNat + s]? with
  | none => rw [hx] at h; exact nomatch h
  | some x =>
    rw [hx] at h
    simp only at h
    cases he : encodeTarget x with
    | error e => rw [he] at h; exact nomatch h
    | ok v =>
      rw [he] at h
      obtain ⟨hc, h⟩ := ok_of_guard h
      obtain ⟨hv, hv64⟩ := encodeTarget_ok he (hlt _ x hx)
      have hcv : cellVal t q s = v := (cellVal_of_get hx).trans hv.symm
      rw [Nat.mod_eq_of_lt (shiftLeft_lt q v hv64 hq), Nat.mod_eq_of_lt (by omega : v < 256)] at h
      refine ⟨hcv ▸ hv64, fun h0 => by omega, ?_⟩
      rw [hcv, rowBytes]
      by_cases hu : (s : Int) ≠ uni
      · rw [if_pos hu] at h ⊢
        rw [← Except.ok.inj h, List.append_nil]
      · rw [if_neg hu] at h ⊢
        rw [← Except.ok.inj h, orBytes_append]

/-- After the cells `done`: field `q` of row `b` holds the cell of `q` and the symbol `cls b` of the row once
that cell is done, and `onEoi[q]` the action of the end-of-input cell. -/
structure Inv (t : Tables) (cls : Nat → Nat) (done : List (Nat × Nat)) (r : Scanner) : Prop where
  tsize : r.table.size = 256
  esize : r.onEoi.size = 11
  fld : ∀ b q, b < 256 → field q (r.table.getD b 0) =
    if (q, cls b) ∈ done then cellVal t q (cls b) else 0
  eoi : ∀ q, (q, 0) ∈ done → r.onEoi.getD q 0 = cellVal t q 0 / 2 ∧ cellVal t q 0 % 2 = 1

theorem inv_empty (cls : Nat → Nat) : Inv t cls [] Scanner.empty := by
  refine ⟨Array.size_replicate, Array.size_replicate, fun b q hb => ?_, fun q hq => nomatch hq⟩
  rw [Scanner.empty, getD_replicate, field_zero]; rfl

theorem packCell_inv {cls : Nat → Nat} {sb : Array (List Nat)} {uni : Int}
    (hrow : ∀ s b, b < 256 → (b ∈ rowBytes sb uni s ↔ cls b = s)) {done : List (Nat × Nat)} {r r' : Scanner}
    {q s : Nat} (hq : q ≤ 9) (hlt : ∀ (i : Nat) x, t.dfa[i]? = some x → x ≤ 9)
    (inv : Inv t cls done r) (h : packCell t t.numSymbols.toNat sb uni r (q, s) = .ok r') :
    Inv t cls (done ++ [(q, s)]) r' := by
  obtain ⟨hv64, hodd, rfl⟩ := packCell_ok hq hlt h
  have hmem : ∀ q' c, (q', c) ∈ done ++ [(q, s)] ↔ (q', c) ∈ done ∨ (q' = q ∧ c = s) := by
    intro q' c; rw [List.mem_append, List.mem_singleton, Prod.mk.injEq]
  refine ⟨(orBytes_size ..).trans inv.tsize, ?_, fun b q' hb => ?_, fun q' hq' => ?_⟩
  · show (if s = 0 then _ else _ : Array Nat).size = 11
    rw [apply_ite Array.size, Array.size_setIfInBounds, ite_self]
    exact inv.esize
  · -- the row of `b` changes iff `cls b = s`, and then only in field `q`
    show field q' ((orBytes r.table (rowBytes sb uni s) _).getD b 0) = _
    rw [orBytes_getD _ _ _ b (inv.tsize ▸ hb)]
    simp only [hrow s b hb, hmem]
    by_cases hsb : cls b = s
    · rw [if_pos hsb, field_or, field_shiftLeft q' q _ hv64, inv.fld b q' hb]
      by_cases hqq : q' = q
      · subst hqq hsb
        simp only [and_self, or_true, if_true]
        split
        · exact Nat.or_self _
        · exact Nat.zero_or _
      · simp only [hqq, false_and, or_false, if_false, Nat.or_zero]
    · simp only [hsb, and_false, or_false, if_false]
      exact inv.fld b q' hb
  · show (if s = 0 then _ else _ : Array Nat).getD q' 0 = _ ∧ _
    rw [hmem] at hq'
    by_cases hs0 : s = 0
    · subst hs0
      rw [if_pos rfl, Array.getD_eq_getD_getElem?, Array.getElem?_setIfInBounds]
      by_cases hqq : q = q'
      · subst hqq
        rw [if_pos rfl, if_pos (by rw [inv.esize]; omega)]
        exact ⟨rfl, hodd rfl⟩
      · rw [if_neg hqq, ← Array.getD_eq_getD_getElem?]
        exact inv.eoi q' (hq'.resolve_right fun h' => hqq h'.1.symm)
    · rw [if_neg hs0]
      exact inv.eoi q' (hq'.resolve_right fun h' => hs0 h'.2.symm)

theorem foldlM_inv {ε σ α : Type} (f : σ → α → Except ε σ) (I : List α → σ → Prop) (l : List α)
    (step : ∀ d s a s', a ∈ l → I d s → f s a = .ok s' → I (d ++ [a]) s') :
    ∀ (done : List α) (init r : σ), I done init → l.foldlM f init = .ok r → I (done ++ l) r := by
  induction l with
  | nil =>
    intro done init r hi h
    cases h; rwa [List.append_nil]
  | cons a l ih =>
    intro done init r hi h
    rw [List.foldlM_cons] at h
    cases hf : f init a with
    | error e => rw [hf] at h; exact nomatch h
    | ok s1 =>
      rw [hf] at h
      have := ih (fun d s a s' ha => step d s a s' (List.mem_cons_of_mem _ ha)) (done ++ [a]) s1 r
        (step done init a s1 List.mem_cons_self hi hf) h
      rwa [List.append_assoc] at this

theorem mem_cells (S n q s : Nat) : (q, s) ∈ cells S n ↔ q < S ∧ s < n := by
  simp [cells]

/-- The symbol whose cells `Pack` ORs into row `b`: the symbol of `b` for `b < 128`, the symbol of the last
map entry for `b ≥ 128`. -/
def packCls (t : Tables) (b : Nat) : Nat :=
  if b < 128 then symN t b else ((t.symbolMap.back?).map (·.target.toNat)).getD 0

theorem packCls_lo {b : Nat} (h : b < 128) : packCls t b = symN t b := if_pos h

theorem packCls_hi {b : Nat} {last : RangeEntry} (h : ¬ b < 128) (hb : t.symbolMap.back? = some last) :
    packCls t b = last.target.toNat := by
  rw [packCls, if_neg h, hb]; rfl

theorem mem_rowBytes {sb : Array (List Nat)} {last : RangeEntry}
    (hb : t.symbolMap.back? = some last) (h0 : 0 ≤ last.target)
    (hmem : ∀ s, sb.getD s [] = (List.range 128).filter fun i => symN t i = s) (s b : Nat) (hb256 : b < 256) :
    b ∈ rowBytes sb last.target s ↔ packCls t b = s := by
  rw [rowBytes, List.mem_append, hmem, List.mem_filter, List.mem_range, decide_eq_true_eq]
  by_cases hb128 : b < 128
  · rw [packCls_lo hb128]
    have : ¬ b ∈ (if (s : Int) ≠ last.target then [] else List.range' 128 128) := by
      split
      · exact List.not_mem_nil
      · rw [List.mem_range'_1]; omega
    simp only [hb128, true_and, this, or_false]
  · rw [packCls_hi hb128 hb]
    by_cases hsu : (s : Int) ≠ last.target
    · rw [if_pos hsu]; simp only [hb128, false_and, List.not_mem_nil, or_false, false_iff]; omega
    · rw [if_neg hsu, List.mem_range'_1]; omega

/-- What the simulation uses of a packed scanner, `cls b` being the symbol whose cells went into row `b`: no
backtracking; field `q` of row `b` holds the code of the lexer's cell for state `q` and symbol `cls b`; `onEoi[q]`
holds the action of the end-of-input cell of `q`. -/
structure Packed (t : Tables) (cls : Nat → Nat) (s : Scanner) : Prop where
  no_bt : t.backtrack.size = 0
  fld : ∀ b q, b < 256 → q < numStates t → field q (s.table.getD b 0) = cellVal t q (cls b)
  eoi : ∀ q, q < numStates t → s.onEoi.getD q 0 = cellVal t q 0 / 2 ∧ cellVal t q 0 % 2 = 1

/-- What a successful `Pack` establishes on well-formed tables (no assumption on the guard). -/
structure PackSpec (guard : Int) (t : Tables) (s : Scanner) : Prop extends Packed t (packCls t) s where
  start0 : t.stateMap[0]? = some 0
  last_le : ∀ e, t.symbolMap.back? = some e → e.start ≤ guard

theorem packWith_spec {guard : Int} {s : Scanner} (w : WF t)
    (h : packWith guard t = .ok s) : PackSpec guard t s := by
  have hns := w.ns_pos
  revert h
  -- the one case in which `Pack` returns a scanner has every guard, negated, in the context
  fun_cases packWith guard t
  case case9 _ states h10 hbt hsm last hb hgd _ sb hsb =>
    intro h
    have hst : states = (numStates t : Int) := by
      rw [numStates, Int.natCast_ediv, Int.toNat_of_nonneg (Int.le_of_lt hns)]
      exact Int.tdiv_eq_ediv_of_nonneg (Int.natCast_nonneg _)
    rw [hst] at h10
    rw [hst, Int.toNat_natCast] at h
    obtain ⟨sb', hfold, hsz, hmem⟩ := symBytes_fold w 128
    rw [symBytes, hfold] at hsb
    cases hsb
    obtain ⟨hl, hle⟩ := Array.getElem?_eq_some_iff.1 (Array.back?_eq_getElem? ▸ hb)
    obtain ⟨hu0, hun⟩ := w.targets _ hl
    rw [hle] at hu0 hun
    have hcls : ∀ b, packCls t b < t.numSymbols.toNat := by
      intro b
      by_cases h : b < 128
      · exact packCls_lo h ▸ (symOf_nat w b).2
      · rw [packCls_hi h hb]; omega
    have hinv := foldlM_inv _ (Inv t (packCls t)) _
      (by
        intro d r a r' ha hi hf
        obtain ⟨q, s'⟩ := a
        rw [mem_cells] at ha
        refine packCell_inv (mem_rowBytes hb hu0 hmem) (by omega) (fun i x hx => ?_) hi hf
        obtain ⟨hlt, rfl⟩ := Array.getElem?_eq_some_iff.mp hx
        have := w.dfa_lt _ hlt
        omega)
      [] Scanner.empty s (inv_empty _) h
    rw [List.nil_append] at hinv
    refine ⟨⟨by omega, ?_, ?_⟩, Decidable.not_not.1 fun h0 => hsm (Or.inr h0),
      fun e he => by rw [hb] at he; cases he; omega⟩
    · intro b q hb hq
      rw [hinv.fld b q hb, if_pos ((mem_cells ..).2 ⟨hq, hcls b⟩)]
    · intro q hq
      exact hinv.eoi q ((mem_cells ..).2 ⟨hq, by omega⟩)
  all_goals exact nofun

theorem packCls_eq_symN (w : WF t)
    (hl : ∀ e, t.symbolMap.back? = some e → e.start ≤ 0x80) (b : Nat) : packCls t b = symN t b := by
  by_cases h : b < 128
  · exact packCls_lo h
  · have hmne := w.map_ne
    have hLlt : t.symbolMap.size - 1 < t.symbolMap.size := by omega
    have hlast : t.symbolMap.back? = some (t.symbolMap[t.symbolMap.size - 1]) := by
      rw [Array.back?_eq_getElem?, Array.getElem?_eq_getElem]
    have := hl _ hlast
    rw [packCls_hi h hlast, symN, symOf_eq t w _ _ hLlt (Or.inr (by omega)) fun h1 => by omega]; rfl

/-- The part of `Scanner.Scan` after the loop. -/
def Scanner.fin (d : Scanner) (total : Nat) (r : Nat × Nat) : Nat × Nat :=
  if r.2 &&& 1 = 0 then (total, d.onEoi.getD ((r.2 &&& 63) / 6) 0)
  else (r.1 - 1, (r.2 &&& 63) % 256 / 2)

section
variable {d : Scanner} {total i st q : Nat}

/-- `Scanner.Scan` in a state that holds the code of the lexer state `q`: one more byte, or the end-of-input table. -/
theorem scanLoop_shift {b : UInt8} {rest : List UInt8} (h : st % 64 = 6 * q) :
    d.scanLoop (b :: rest) i st = d.scanLoop rest (i + 1) (d.table.getD b.toNat 0 >>> (q * 6)) := by
  obtain ⟨hev, hsh, -⟩ := shift_state h
  rw [Scanner.scanLoop, Nat.and_one_is_mod, and63, if_pos hev, hsh]

theorem fin_shift (h : st % 64 = 6 * q) : d.fin total (i, st) = (total, d.onEoi.getD q 0) := by
  obtain ⟨hev, -, hidx⟩ := shift_state h
  simp only [Scanner.fin, Nat.and_one_is_mod, and63, if_pos hev, hidx]

/-- `Scanner.Scan` in a state that holds the code of an action: the loop stops and the action is returned. -/
theorem fin_scanLoop_odd {input : List UInt8} (h : st % 2 = 1) :
    d.fin total (d.scanLoop input i st) = (i - 1, st % 64 % 256 / 2) := by
  have hne : ¬ st % 2 = 0 := by omega
  have : d.scanLoop input i st = (i, st) := by
    cases input with
    | nil => rfl
    | cons b rest => rw [Scanner.scanLoop, Nat.and_one_is_mod, if_neg hne]
  simp only [this, Scanner.fin, Nat.and_one_is_mod, and63, if_neg hne]

end

theorem dfa_cell (w : WF t) (q c : Nat) (hq : q < numStates t) (hc : c < t.numSymbols.toNat) :
    ∃ x, getI t.dfa ((q : Int) * t.numSymbols + (c : Int)) = some x ∧ x < (numStates t : Int) ∧
      cellVal t q c = encVal x := by
  have hlt : q * t.numSymbols.toNat + c < t.dfa.size := by
    have := (Nat.le_div_iff_mul_le (by omega)).1 hq
    rw [Nat.succ_mul] at this
    omega
  have hcast : (q : Int) * t.numSymbols + (c : Int) = ((q * t.numSymbols.toNat + c : Nat) : Int) := by
    rw [Int.natCast_add, Int.natCast_mul, Int.toNat_of_nonneg (Int.le_of_lt w.ns_pos)]
  rw [hcast, getI_natCast]
  exact ⟨_, Array.getElem?_eq_getElem hlt, w.dfa_lt _ hlt, cellVal_of_get (Array.getElem?_eq_getElem hlt)⟩

/-- Simulation: the packed state is `6 * q` (mod 64) while the lexer is in state `q`. -/
theorem scan_sim {s : Scanner} (w : WF t) (p : Packed t (symN t) s) :
    ∀ (input : List UInt8) (i st q : Nat), q < numStates t → st % 64 = 6 * q →
      LexTables.scanLoop t (input.map fun b => ((b.toNat : Int), 1)) i (q : Int) 0 0 =
        some ((s.fin (i + input.length) (s.scanLoop input i st)).1,
          ((s.fin (i + input.length) (s.scanLoop input i st)).2 : Int)) := by
  have hns := w.ns_pos
  have hbt : actionStart t = -1 := by rw [actionStart, p.no_bt]; rfl
  intro input
  induction input with
  | nil =>
    intro i st q hq hst
    obtain ⟨x, hx, -, hcv⟩ := dfa_cell w q 0 hq (by omega)
    obtain ⟨heoi, hodd⟩ := p.eoi q hq
    rw [Int.natCast_zero, Int.add_zero] at hx
    rw [hcv] at heoi hodd
    -- the cell holds an action, since its code is odd
    have hneg : x < 0 := Int.not_le.1 fun hx => by have := encVal_nonneg x (by omega); omega
    rw [Scanner.scanLoop, fin_shift hst]
    simp only [List.map_nil, LexTables.scanLoop, hx, hbt, heoi, (encVal_neg x hneg).2]
    rw [if_neg (by omega)]
    rfl
  | cons b rest ih =>
    intro i st q hq hst
    obtain ⟨hsym, hsymlt⟩ := symOf_nat w b.toNat
    obtain ⟨x, hx, hxS, hcv⟩ := dfa_cell w q (symN t b.toNat) hq hsymlt
    have hfld := p.fld b.toNat q (UInt8.toNat_lt b) hq
    rw [hcv, field_eq_mod] at hfld
    have hlen : i + (b :: rest).length = i + 1 + rest.length := by rw [List.length_cons]; omega
    rw [List.map_cons, LexTables.scanLoop, scanLoop_shift hst, hlen]
    simp only [hsym, hx, hbt]
    generalize s.table.getD b.toNat 0 >>> (q * 6) = st' at hfld
    by_cases hneg : x < 0
    · -- an action: both loops stop here
      obtain ⟨hodd, hact⟩ := action_state hneg hfld
      rw [if_pos hneg, if_neg (by omega), if_neg (by omega), fin_scanLoop_odd hodd, hact]
      rfl
    · rw [if_neg hneg]
      have := ih (i + 1) st' x.toNat (by omega) (by rw [hfld, encVal_nonneg x hneg])
      rwa [Int.toNat_of_nonneg (by omega)] at this

theorem PackSpec.agrees {guard : Int} {s : Scanner} (ps : PackSpec guard t s) (w : WF t)
    (hl : ∀ e, t.symbolMap.back? = some e → e.start ≤ 0x80) (input : List UInt8) :
    lexScanBytes t 0 input = some ((s.scan input).1, ((s.scan input).2 : Int)) := by
  have hq := w.start_states 0 (Array.getElem?_eq_some_iff.mp ps.start0).1
  have := scan_sim w ((funext (packCls_eq_symN w hl) : packCls t = symN t) ▸ ps.toPacked) input 0 0 0 (by omega) rfl
  rw [Nat.zero_add] at this
  -- `s.scan input` is `s.fin input.length (s.scanLoop input 0 0)` by definition
  rw [lexScanBytes, lexScanChars_start (show getI t.stateMap 0 = some 0 from ps.start0)]
  exact this

theorem scan_first_odd (d : Scanner) (b : UInt8) (rest : List UInt8) (v : Nat)
    (h : field 0 (d.table.getD b.toNat 0) = v) (hodd : v % 2 = 1) :
    d.scan (b :: rest) = (0, v % 256 / 2) := by
  rw [field_eq_mod, Nat.zero_mul, Nat.shiftRight_zero] at h
  show d.fin _ (d.scanLoop (b :: rest) 0 0) = _
  rw [scanLoop_shift (q := 0) rfl, Nat.zero_mul, Nat.shiftRight_zero, fin_scanLoop_odd (by omega), h]

theorem ok_of_isOk {ε α : Type} {x : Except ε α} (h : x.isOk = true) : ∃ a, x = .ok a :=
  match x, h with
  | .ok a, _ => ⟨a, rfl⟩

end TmVerif.ShiftDfa
