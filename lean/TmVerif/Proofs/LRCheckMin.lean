/-
C06: an accepted simulation certificate `simCheck t t' …` provides the hypotheses of the simulation
theorem of Proofs/LRCheckSim.lean (`simHyp_min`): the run of the minimized tables is the image of the run
of the unminimized ones under the state map `rel`, up to rule classes (`run_rel`).
-/
import TmVerif.Proofs.LRCheckSim
namespace TmVerif.LRCheck
open TmVerif.LR

section
variable {t t' : Tables} {acts : Array Int} {n : Nat} {rel : Array (Option Nat)} {rs : List (List Nat)}
  (h : simCheck t t' acts n rel rs = true)
include h

theorem simCheck_entry {i : Nat} (hi : i < n) : relAt rel i = some i := by
  unfold simCheck at h
  simp only [Bool.and_eq_true] at h
  exact beq_iff_eq.1 (List.all_eq_true.1 h.1.1.1 i (List.mem_range.2 hi))

theorem simCheck_state {s s' : Nat} (hs : s < t.nStates) (hr : relAt rel s = some s') :
    (∀ x, x < t.nSyms → gotoSim t t' rel s s' x = true) ∧
    (∀ a, a < t.nTerms → obsSim t t' acts rel (obsDefault t s a) (obsDefault t' s' a) = true) := by
  unfold simCheck at h
  simp only [Bool.and_eq_true] at h
  have := List.all_eq_true.1 h.1.1.2 s (List.mem_range.2 hs)
  rw [hr] at this
  obtain ⟨h1, h2⟩ := Bool.and_eq_true_iff.1 this
  exact ⟨fun x hx => List.all_eq_true.1 h1 x (List.mem_range.2 hx),
    fun a ha => List.all_eq_true.1 h2 a (List.mem_range.2 ha)⟩

theorem simCheck_input {i : Nat} (hi : i < n) :
    (rs.getD i []).contains i = true ∧ reachClosed t (rs.getD i []) = true ∧
    ∃ f f', t.finalStates[i]? = some f ∧ t'.finalStates[i]? = some f' ∧
      ∀ s ∈ rs.getD i [], s < t.nStates ∧
        ∃ s', relAt rel s = some s' ∧ ((f == (s : Int)) = (f' == (s' : Int))) := by
  unfold simCheck at h
  simp only [Bool.and_eq_true] at h
  have := List.all_eq_true.1 h.2 i (List.mem_range.2 hi)
  simp only [Bool.and_eq_true] at this
  obtain ⟨⟨h1, h2⟩, h3⟩ := this
  refine ⟨h1, h2, ?_⟩
  split at h3
  · rename_i f f' hf hf'
    refine ⟨f, f', hf, hf', fun s hs => ?_⟩
    obtain ⟨h4, h5⟩ := Bool.and_eq_true_iff.1 (List.all_eq_true.1 h3 s hs)
    refine ⟨of_decide_eq_true h4, ?_⟩
    split at h5
    · rename_i s' hr
      exact ⟨s', hr, beq_iff_eq.1 h5⟩
    · cases h5
  · cases h3
end

structure SimFacts (t t' : Tables) (acts : Array Int) (rel : Array (Option Nat)) (i : Nat)
    (set : List Nat) (f f' : Int) : Prop where
  entry : relAt rel i = some i
  entryMem : i ∈ set
  trans : ∀ s s', s ∈ set → relAt rel s = some s' → ∀ x, x < t.nSyms →
    gotoSim t t' rel s s' x = true
  acts : ∀ s s', s ∈ set → relAt rel s = some s' → ∀ a, a < t.nTerms →
    obsSim t t' acts rel (obsDefault t s a) (obsDefault t' s' a) = true
  closed : ∀ s, s ∈ set → ∀ x, x < t.nSyms → ∀ q, gotoDefault t s x = some q →
    q < 0 ∨ q.toNat ∈ set
  related : ∀ s, s ∈ set → ∃ s', relAt rel s = some s'
  fin : t.finalStates[i]? = some f
  fin' : t'.finalStates[i]? = some f'
  finEq : ∀ s s', s ∈ set → relAt rel s = some s' → (f = (s : Int) ↔ f' = (s' : Int))

theorem simFacts {t t' : Tables} {acts : Array Int} {n : Nat} {rel : Array (Option Nat)}
    {rs : List (List Nat)} (h : simCheck t t' acts n rel rs = true) {i : Nat} (hi : i < n) :
    ∃ f f', SimFacts t t' acts rel i (rs.getD i []) f f' := by
  obtain ⟨hmem, hclosed, f, f', hf, hf', hset⟩ := simCheck_input h hi
  refine ⟨f, f', simCheck_entry h hi, List.contains_iff_mem.1 hmem, ?_, ?_, ?_,
    fun s hs => (hset s hs).2.imp fun _ hs' => hs'.1, hf, hf', ?_⟩
  · intro s s' hs hr x hx
    exact (simCheck_state h (hset s hs).1 hr).1 x hx
  · intro s s' hs hr a ha
    exact (simCheck_state h (hset s hs).1 hr).2 a ha
  · intro s hs x hx q hq
    unfold reachClosed at hclosed
    have := List.all_eq_true.1 (List.all_eq_true.1 hclosed s hs) x (List.mem_range.2 hx)
    rw [hq] at this
    simpa using this
  · intro s s' hs hr
    obtain ⟨_, s'', hr', heq⟩ := hset s hs
    cases hr.symm.trans hr'
    rw [← beq_iff_eq, heq, beq_iff_eq]

theorem obsSim_cases {t t' : Tables} {acts : Array Int} {rel : Array (Option Nat)} {o o' : Obs}
    (h : obsSim t t' acts rel o o' = true) : ∃ x x', o.toAct = some x ∧ o'.toAct = some x' ∧
    ((∃ q q', x = .shift q ∧ x' = .shift q' ∧ 0 ≤ q' ∧ relAt rel q.toNat = some q'.toNat) ∨
     (∃ r r', x = .reduce r ∧ x' = .reduce r' ∧ ruleClassEq t acts r r' = true ∧
       geti t'.ruleLen r' = geti t.ruleLen r') ∨
     (x = .error ∧ x' = .error)) := by
  revert h
  fun_cases obsSim t t' acts rel o o' <;> intro h
  case case1 q q' =>
    simp only [Bool.and_eq_true, decide_eq_true_eq, beq_iff_eq] at h
    exact ⟨_, _, rfl, rfl, .inl ⟨q, q', rfl, rfl, h.2, h.1.2⟩⟩
  case case2 r r' =>
    simp only [Bool.and_eq_true, beq_iff_eq] at h
    exact ⟨_, _, rfl, rfl, .inr (.inl ⟨r, r', rfl, rfl, h.1, h.2⟩)⟩
  case case7 => cases h
  -- the four pairings of a plain and an explicit error
  all_goals exact ⟨_, _, rfl, rfl, .inr (.inr ⟨rfl, rfl⟩)⟩

def mapS (rel : Array (Option Nat)) (s : Int) : Int :=
  match relAt rel s.toNat with
  | some s' => (s' : Int)
  | none => -1

def mapE (rel : Array (Option Nat)) (e : Entry) : Entry := { e with state := mapS rel e.state }

def Good (rel : Array (Option Nat)) (set : List Nat) (s : Int) : Prop :=
  ∃ p : Nat, s = (p : Int) ∧ p ∈ set ∧ ∃ p', relAt rel p = some p'

theorem mapS_of {rel : Array (Option Nat)} {p p' : Nat} (h : relAt rel p = some p') :
    mapS rel (p : Int) = (p' : Int) := by
  unfold mapS; rw [Int.toNat_natCast, h]

theorem mapS_of_nonneg {rel : Array (Option Nat)} {q q' : Int} (hq' : 0 ≤ q')
    (h : relAt rel q.toNat = some q'.toNat) : mapS rel q = q' := by
  unfold mapS; rw [h]; exact Int.toNat_of_nonneg hq'

theorem evSim_iff {t : Tables} {acts : Array Int} {e e' : Ev} : evSim t acts e e' = true ↔
    (∃ s o en, e = Ev.shift s o en ∧ e' = Ev.shift s o en) ∨
    (∃ r r' o en, e = Ev.reduce r o en ∧ e' = Ev.reduce r' o en ∧ ruleClassEq t acts r r' = true) := by
  constructor
  · intro h
    cases e <;> cases e' <;> simp only [evSim, Bool.and_eq_true, beq_iff_eq, Bool.false_eq_true] at h
    · obtain ⟨⟨rfl, rfl⟩, rfl⟩ := h
      exact .inl ⟨_, _, _, rfl, rfl⟩
    · obtain ⟨⟨h, rfl⟩, rfl⟩ := h
      exact .inr ⟨_, _, _, _, rfl, rfl, h⟩
  · rintro (⟨s, o, en, rfl, rfl⟩ | ⟨r, r', o, en, rfl, rfl, h⟩)
    · simp [evSim]
    · simp [evSim, h]

theorem traceSim_of_rel {t : Tables} {acts : Array Int} {evs evs' : List Ev}
    (h : TraceRel (fun r r' => ruleClassEq t acts r r' = true) evs evs') :
    traceSim t acts evs evs' = true := by
  induction h with
  | nil => rfl
  | shift s o e _ ih => exact Bool.and_eq_true_iff.2 ⟨evSim_iff.2 (.inl ⟨s, o, e, rfl, rfl⟩), ih⟩
  | reduce o e hRR _ ih => exact Bool.and_eq_true_iff.2 ⟨evSim_iff.2 (.inr ⟨_, _, o, e, rfl, rfl, hRR⟩), ih⟩

theorem mapE_off (rel : Array (Option Nat)) :
    (fun e : Entry => e.off) ∘ mapE rel = fun e => e.off := rfl

theorem mapE_endo (rel : Array (Option Nat)) :
    (fun e : Entry => e.endo) ∘ mapE rel = fun e => e.endo := rfl

/-- related states have corresponding gotos (in the form `SimHyp.goto` asks for) -/
theorem SimFacts.goto {t t' : Tables} {acts : Array Int} {rel : Array (Option Nat)} {i : Nat}
    {set : List Nat} {f f' : Int} (hf : SimFacts t t' acts rel i set f f') (hw : TablesFacts t)
    (hw' : TablesFacts t') {p p' : Nat} (hpm : p ∈ set) (hpr : relAt rel p = some p') {x : Int}
    (hx1 : 0 ≤ x) (hx2 : x < (t.nSyms : Int)) :
    ∃ q, gotoDefault t p x = some q ∧
      ((q = -1 ∧ gotoDefault t' p' x = some (-1)) ∨
       (0 ≤ q ∧ gotoDefault t' p' x = some (mapS rel q) ∧ mapS rel q ≠ -1)) := by
  have hgs := hf.trans p p' hpm hpr x.toNat ((Int.toNat_lt hx1).2 hx2)
  unfold gotoSim at hgs
  rw [Int.toNat_of_nonneg hx1] at hgs
  split at hgs
  · rename_i q q' hg hg'
    simp only [Bool.or_eq_true, Bool.and_eq_true, decide_eq_true_eq, beq_iff_eq] at hgs
    refine ⟨q, hg, ?_⟩
    rw [hg']
    rcases hgs with ⟨hq, hq'⟩ | ⟨⟨hq, hq'⟩, hrq⟩
    · -- a negative answer of `gotoDefault` is `-1`
      obtain rfl : q = -1 := (goto_valid hw hg).resolve_right fun h => Int.not_le.2 hq h.1
      obtain rfl : q' = -1 := (goto_valid hw' hg').resolve_right fun h => Int.not_le.2 hq' h.1
      exact .inl ⟨rfl, rfl⟩
    · rw [mapS_of_nonneg hq' hrq]
      exact .inr ⟨hq, rfl, fun h => absurd (h ▸ hq') (by decide)⟩
  · cases hgs

theorem simHyp_min {t t' : Tables} {acts : Array Int} {rel : Array (Option Nat)} {i : Nat}
    {set : List Nat} {f f' : Int} (hf : SimFacts t t' acts rel i set f f')
    (hw : TablesFacts t) (hw' : TablesFacts t') (hsr : sameRules t t' = true) :
    SimHyp t D[t'] (mapS rel) (fun r r' => ruleClassEq t acts r r' = true)
      (Good rel set) False False where
  gStep {p x q} := fun ⟨p, hp, hpm, _⟩ hx0 hx1 hg hq => by
    rw [hp, ← Int.toNat_of_nonneg hx0] at hg
    rcases hf.closed p hpm x.toNat ((Int.toNat_lt hx0).2 hx1) q hg with hlt | hqm
    · exact absurd hq (Int.not_le.2 hlt)
    · exact ⟨q.toNat, (Int.toNat_of_nonneg hq).symm, hqm, hf.related _ hqm⟩
  gNonneg := fun ⟨p, hp, _⟩ => hp ▸ Int.natCast_nonneg p
  cell p a hG ha := by
    obtain ⟨p0, hp0, hpm, p', hpr⟩ := hG
    cases Int.natCast_inj.1 hp0
    rw [mapS_of hpr]
    obtain ⟨x, x', ho, ho', hc⟩ := obsSim_cases (hf.acts p p' hpm hpr a ha)
    refine ⟨x, ho, .inr ⟨x', actOf_of_obs hw' ho', ?_⟩⟩
    rcases hc with ⟨q, q', rfl, rfl, hq', hrq⟩ | ⟨r, r', rfl, rfl, hcls, hlen⟩ | ⟨rfl, rfl⟩
    · exact .shift (mapS_of_nonneg hq' hrq).symm (by rw [mapS_of hpr]; exact (shift_of_obs hw' ho').2.2)
    · have hc := hcls
      simp only [ruleClassEq, sameRules, Bool.and_eq_true, beq_iff_eq] at hc hsr
      refine .reduce hcls (hlen.trans hc.1.1.2.symm) ?_
      show geti t'.ruleSymbol r' = _
      rw [← hsr.1.2]; exact hc.1.1.1.symm
    · exact .error
  -- the seven blanks say which reduction uncovers `top`: only the instance for C05 reads them (`NoMiss`)
  goto {stk p a r ln lhs top} _ _ _ _ _ _ _ hG hl1 hl2 := by
    obtain ⟨p0, hp0, hpm, p', hpr⟩ := hG
    obtain ⟨q, hg, hq⟩ := hf.goto hw hw' hpm hpr (Int.le_trans (Int.natCast_nonneg _) hl1) hl2
    rw [hp0, mapS_of hpr]
    exact ⟨q, hg, hq.imp_left fun h => ⟨h.1, .inl h.2⟩⟩

theorem run_rel {t t' : Tables} {acts : Array Int} {n : Nat} {rel : Array (Option Nat)}
    {rs : List (List Nat)} (h : simCheck t t' acts n rel rs = true)
    (hwf : tablesWf t = true) (hwf' : tablesWf t' = true) (hsr : sameRules t t' = true)
    {inp : Input} (hin : inputOk t inp = true) {i : Nat} (hi : i < n) (fuel : Nat) :
    (run D[t] inp i fuel).1 = (run D[t'] inp i fuel).1 ∧
    traceSim t acts (run D[t] inp i fuel).2.evs (run D[t'] inp i fuel).2.evs = true := by
  obtain ⟨f, f', hf⟩ := simFacts h hi
  have hw := tablesFacts hwf
  rw [run_of_final (t := D[t]) hf.fin, run_of_final (t := D[t']) hf.fin']
  have hG : Good rel (rs.getD i []) (i : Int) := ⟨i, rfl, hf.entryMem, i, hf.entry⟩
  have hfin : ∀ p, Good rel (rs.getD i []) p → (f = p ↔ f' = mapS rel p) := by
    rintro _ ⟨p, rfl, hpm, p', hpr⟩
    rw [mapS_of hpr]
    exact hf.finEq p p' hpm hpr
  rcases runLoop_sim (simHyp_min hf hw (tablesFacts hwf') hsr) hw hin hfin fuel (initCfg inp i) (initCfg inp i)
      (Rel.init hG (mapS_of hf.entry) hw hin) with
    h | ⟨_, _, _, ⟨_, h⟩ | ⟨h, _⟩, _⟩
  · exact ⟨h.1, traceSim_of_rel h.2.evs⟩
  · exact h.elim
  · exact h.elim

end TmVerif.LRCheck
