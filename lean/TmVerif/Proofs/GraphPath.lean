import TmVerif.Proofs.GraphBasic
/-!
Helper lemmas for C26: `LongestPath` (path.go). The DFS is proved by induction on the fuel with
  * `Inv`   — finished vertices carry a local certificate `Cert` (height = 1 + max over successors,
              link realises the maximum) unless the `cycle` flag is set; the flag is only set when a
              cycle really exists (every active vertex reaches the vertex being entered);
  * fuel    — strictly more fuel than unvisited vertices always suffices (`len+1` at top level).
From the certificates: the graph is acyclic, following links yields a walk with `height` vertices,
and no walk from `v` has more than `height v` vertices.
-/
namespace TmVerif.Graph
open Relation
theorem LP.height_set (s : LP) {i : Nat} (hi : i < s.data.length) (v : Nat) (d : Int × Option Nat) (c : Bool) :
    (LP.mk (s.data.set i d) c).height v = if v = i then d.1 else s.height v := by
  unfold LP.height
  rw [getD_set]
  simp only [hi, and_true]
  split <;> rfl

theorem LP.link_set (s : LP) {i : Nat} (hi : i < s.data.length) (v : Nat) (d : Int × Option Nat) (c : Bool) :
    (LP.mk (s.data.set i d) c).link v = if v = i then d.2 else s.link v := by
  unfold LP.link
  rw [getD_set]
  simp only [hi, and_true]
  split <;> rfl

/-- the unvisited vertices (height 0): what the fuel is measured against -/
def LP.whites (s : LP) : Nat := s.data.countP (fun d => d.1 == 0)

theorem LP.whites_set (s : LP) {i : Nat} (hi : i < s.data.length) (d : Int × Option Nat) (c : Bool)
    (hd : d.1 ≠ 0) :
    (LP.mk (s.data.set i d) c).whites + (if s.height i = 0 then 1 else 0) = s.whites := by
  unfold LP.whites LP.height
  simp only [List.countP_set hi, List.getElem?_eq_getElem hi, Option.getD_some, beq_iff_eq, hd, if_false,
    Nat.add_zero]
  apply Nat.sub_add_cancel
  split
  · exact List.countP_pos_iff.2 ⟨s.data[i], List.getElem_mem hi, by simpa using ‹_›⟩
  · exact Nat.zero_le _

/-- `h` is 1 + the maximum height over `ws` (all finished), `l` an element of `ws` realising it (none when `ws` is empty) -/
def CertOn (s : LP) (ws : List Nat) (h : Int) (l : Option Nat) : Prop :=
  (∀ w ∈ ws, 1 ≤ s.height w ∧ s.height w + 1 ≤ h) ∧
  ((h = 1 ∧ l = none) ∨ ∃ w ∈ ws, l = some w ∧ h = s.height w + 1)

def Cert (g : Graph) (s : LP) (v : Nat) : Prop :=
  1 ≤ s.height v ∧ CertOn s (succs g v) (s.height v) (s.link v)

theorem CertOn.nil (s : LP) : CertOn s [] 1 none := ⟨fun _ hw => (nomatch hw), .inl ⟨rfl, rfl⟩⟩

theorem CertOn.congr {s s' : LP} {ws : List Nat} {h : Int} {l : Option Nat}
    (hs : ∀ x, 1 ≤ s.height x → s'.height x = s.height x) (c : CertOn s ws h l) : CertOn s' ws h l := by
  refine ⟨fun w hw => ?_, c.2.imp id fun ⟨w, hw, a, b⟩ => ⟨w, hw, a, ?_⟩⟩ <;>
    rw [hs w (c.1 w hw).1]
  · exact c.1 w hw
  · exact b

theorem Cert.congr {g : Graph} {s s' : LP} {v : Nat}
    (h : ∀ x, 1 ≤ s.height x → s'.height x = s.height x ∧ s'.link x = s.link x)
    (c : Cert g s v) : Cert g s' v := by
  unfold Cert
  rw [(h v c.1).1, (h v c.1).2]
  exact ⟨c.1, c.2.congr fun x hx => (h x hx).1⟩

section
variable {s : LP} {ws : List Nat} {h : Int} {l : Option Nat} {next : Nat}

theorem CertOn.push_ge (c : CertOn s ws h l) (hn : 1 ≤ s.height next) (hge : h ≤ s.height next) :
    CertOn s (ws ++ [next]) (s.height next + 1) (some next) := by
  refine ⟨fun w hw => ?_, .inr ⟨next, by simp, rfl, rfl⟩⟩
  rcases List.mem_append.1 hw with hw | hw
  · have := c.1 w hw; omega
  · rw [List.mem_singleton.1 hw]; omega

theorem CertOn.push_lt (c : CertOn s ws h l) (hn : 1 ≤ s.height next) (hlt : s.height next < h) :
    CertOn s (ws ++ [next]) h l := by
  refine ⟨fun w hw => ?_, c.2.imp id fun ⟨w, hw, e⟩ => ⟨w, List.mem_append_left _ hw, e⟩⟩
  rcases List.mem_append.1 hw with hw | hw
  · exact c.1 w hw
  · rw [List.mem_singleton.1 hw]; omega

end

structure Inv (g : Graph) (s : LP) : Prop where
  len : s.data.length = g.length
  ge : ∀ v, -1 ≤ s.height v
  cert : s.cycle = false → ∀ v, 1 ≤ s.height v → Cert g s v
  cyc : s.cycle = true → ∃ v, TransGen (Edge g) v v

/-- the certificates of the other vertices never read the entry of an unfinished `i` -/
theorem Inv.set {g : Graph} {s : LP} (hs : Inv g s) {i : Nat} (hi : i < g.length) (hlow : s.height i ≤ 0)
    {d : Int × Option Nat} (hd : -1 ≤ d.1)
    (hc : s.cycle = false → 1 ≤ d.1 → CertOn s (succs g i) d.1 d.2) :
    Inv g ⟨s.data.set i d, s.cycle⟩ := by
  have hi' : i < s.data.length := by rw [hs.len]; exact hi
  have same : ∀ x, 1 ≤ s.height x → (LP.mk (s.data.set i d) s.cycle).height x = s.height x ∧
      (LP.mk (s.data.set i d) s.cycle).link x = s.link x := by
    intro x hx
    have : x ≠ i := by rintro rfl; omega
    rw [LP.height_set s hi', LP.link_set s hi', if_neg this, if_neg this]
    exact ⟨rfl, rfl⟩
  refine ⟨by simp [hs.len], fun v => ?_, fun hcyc v hv => ?_, hs.cyc⟩
  · rw [LP.height_set s hi']
    split
    · exact hd
    · exact hs.ge v
  · rw [LP.height_set s hi'] at hv
    by_cases hvi : v = i
    · rw [if_pos hvi] at hv
      unfold Cert
      rw [hvi, LP.height_set s hi', LP.link_set s hi', if_pos rfl, if_pos rfl]
      exact ⟨hv, (hc hcyc hv).congr fun x hx => (same x hx).1⟩
    · rw [if_neg hvi] at hv
      exact (hs.cert hcyc v hv).congr same

/-- `s'` extends `s`: finished and active vertices are untouched, no new active vertex -/
structure Ext (s s' : LP) : Prop where
  frameH : ∀ v, s.height v ≠ 0 → s'.height v = s.height v
  frameL : ∀ v, s.height v ≠ 0 → s'.link v = s.link v
  nogray : ∀ v, s'.height v = -1 → s.height v = -1
  whites : s'.whites ≤ s.whites
  cyc : s.cycle = true → s'.cycle = true

theorem Ext.refl (s : LP) : Ext s s := ⟨fun _ _ => rfl, fun _ _ => rfl, fun _ h => h, Nat.le_refl _, fun h => h⟩

theorem Ext.trans {a b c : LP} (h1 : Ext a b) (h2 : Ext b c) : Ext a c := by
  refine ⟨?_, ?_, ?_, Nat.le_trans h2.whites h1.whites, fun h => h2.cyc (h1.cyc h)⟩
  · intro v hv
    have e1 := h1.frameH v hv
    rw [h2.frameH v (by rw [e1]; exact hv), e1]
  · intro v hv
    have e1 := h1.frameH v hv
    rw [h2.frameL v (by rw [e1]; exact hv), h1.frameL v hv]
  · intro v hv
    exact h1.nogray v (h2.nogray v hv)

/-- `i` itself goes from unvisited to finished, which `Ext` allows -/
theorem Ext.bracket {s t : LP} {i : Nat} (hi : i < s.data.length) (hit : i < t.data.length)
    (h0 : s.height i = 0) {d : Int × Option Nat} (hd : 1 ≤ d.1)
    (h : Ext ⟨s.data.set i (-1, s.link i), s.cycle⟩ t) : Ext s ⟨t.data.set i d, t.cycle⟩ := by
  have ne : ∀ v, s.height v ≠ 0 → v ≠ i := fun v hv e => hv (e ▸ h0)
  have pre : ∀ v, s.height v ≠ 0 → (LP.mk (s.data.set i (-1, s.link i)) s.cycle).height v ≠ 0 := by
    intro v hv
    rw [LP.height_set s hi, if_neg (ne v hv)]
    exact hv
  refine ⟨fun v hv => ?_, fun v hv => ?_, fun v hv => ?_, ?_, h.cyc⟩
  · rw [LP.height_set t hit, if_neg (ne v hv), h.frameH v (pre v hv), LP.height_set s hi, if_neg (ne v hv)]
  · rw [LP.link_set t hit, if_neg (ne v hv), h.frameL v (pre v hv), LP.link_set s hi, if_neg (ne v hv)]
  · rw [LP.height_set t hit] at hv
    split at hv
    · omega
    · have := h.nogray v hv
      rwa [LP.height_set s hi, if_neg ‹_›] at this
  · exact Nat.le_trans (Nat.le.intro (LP.whites_set t hit d t.cycle (Int.ne_of_gt hd)))
      (Nat.le_trans h.whites (Nat.le.intro (LP.whites_set s hi _ s.cycle (by decide : (-1 : Int) ≠ 0))))

/-- the induction hypothesis on the fuel: a call `dfs(i)` in which every active vertex (height `-1`)
reaches `i`, with more fuel than unvisited vertices, keeps `Inv`, extends the state, and either finishes `i`
or (when `i` is active: a cycle) sets the flag -/
def DfsSpec (g : Graph) (fuel : Nat) : Prop :=
  ∀ i s, i < g.length → Inv g s → s.whites < fuel →
    (∀ u, s.height u = -1 → TransGen (Edge g) u i) →
    Inv g (dfs g fuel i s) ∧ Ext s (dfs g fuel i s) ∧
      (1 ≤ (dfs g fuel i s).height i ∨ s.height i = -1 ∧ (dfs g fuel i s).cycle = true)

/-- invariant of `for _, next := range graph[i]`: `s1` is the state after marking `i` active, `done` the
successors handled so far, `acc.2` the pair (height, link) the loop is computing for `i` -/
structure LInv (g : Graph) (s1 : LP) (done : List Nat) (acc : LP × (Int × Option Nat)) : Prop where
  inv : Inv g acc.1
  ext : Ext s1 acc.1
  ret1 : 1 ≤ acc.2.1
  cert : acc.1.cycle = false → CertOn acc.1 done acc.2.1 acc.2.2

theorem dfs_loop {g : Graph} (hwf : Wf g) {fuel : Nat} (ih : DfsSpec g fuel) {i : Nat}
    {s1 : LP} (hreach : ∀ u, s1.height u = -1 → u = i ∨ TransGen (Edge g) u i)
    (hw : s1.whites < fuel) (acc : LP × (Int × Option Nat)) (h0 : LInv g s1 [] acc) :
    LInv g s1 (succs g i) ((succs g i).foldl (dfsStep (dfs g fuel)) acc) := by
  refine foldl_inv (LInv g s1) _ (succs g i) [] acc h0 ?_
  intro done next acc hedge hl
  obtain ⟨p1, p2, p3⟩ := ih next acc.1 (hwf _ _ hedge) hl.inv (Nat.lt_of_le_of_lt hl.ext.whites hw) (by
    intro u hu
    rcases hreach u (hl.ext.nogray u hu) with rfl | p
    · exact .single hedge
    · exact .tail p hedge)
  have base : (dfs g fuel next acc.1).cycle = false →
      CertOn (dfs g fuel next acc.1) done acc.2.1 acc.2.2 ∧ 1 ≤ (dfs g fuel next acc.1).height next := by
    intro hc
    have hc0 : acc.1.cycle = false := Bool.eq_false_iff.2 fun h => by rw [p2.cyc h] at hc; cases hc
    exact ⟨(hl.cert hc0).congr fun x hx => p2.frameH x (Int.ne_of_gt hx),
      p3.resolve_right fun h => by rw [h.2] at hc; cases hc⟩
  have hret := hl.ret1
  simp only [dfsStep]
  by_cases hge : (dfs g fuel next acc.1).height next ≥ acc.2.1
  · rw [if_pos hge]
    exact ⟨p1, hl.ext.trans p2, Int.le_add_one (Int.le_trans hret hge), fun hc => (base hc).1.push_ge (base hc).2 hge⟩
  · rw [if_neg hge]
    exact ⟨p1, hl.ext.trans p2, hret, fun hc => (base hc).1.push_lt (base hc).2 (Int.not_le.1 hge)⟩

theorem LP.height_cycle (s : LP) (c : Bool) (v : Nat) : (LP.mk s.data c).height v = s.height v := rfl
theorem LP.link_cycle (s : LP) (c : Bool) (v : Nat) : (LP.mk s.data c).link v = s.link v := rfl

theorem dfs_spec {g : Graph} (hwf : Wf g) : ∀ fuel, DfsSpec g fuel := by
  intro fuel
  induction fuel with
  | zero => intro i s _ _ hw; omega
  | succ fuel ih =>
    intro i s hi hinv hw hgray
    simp only [dfs]
    by_cases h0 : s.height i = 0
    · simp only [h0, ne_eq, not_true_eq_false, if_false]
      have hilen : i < s.data.length := by rw [hinv.len]; exact hi
      have hs1w := LP.whites_set s hilen (-1, s.link i) s.cycle (by decide : (-1 : Int) ≠ 0)
      rw [if_pos h0] at hs1w
      have hloop := dfs_loop hwf ih (i := i) (s1 := ⟨s.data.set i (-1, s.link i), s.cycle⟩) (by
          intro u hu
          rw [LP.height_set s hilen] at hu
          split at hu
          · left; assumption
          · right; exact hgray u hu)
        (Nat.lt_of_lt_of_le (Nat.le_of_eq hs1w) (Nat.le_of_lt_succ hw)) (_, (1, none))
        ⟨hinv.set hi (Int.le_of_eq h0) (Int.le_refl _) fun _ h => absurd h (by decide : ¬ (1 : Int) ≤ -1),
          Ext.refl _, Int.le_refl 1, fun _ => .nil _⟩
      generalize (succs g i).foldl (dfsStep (dfs g fuel))
        (LP.mk (s.data.set i (-1, s.link i)) s.cycle, (1, none)) = r at hloop
      obtain ⟨t, ret⟩ := r
      obtain ⟨linv, lext, lret, lcert⟩ := hloop
      simp only at linv lext lret lcert ⊢
      have hti : t.height i = -1 := by
        rw [lext.frameH i (by rw [LP.height_set s hilen]; simp), LP.height_set s hilen, if_pos rfl]
      have htlen : i < t.data.length := by rw [linv.len]; exact hi
      refine ⟨linv.set hi (hti ▸ by decide) (Int.le_trans (by decide) lret) fun hc _ => lcert hc,
        Ext.bracket hilen htlen h0 lret lext, .inl ?_⟩
      rw [LP.height_set t htlen, if_pos rfl]
      exact lret
    · simp only [ne_eq, h0, not_false_eq_true, if_true]
      by_cases h1 : s.height i = -1
      · rw [if_pos h1]
        refine ⟨⟨hinv.len, hinv.ge, ?_, ?_⟩, ⟨fun _ _ => rfl, fun _ _ => rfl, fun _ h => h, Nat.le_refl _, fun _ => rfl⟩,
          .inr ⟨h1, rfl⟩⟩
        · intro hc; cases hc
        · intro _; exact ⟨i, hgray i h1⟩
      · rw [if_neg h1]
        refine ⟨hinv, Ext.refl s, .inl ?_⟩
        have := hinv.ge i; omega

def IsPath (g : Graph) : List Nat → Prop
  | [] => True
  | [a] => a < g.length
  | a :: b :: rest => Edge g a b ∧ IsPath g (b :: rest)

/-- invariant of the loop over all vertices: the first `k` are finished, none is active, and `acc.2`
(`first`) is one of maximal height among them -/
structure TopInv (g : Graph) (k : Nat) (acc : LP × Option Nat) : Prop where
  inv : Inv g acc.1
  nogray : ∀ v, acc.1.height v ≠ -1
  black : ∀ v, v < k → 1 ≤ acc.1.height v
  first : match acc.2 with
    | none => k = 0
    | some f => f < k ∧ ∀ v, v < k → acc.1.height v ≤ acc.1.height f

theorem LP.whites_le (s : LP) : s.whites ≤ s.data.length := List.countP_le_length

theorem lpInit_height (g : Graph) (v : Nat) : (lpInit g).1.height v = 0 := by
  simp only [lpInit, LP.height, List.getElem?_replicate]
  split <;> rfl

theorem topInv_init (g : Graph) : TopInv g 0 (lpInit g) := by
  refine ⟨⟨by simp [lpInit], ?_, ?_, ?_⟩, ?_, ?_, rfl⟩
  · intro v; rw [lpInit_height]; omega
  · intro _ v hv; rw [lpInit_height] at hv; omega
  · intro h; simp [lpInit] at h
  · intro v; rw [lpInit_height]; omega
  · intro v hv; omega

theorem topInv_step {g : Graph} (hwf : Wf g) (k : Nat) (hk : k < g.length) (acc : LP × Option Nat)
    (h : TopInv g k acc) : TopInv g (k + 1) (lpStep g k acc) := by
  obtain ⟨s, first⟩ := acc
  obtain ⟨hinv, hng, hbl, hf⟩ := h
  simp only at hinv hng hbl hf
  have hdfs := dfs_spec hwf (g.length + 1) k s hk hinv
    (Nat.lt_succ_of_le (hinv.len ▸ s.whites_le))
    (fun u hu => absurd hu (hng u))
  simp only [lpStep]
  generalize dfs g (g.length + 1) k s = s' at hdfs ⊢
  obtain ⟨p1, p2, p3⟩ := hdfs
  have hkeep : ∀ v, v < k → s'.height v = s.height v := fun v hv =>
    p2.frameH v (Int.ne_of_gt (hbl v hv))
  have hmax : ∀ f, f < k + 1 → (∀ v, v < k → s'.height v ≤ s'.height f) → s'.height k ≤ s'.height f →
      TopInv g (k + 1) (s', some f) := fun f hf h1 h2 =>
    ⟨p1, fun v hv => hng v (p2.nogray v hv),
      Nat.forall_lt_succ_right.2 ⟨fun v hv => hkeep v hv ▸ hbl v hv, p3.resolve_right fun h => hng k h.1⟩,
      hf, Nat.forall_lt_succ_right.2 ⟨h1, h2⟩⟩
  cases first with
  | none => exact hmax k (Nat.lt_succ_self k) (fun v hv => absurd hv (hf ▸ Nat.not_lt_zero v)) (Int.le_refl _)
  | some f =>
    obtain ⟨hf2, hf3⟩ := hf
    have hf3' : ∀ v, v < k → s'.height v ≤ s'.height f := by
      intro v hv
      rw [hkeep v hv, hkeep f hf2]
      exact hf3 v hv
    simp only
    by_cases hlt : s'.height f < s'.height k
    · rw [if_pos hlt]
      exact hmax k (Nat.lt_succ_self k) (fun v hv => Int.le_trans (hf3' v hv) (Int.le_of_lt hlt)) (Int.le_refl _)
    · rw [if_neg hlt]
      exact hmax f (Nat.lt_succ_of_lt hf2) hf3' (Int.not_lt.1 hlt)

theorem topInv_final {g : Graph} (hwf : Wf g) :
    TopInv g g.length (forUpTo g.length (lpStep g) (lpInit g)) :=
  forUpTo_inv (fun k acc => TopInv g k acc) g.length (lpStep g) (lpInit g) (topInv_init g)
    (fun k acc hk h => topInv_step hwf k hk acc h)

def AllCert (g : Graph) (s : LP) : Prop := ∀ v, v < g.length → Cert g s v

theorem AllCert.edge {g : Graph} {s : LP} (h : AllCert g s) {a b : Nat} (e : Edge g a b) :
    1 ≤ s.height b ∧ s.height b + 1 ≤ s.height a := (h a e.lt_left).2.1 b e

theorem AllCert.desc {g : Graph} {s : LP} (h : AllCert g s) {a b : Nat}
    (p : TransGen (Edge g) a b) : s.height b < s.height a := by
  induction p with
  | single e => exact Int.lt_iff_add_one_le.2 (h.edge e).2
  | tail _ e ih => exact Int.lt_trans (Int.lt_iff_add_one_le.2 (h.edge e).2) ih

theorem AllCert.follow_spec {g : Graph} {s : LP} (hwf : Wf g) (h : AllCert g s) :
    ∀ (fuel v : Nat), v < g.length → s.height v = (fuel : Int) →
      IsPath g (follow s fuel (some v)) ∧ (follow s fuel (some v)).length = fuel := by
  intro fuel
  induction fuel with
  | zero => intro v hv hh; have := (h v hv).1; omega
  | succ fuel ih =>
    intro v hv hh
    show IsPath g (v :: follow s fuel (s.link v)) ∧ (v :: follow s fuel (s.link v)).length = fuel + 1
    -- with no fuel left the link is not read; otherwise `v` is higher than 1, so it has one
    cases fuel with
    | zero => exact ⟨hv, rfl⟩
    | succ fuel =>
      rcases (h v hv).2.2 with ⟨a, _⟩ | ⟨w, hw, a, b⟩
      · omega
      · rw [a]
        have hw' := h.edge hw
        obtain ⟨i1, i2⟩ := ih w (hwf _ _ hw) (by omega)
        exact ⟨⟨hw, i1⟩, by rw [List.length_cons, i2]⟩

theorem AllCert.path_le {g : Graph} {s : LP} (h : AllCert g s) :
    ∀ (q : List Nat) (v : Nat), IsPath g (v :: q) → ((v :: q).length : Int) ≤ s.height v
  | [], v, hp => (h v hp).1
  | b :: rest, _, ⟨e, hp⟩ => Int.le_trans (Int.add_le_add_right (h.path_le rest b hp) 1) (h.edge e).2

theorem IsPath.head_lt {g : Graph} {v : Nat} {q : List Nat} (h : IsPath g (v :: q)) : v < g.length := by
  cases q with
  | nil => exact h
  | cons b rest => exact h.1.lt_left

/-- `LongestPath` read off the state the loop over all vertices leaves: a cycle was found, or every vertex
carries a certificate and the answer follows the links from a vertex of maximal height -/
theorem longestPath_cases {g : Graph} (hwf : Wf g) :
    match longestPath g with
    | none => ∃ v, TransGen (Edge g) v v
    | some p => ∃ s, AllCert g s ∧ ((p = [] ∧ g.length = 0) ∨
        ∃ f, f < g.length ∧ (∀ v, v < g.length → s.height v ≤ s.height f) ∧
          p = follow s (s.height f).toNat (some f)) := by
  have ht := topInv_final hwf
  unfold longestPath
  generalize forUpTo g.length (lpStep g) (lpInit g) = r at ht
  obtain ⟨⟨d, c⟩, first⟩ := r
  cases c
  · have hall : AllCert g ⟨d, false⟩ := fun v hv => ht.inv.cert rfl v (ht.black v hv)
    cases first with
    | none => exact ⟨_, hall, .inl ⟨rfl, ht.first⟩⟩
    | some f => exact ⟨_, hall, .inr ⟨f, ht.first.1, ht.first.2, rfl⟩⟩
  · exact ht.inv.cyc rfl

theorem longestPath_none_iff {g : Graph} (hwf : Wf g) :
    longestPath g = none ↔ ∃ v, TransGen (Edge g) v v := by
  have h := longestPath_cases hwf
  refine ⟨fun hn => by rw [hn] at h; exact h, fun ⟨v, p⟩ => ?_⟩
  cases hl : longestPath g with
  | none => rfl
  | some q =>
    rw [hl] at h
    obtain ⟨s, hall, -⟩ := h
    exact absurd (hall.desc p) (Int.lt_irrefl _)

theorem longestPath_some {g : Graph} (hwf : Wf g) {p : List Nat} (h : longestPath g = some p) :
    IsPath g p ∧ (g ≠ [] → p ≠ []) ∧ ∀ q, IsPath g q → q.length ≤ p.length := by
  have hp := longestPath_cases hwf
  rw [h] at hp
  obtain ⟨s, hall, ⟨rfl, hn⟩ | ⟨f, hf2, hf3, rfl⟩⟩ := hp
  · refine ⟨trivial, fun hg => absurd (List.length_eq_zero_iff.1 hn) hg, ?_⟩
    intro q hq
    cases q with
    | nil => simp
    | cons v q => exact absurd hq.head_lt (hn ▸ Nat.not_lt_zero v)
  · have hfh := (hall f hf2).1
    have hlen := (Int.toNat_of_nonneg (Int.le_trans (by decide) hfh)).symm
    obtain ⟨i1, i2⟩ := hall.follow_spec hwf (s.height f).toNat f hf2 hlen
    rw [← i2] at hlen
    refine ⟨i1, ?_, ?_⟩
    · intro _ hp; rw [hlen, hp] at hfh; cases hfh
    · intro q hq
      cases q with
      | nil => simp
      | cons v q =>
        exact Int.ofNat_le.1 (hlen ▸ Int.le_trans (hall.path_le q v hq) (hf3 v hq.head_lt))

end TmVerif.Graph
