import TmVerif.Proofs.LexRunBasic
/-!
`parsers/tm/lexer_actions.go: skipAction` (mirror `skipLoop`): with the newline bookkeeping of
fixes/C12-skipaction-line.diff the position invariant survives the code block.
-/
namespace TmVerif.LexRun

theorem indexOf_bound (pat s : List UInt8) (e : Nat) (h : indexOf pat s = some e) :
    e + pat.length ≤ s.length := by
  fun_induction indexOf pat s generalizing e
  case case1 => exact nomatch h
  case case2 b rest hp =>
    cases h
    simpa using (List.isPrefixOf_iff_prefix.mp hp).length_le
  case case3 b rest hp ih =>
    obtain ⟨e', hi, rfl⟩ := Option.map_eq_some_iff.mp h
    have := ih e' hi
    simp only [List.length_cons]
    omega

/-- What one iteration of the loop of `skipAction` does to the lexer `l`. -/
def SkipStep (o : Opts) (v : Variant) (l ln : Lexer) : Prop :=
  PInv o v ln ∧ ln.source = l.source ∧ l.offset ≤ ln.offset

theorem advance_step (o : Opts) (v : Variant) (l lb : Lexer) (h : PInv o v l) (hne : l.ch ≠ -1)
    (hb : Booked o v l lb) : SkipStep o v l (readCh o { lb with offset := lb.scanOffset }) := by
  obtain ⟨a, b, c, -, fr⟩ := advance_pinv o v l lb h (h.ch_nonneg hne) hb
  exact ⟨a, fr.source, by rw [b]; exact Nat.le_of_lt c⟩

theorem readCh_eoi (o : Opts) (l : Lexer) (h : l.source.length ≤ l.offset) : readCh o l = { l with ch := -1 } := by
  unfold readCh
  rw [List.drop_eq_nil_of_le h]

/-- Without `skipNext` the code after the `switch` is `l.offset = l.scanOffset` and a read (at the end
of the input the read yields `-1` as well). -/
theorem skipAdvance_false (o : Opts) (v : Variant) (l : Lexer) :
    skipAdvance o v false l = readCh o { l with offset := l.scanOffset } := by
  unfold skipAdvance
  simp only [Bool.false_eq_true, if_false]
  split
  · rfl
  · rename_i hge
    exact (readCh_eoi o { l with offset := l.scanOffset } (Nat.le_of_not_lt hge)).symm

/-- With `skipNext` the code steps over one character more, which the fixed `skipAction` books if it is a newline;
at the end of the input there is none. -/
theorem skipAdvance_true (o : Opts) (v : Variant) (l : Lexer) :
    skipAdvance o v true l =
      if l.scanOffset < l.source.length then
        skipAdvance o v false
          (if v.skipFix && (skipAdvance o v false l).ch = 10 then skipNewline v (skipAdvance o v false l)
           else skipAdvance o v false l)
      else skipAdvance o v false l := by
  by_cases hlt : l.scanOffset < l.source.length
  · rw [if_pos hlt, skipAdvance_false o v l, skipAdvance_false, skipAdvance, if_pos hlt]
    rfl
  · rw [if_neg hlt, skipAdvance_false, skipAdvance, if_neg hlt]
    exact (readCh_eoi o { l with offset := l.scanOffset } (Nat.le_of_not_lt hlt)).symm

theorem rewind_step (o : Opts) (v : Variant) (l : Lexer) (x : Nat) (h : PInv o v l)
    (hx : x ≤ l.source.length) (hle : l.offset ≤ x) : SkipStep o v l (rewind o v l x) := by
  obtain ⟨r1, r2, fr⟩ := h.rewind x hx
  exact ⟨r1, fr.source, by rw [r2]; exact hle⟩

theorem skipAdvance_newline (o : Opts) (v : Variant) (l : Lexer) (h : PInv o v l) (hfix : v.skipFix = true)
    (hnl : l.ch = 10) : SkipStep o v l (skipAdvance o v false (skipNewline v l)) := by
  have hs : skipNewline v l = { l with line := l.line + 1, lineOffset := (l.scanOffset : Int) } := by
    unfold skipNewline; rw [if_pos hfix]
  rw [skipAdvance_false, hs]
  exact advance_step o v l _ h (by omega) ⟨⟨rfl, rfl, rfl, rfl, rfl⟩, rfl, fun _ => by rw [if_pos hnl],
    fun _ _ => by rw [if_pos hnl]; exact Or.inl rfl⟩

/-- The code after the `switch` over a character that is not a newline; with `skipNext` (after a
backslash inside a string) the fixed `skipAction` counts a newline it skips. -/
theorem skipAdvance_step (o : Opts) (v : Variant) (skipNext : Bool) (l : Lexer) (h : PInv o v l)
    (hfix : v.skipFix = true) (hne : l.ch ≠ -1) (hnl : l.ch ≠ 10) :
    SkipStep o v l (skipAdvance o v skipNext l) := by
  have plain : ∀ l : Lexer, PInv o v l → l.ch ≠ -1 → l.ch ≠ 10 → SkipStep o v l (skipAdvance o v false l) :=
    fun l h hne hnl => skipAdvance_false o v l ▸ advance_step o v l l h hne (.same (Or.inl hnl))
  obtain ⟨a, b, c⟩ := plain l h hne hnl
  cases skipNext with
  | false => exact ⟨a, b, c⟩
  | true =>
    rw [skipAdvance_true]
    have hoff : (skipAdvance o v false l).offset = l.scanOffset := by
      rw [skipAdvance_false]; exact (readCh_spec o _ rfl).2.2.1
    generalize skipAdvance o v false l = la at a b c hoff ⊢
    split
    · -- the skipped character exists
      rename_i hlt
      have hne' : la.ch ≠ -1 := fun hc => by
        have := a.ch_neg_iff.mp (by omega)
        rw [hoff, b] at this
        omega
      have hstep : SkipStep o v la (skipAdvance o v false (if v.skipFix && la.ch = 10 then skipNewline v la else la)) := by
        by_cases hn : la.ch = 10
        · simp only [hfix, hn, decide_true, Bool.and_self, if_true]
          exact skipAdvance_newline o v la a hfix hn
        · simp only [hn, decide_false, Bool.and_false, Bool.false_eq_true, if_false]
          exact plain la a hne' hn
      exact ⟨hstep.1, hstep.2.1.trans b, Nat.le_trans c hstep.2.2⟩
    · exact ⟨a, b, c⟩

theorem skipLoop_pinv (o : Opts) (v : Variant) (hfix : v.skipFix = true) (fuel : Nat) (opn quote : Int) (l : Lexer)
    (ok : Bool) (l' : Lexer) : PInv o v l → skipLoop o v fuel opn quote l = some (ok, l') →
    SkipStep o v l l' := by
  -- one case per branch of the `switch`: the step keeps the invariant, the rest of the loop by induction
  have cont : ∀ {l ln : Lexer}, SkipStep o v l ln → (PInv o v ln → SkipStep o v ln l') →
      SkipStep o v l l' := fun s ih =>
    ⟨(ih s.1).1, (ih s.1).2.1.trans s.2.1, Nat.le_trans s.2.2 (ih s.1).2.2⟩
  -- cases in the order of the definition: 1 no fuel; 2 `open ≤ 0`; 3 end of input; 4 `{`; 5 `}`; 6 quotes;
  -- 7 backslash; 8–13 `/` (inside a string or last character; `/*` closed, open; `//` closed, open; other);
  -- 14 newline; 15 any other character
  fun_induction skipLoop o v fuel opn quote l
  case case1 => exact fun _ h => nomatch h
  case case2 | case3 =>
    intro hp h
    cases h
    exact ⟨hp, rfl, Nat.le_refl _⟩
  case case9 l _ _ _ _ _ _ _ _ rest hd e he ih | case11 l _ _ _ _ _ _ _ _ rest hd e he ih =>
    -- a comment: `rewind` behind its end, which `strings.Index` found inside the text
    intro hp h
    have hb := indexOf_bound _ _ _ he
    have hlen : rest.length + 1 = l.source.length - l.scanOffset := by
      simpa using (congrArg List.length hd).symm
    simp only [List.length_cons, List.length_nil] at hb
    have hlt := (hp.scan_lt (hp.ch_nonneg ‹l.ch ≠ -1›)).1
    exact cont (rewind_step o v l _ hp (by omega) (by omega)) (fun a => ih a h)
  case case14 hnl ih =>
    exact fun hp h => cont (skipAdvance_newline o v _ hp hfix hnl) (fun a => ih a h)
  -- every other branch steps over a character that the branch tests show is neither `-1` nor `'\n'`
  all_goals
    rename_i ih
    exact fun hp h => cont (skipAdvance_step o v _ _ hp hfix ‹_ ≠ -1› (by omega)) (fun a => ih a h)

end TmVerif.LexRun
