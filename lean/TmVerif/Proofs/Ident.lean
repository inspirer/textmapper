import TmVerif.Model.Ident
/-!
The `Produce` loop (for C28). Every iteration appends to the buffer: `step_ext` says what, per class of rune,
and the properties of the result are invariants of the buffer read off from that. At the end `validIdent_produce`: on
the spellings the tm lexer admits the result is a valid identifier exactly when `good` holds.
-/
namespace TmVerif.Ident

theorem identChar_iff (c : Nat) : isIdentChar c = true ↔ isAlnum c = true ∨ c = 95 := by
  rw [show isIdentChar c = (isAlnum c || c == 95) from rfl, Bool.or_eq_true, beq_iff_eq]

theorem alnum_iff (c : Nat) : isAlnum c = true ↔
    (97 ≤ c ∧ c ≤ 122) ∨ (65 ≤ c ∧ c ≤ 90) ∨ (48 ≤ c ∧ c ≤ 57) := by
  simp only [isAlnum, isLowerA, isUpperA, isDigitA, Bool.or_eq_true, decide_eq_true_eq, or_assoc]

theorem alnum_ne_95 {c : Nat} (h : isAlnum c = true) : c ≠ 95 := by
  rw [alnum_iff] at h; omega

theorem alnum_toUpperA {r : Nat} (h : isAlnum r = true) :
    isAlnum (toUpperA r) = true ∧ isDigitA (toUpperA r) = isDigitA r := by
  rw [alnum_iff] at h ⊢
  unfold toUpperA isDigitA
  split
  · exact ⟨by omega, decide_eq_decide.2 (by omega)⟩
  · exact ⟨h, rfl⟩

theorem alnum_toLowerA {r : Nat} (h : isAlnum r = true) :
    isAlnum (toLowerA r) = true ∧ isDigitA (toLowerA r) = isDigitA r := by
  rw [alnum_iff] at h ⊢
  unfold toLowerA isDigitA
  split
  · exact ⟨by omega, decide_eq_decide.2 (by omega)⟩
  · exact ⟨h, rfl⟩

theorem toUpperA_not_lower (r : Nat) : isLowerA (toUpperA r) = false := by
  unfold toUpperA isLowerA
  split
  · exact decide_eq_false (by omega)
  · exact decide_eq_false ‹_›

theorem lower_not_digit {c : Nat} (h : isLowerA c = true) : isDigitA c = false := by
  unfold isLowerA at h
  exact decide_eq_false (by have := of_decide_eq_true h; omega)

/-- the words `write` is given (`charName` entries, `x%02x`, `u%06x`, `char`): a lower-case letter, then lower-case
letters and digits -/
def wordOK (w : Str) : Bool :=
  match w with
  | [] => false
  | c :: rest => isLowerA c && rest.all (fun c => isLowerA c || isDigitA c)

theorem lookup_all {β} (p : β → Bool) (l : List (Nat × β)) (k : Nat) (v : β)
    (hall : l.all (fun x => p x.2) = true) (h : l.lookup k = some v) : p v = true := by
  obtain ⟨l₁, l₂, rfl, _⟩ := List.lookup_eq_some_iff.1 h
  exact List.all_eq_true.1 hall (k, v) (List.mem_append_right _ List.mem_cons_self)

theorem hexDigit_ok (n : Nat) : (isLowerA (hexDigit (n % 16)) || isDigitA (hexDigit (n % 16))) = true :=
  (by decide : ∀ k < 16, (isLowerA (hexDigit k) || isDigitA (hexDigit k)) = true) _ (Nat.mod_lt _ (by decide))

theorem wordOf_ok (r : Nat) : wordOK (wordOf r) = true := by
  unfold wordOf
  split
  · next w h => exact lookup_all wordOK charNameTable r w (by decide) h
  · split <;> simp only [wordOK, List.all_cons, List.all_nil, Bool.and_true, hexDigit_ok] <;> decide

theorem wordChar_alnum {c : Nat} (h : (isLowerA c || isDigitA c) = true) : isAlnum c = true := by
  unfold isAlnum
  rcases Bool.or_eq_true _ _ ▸ h with h | h <;> simp [h]

theorem write_cons (style : Style) (buf : Str) (c : Nat) (rest : Str) :
    write style buf (c :: rest) =
      buf ++ ((if style = .upperUnderscores ∧ buf ≠ [] then [95] else []) ++
        (if style = .camelLower ∧ buf = [] then c else toUpperA c) ::
        (if style = .camelCase ∨ style = .camelLower then rest else rest.map toUpperA)) := by
  cases style <;> cases buf <;> simp [write]

def CharOK (style : Style) (c : Nat) : Prop :=
  (isAlnum c = true ∨ c = 95) ∧ (style = .upperCase ∨ style = .upperUnderscores → isLowerA c = false)

theorem CharOK.us (style : Style) : CharOK style 95 := ⟨Or.inr rfl, fun _ => rfl⟩

theorem CharOK.upper (style : Style) {r : Nat} (h : isAlnum r = true) : CharOK style (toUpperA r) :=
  ⟨Or.inl (alnum_toUpperA h).1, fun _ => toUpperA_not_lower r⟩

theorem CharOK.camel {style : Style} {c : Nat} (h : isAlnum c = true)
    (hs : style = .camelCase ∨ style = .camelLower) : CharOK style c :=
  ⟨Or.inl h, fun hu => by rcases hu with rfl | rfl <;> rcases hs with h | h <;> cases h⟩

/-- not empty and not just `_` -/
def Firm (s : Str) : Prop := 2 ≤ s.length ∨ ∃ c, s.head? = some c ∧ c ≠ 95

theorem Firm.ne_nil {s : Str} (h : Firm s) : s ≠ [] := by
  rintro rfl
  rcases h with h | ⟨c, h, _⟩
  · exact absurd h (by decide)
  · cases h

theorem Firm.append_right {s : Str} (h : Firm s) (t : Str) : Firm (s ++ t) :=
  h.imp (fun h => by rw [List.length_append]; omega)
    fun ⟨c, hc, hne⟩ => ⟨c, by rw [List.head?_append, hc]; rfl, hne⟩

theorem Firm.append_left {s : Str} (h : Firm s) (t : Str) : Firm (t ++ s) := by
  cases t with
  | nil => exact h
  | cons b t =>
    cases s with
    | nil => exact absurd rfl h.ne_nil
    | cons _ _ => exact Or.inl (by simp only [List.length_append, List.length_cons]; omega)

/-- What an iteration, or the `char` prefix, may append to the buffer of `st`. `head`: at the start of the buffer no digit
(for `Inv`) and, outside `CamelLower` and while no word is being continued, no lower-case letter (for `HeadInv`). -/
structure Piece (style : Style) (st : St) (ext : Str) : Prop where
  chars : ∀ c ∈ ext, CharOK style c
  head : st.buf = [] → ∀ c, ext.head? = some c →
    isDigitA c = false ∧ (style ≠ .camelLower → st.cont = false → isLowerA c = false)

theorem Piece.nil (style : Style) (st : St) : Piece style st [] :=
  ⟨fun _ h => absurd h List.not_mem_nil, fun _ _ h => by cases h⟩

theorem Piece.us (style : Style) (st : St) : Piece style st [95] :=
  ⟨fun c h => List.mem_singleton.1 h ▸ CharOK.us style, fun _ c h => by cases h; exact ⟨rfl, fun _ _ => rfl⟩⟩

theorem Piece.snoc_us {style : Style} {st : St} {ext : Str} (h : Piece style st ext) (hne : ext ≠ []) :
    Piece style st (ext ++ [95]) := by
  refine ⟨fun c hc => (List.mem_append.1 hc).elim (h.chars c) ((Piece.us style st).chars c), fun hb c hc => ?_⟩
  cases ext with
  | nil => exact absurd rfl hne
  | cons e ext => exact h.head hb c hc

/-- a `_` or nothing, then a letter or digit, then more: what `write` and an alphanumeric rune append -/
theorem Piece.word {style : Style} {st : St} {sep tl : Str} {x : Nat}
    (hsep : sep = [95] ∨ sep = [] ∧ (st.buf = [] →
      isDigitA x = false ∧ (style ≠ .camelLower → st.cont = false → isLowerA x = false)))
    (hxa : isAlnum x = true) (hx : CharOK style x) (htl : ∀ c ∈ tl, CharOK style c) :
    Piece style st (sep ++ x :: tl) ∧ Firm (sep ++ x :: tl) := by
  have hxs : ∀ c ∈ x :: tl, CharOK style c := List.forall_mem_cons.2 ⟨hx, htl⟩
  rcases hsep with rfl | ⟨rfl, hh⟩
  · exact ⟨⟨List.forall_mem_cons.2 ⟨CharOK.us style, hxs⟩, (Piece.us style st).head⟩, Or.inl (by simp)⟩
  · exact ⟨⟨hxs, fun hb c hc => Option.some.inj hc ▸ hh hb⟩, Or.inr ⟨x, rfl, alnum_ne_95 hxa⟩⟩

theorem write_ext (style : Style) (st : St) (w : Str) (hw : wordOK w = true) :
    ∃ ext, write style st.buf w = st.buf ++ ext ∧ Piece style st ext ∧ Firm ext := by
  cases w with
  | nil => cases hw
  | cons c rest =>
    simp only [wordOK, Bool.and_eq_true, List.all_eq_true] at hw
    obtain ⟨hc, hrest⟩ := hw
    have hcA : isAlnum c = true := wordChar_alnum (by rw [hc]; rfl)
    rw [write_cons]
    generalize hx : (if style = .camelLower ∧ st.buf = [] then c else toUpperA c) = x
    have hx : isAlnum x = true ∧ CharOK style x ∧ isDigitA x = false ∧
        (style ≠ .camelLower → isLowerA x = false) := by
      subst hx
      by_cases h : style = .camelLower ∧ st.buf = []
      · rw [if_pos h]
        exact ⟨hcA, CharOK.camel hcA (Or.inr h.1), lower_not_digit hc, fun hs => absurd h.1 hs⟩
      · rw [if_neg h]
        exact ⟨(alnum_toUpperA hcA).1, CharOK.upper style hcA,
          (alnum_toUpperA hcA).2.trans (lower_not_digit hc), fun _ => toUpperA_not_lower c⟩
    generalize htl : (if style = .camelCase ∨ style = .camelLower then rest else rest.map toUpperA) = tl
    have htl : ∀ y ∈ tl, CharOK style y := by
      subst htl
      by_cases h : style = .camelCase ∨ style = .camelLower
      · rw [if_pos h]
        exact fun y hy => CharOK.camel (wordChar_alnum (hrest y hy)) h
      · rw [if_neg h]
        intro y hy
        obtain ⟨z, hz, rfl⟩ := List.mem_map.1 hy
        exact CharOK.upper style (wordChar_alnum (hrest z hz))
    refine ⟨_, rfl, Piece.word ?_ hx.1 hx.2.1 htl⟩
    by_cases h : style = .upperUnderscores ∧ st.buf ≠ []
    · exact Or.inl (if_pos h)
    · exact Or.inr ⟨if_neg h, fun _ => ⟨hx.2.2.1, fun hs _ => hx.2.2.2 hs⟩⟩

theorem step_alnum (name : Str) (style : Style) (q : Bool) (st : St) (ri : Nat × Nat)
    (h : isAlnum ri.1 = true) :
    ∃ ext, step name style q st ri = ⟨st.buf ++ ext, true⟩ ∧ Piece style st ext ∧ Firm ext := by
  unfold step
  extract_lets r i cont1 buf1 camel buf2
  rw [if_pos h]
  have hcont : cont1 = true → st.cont = true := by
    intro e
    simp only [cont1] at e
    split at e
    · cases e
    · exact e
  clear_value cont1
  -- the `_` is the word boundary of `UpperUnderscores`, or stands in front of a leading digit
  have h1 : ∃ sep, buf1 = st.buf ++ sep ∧
      (sep = [95] ∨ sep = [] ∧ (st.buf = [] → isDigitA r = false)) := by
    simp only [buf1]
    split
    · exact ⟨_, rfl, Or.inl rfl⟩
    · next hn => exact ⟨[], (List.append_nil _).symm, Or.inr ⟨rfl, fun hb => by simpa [hb] using hn⟩⟩
  -- lower case only in the camel styles, and at the head of the buffer only in `CamelLower` or inside a word
  have h2 : ∃ c, buf2 = buf1 ++ [c] ∧ isAlnum c = true ∧ isDigitA c = isDigitA r ∧ CharOK style c ∧
      (style ≠ .camelLower → st.cont = false → isLowerA c = false) := by
    simp only [buf2]
    split
    · next hb =>
      simp only [camel, Bool.and_eq_true, Bool.or_eq_true, decide_eq_true_eq] at hb
      exact ⟨_, rfl, (alnum_toLowerA h).1, (alnum_toLowerA h).2, CharOK.camel (alnum_toLowerA h).1 hb.1,
        fun hsl hcf => hb.2.elim (fun hc => by rw [hcont hc] at hcf; cases hcf) (fun hcl => absurd hcl.1 hsl)⟩
    · exact ⟨_, rfl, (alnum_toUpperA h).1, (alnum_toUpperA h).2, CharOK.upper style h,
        fun _ _ => toUpperA_not_lower r⟩
  obtain ⟨sep, e1, hs⟩ := h1
  obtain ⟨c, e2, hcA, hcd, hx, hlow⟩ := h2
  exact ⟨sep ++ [c], by rw [e2, e1, List.append_assoc],
    Piece.word (hs.imp_right fun ⟨es, hd⟩ => ⟨es, fun hb => ⟨hcd.trans (hd hb), hlow⟩⟩) hcA hx nofun⟩

theorem step_unquoted (name : Str) (style : Style) (st : St) (ri : Nat × Nat) (h : isAlnum ri.1 = false) :
    step name style false st ri =
      ⟨st.buf ++ if ri.1 = 36 ∨ (ri.1 = 95 ∧ style = .upperCase) then [95] else [], false⟩ := by
  unfold step
  simp only [h, Bool.false_eq_true, if_false, Bool.not_false, if_true]
  split
  · rfl
  · rw [List.append_nil]

theorem step_quoted (name : Str) (style : Style) (st : St) (ri : Nat × Nat) (h : isAlnum ri.1 = false) :
    step name style true st ri =
      if ri.1 = 95 then ⟨st.buf ++ [95], true⟩ else ⟨write style st.buf (wordOf ri.1), false⟩ := by
  unfold step
  simp only [h, Bool.false_eq_true, if_false, Bool.not_true]

/-- What one iteration appends. Third clause: the piece is non-empty whenever the iteration sets `cont` (so `cont` implies
a non-empty buffer, for `HeadInv`) and for every rune of a quoted name (so n runes give at least n characters,
`foldl_len`). Fourth clause: a rune that settles validity (a letter or digit, or in quotes anything but `_`) appends
more than just `_` (`step_trigger`). -/
theorem step_ext (name : Str) (style : Style) (q : Bool) (st : St) (ri : Nat × Nat) :
    ∃ ext, (step name style q st ri).buf = st.buf ++ ext ∧ Piece style st ext ∧
      ((step name style q st ri).cont = true ∨ q = true → ext ≠ []) ∧
      ((isAlnum ri.1 = true ∨ (q = true ∧ ri.1 ≠ 95)) → Firm ext) := by
  by_cases h : isAlnum ri.1 = true
  · obtain ⟨ext, e, he, hf⟩ := step_alnum name style q st ri h
    exact ⟨ext, by rw [e], he, fun _ => hf.ne_nil, fun _ => hf⟩
  · have h' : isAlnum ri.1 = false := by simpa using h
    cases q with
    | false =>
      rw [step_unquoted name style st ri h']
      refine ⟨_, rfl, ?_, fun hc => by simp at hc,
        fun ht => ht.elim (fun ha => absurd ha h) (fun hq => nomatch hq.1)⟩
      split
      · exact Piece.us style st
      · exact Piece.nil style st
    | true =>
      rw [step_quoted name style st ri h']
      split
      · next h95 => exact ⟨[95], rfl, Piece.us style st, fun _ => by simp,
          fun ht => ht.elim (fun ha => absurd ha h) (fun hq => absurd h95 hq.2)⟩
      · obtain ⟨ext, e, he, hf⟩ := write_ext style st (wordOf ri.1) (wordOf_ok _)
        exact ⟨ext, e, he, fun _ => hf.ne_nil, fun _ => hf⟩

def Inv (buf : Str) : Prop :=
  (∀ c ∈ buf, isIdentChar c = true) ∧ (∀ c, buf.head? = some c → isDigitA c = false)

/-- a valid identifier whatever is appended later -/
def Solid (buf : Str) : Prop := Inv buf ∧ Firm buf

theorem head?_append_cases {a b : Str} {c : Nat} (h : (a ++ b).head? = some c) :
    a.head? = some c ∨ a = [] ∧ b.head? = some c := by
  cases a with
  | nil => exact Or.inr ⟨rfl, h⟩
  | cons _ _ => exact Or.inl h

theorem inv_nil : Inv [] := ⟨fun _ h => (nomatch h), fun _ h => (nomatch h)⟩

theorem inv_append {style : Style} {st : St} {ext : Str} (h : Inv st.buf) (he : Piece style st ext) :
    Inv (st.buf ++ ext) := by
  refine ⟨fun c hc => ?_, fun c hc => ?_⟩
  · rcases List.mem_append.1 hc with hc | hc
    · exact h.1 c hc
    · exact (identChar_iff c).2 (he.chars c hc).1
  · rcases head?_append_cases hc with hc | ⟨hb, hc⟩
    · exact h.2 c hc
    · exact (he.head hb c hc).1

theorem solid_append {style : Style} {st : St} {ext : Str} (h : Solid st.buf) (he : Piece style st ext) :
    Solid (st.buf ++ ext) :=
  ⟨inv_append h.1 he, h.2.append_right ext⟩

theorem solid_valid {buf : Str} (h : Solid buf) : validIdent buf = true := by
  obtain ⟨⟨hall, hhead⟩, h2⟩ := h
  cases buf with
  | nil => exact absurd rfl h2.ne_nil
  | cons c rest =>
    have hd : isDigitA c = false := hhead c rfl
    have hall' : (c :: rest).all isIdentChar = true := List.all_eq_true.2 hall
    simp only [validIdent, hd, hall', Bool.not_false, Bool.true_and, Bool.not_eq_true', Bool.and_eq_false_iff]
    rcases h2 with h2 | ⟨d, hd', hne⟩
    · right; cases rest with
      | nil => simp at h2
      | cons _ _ => rfl
    · left; cases hd'; simpa using hne

theorem step_inv (name : Str) (style : Style) (q : Bool) (st : St) (ri : Nat × Nat)
    (h : Inv st.buf) : Inv (step name style q st ri).buf := by
  obtain ⟨ext, e, he, _⟩ := step_ext name style q st ri
  rw [e]; exact inv_append h he

theorem step_solid (name : Str) (style : Style) (q : Bool) (st : St) (ri : Nat × Nat)
    (h : Solid st.buf) : Solid (step name style q st ri).buf := by
  obtain ⟨ext, e, he, _⟩ := step_ext name style q st ri
  rw [e]; exact solid_append h he

theorem step_trigger (name : Str) (style : Style) (q : Bool) (st : St) (ri : Nat × Nat)
    (h : Inv st.buf) (ht : isAlnum ri.1 = true ∨ (q = true ∧ ri.1 ≠ 95)) :
    Solid (step name style q st ri).buf := by
  obtain ⟨ext, e, he, _, e4⟩ := step_ext name style q st ri
  rw [e]
  exact ⟨inv_append h he, (e4 ht).append_left _⟩

theorem foldl_Inv (name : Str) (style : Style) (q : Bool) (l : List (Nat × Nat)) (st : St) (h : Inv st.buf) :
    Inv (l.foldl (step name style q) st).buf :=
  List.foldlRecOn (motive := fun st : St => Inv st.buf) l _ h fun s hs a _ => step_inv name style q s a hs

theorem foldl_Solid (name : Str) (style : Style) (q : Bool) (l : List (Nat × Nat)) (st : St) (h : Solid st.buf) :
    Solid (l.foldl (step name style q) st).buf :=
  List.foldlRecOn (motive := fun st : St => Solid st.buf) l _ h fun s hs a _ => step_solid name style q s a hs

theorem foldl_trigger (name : Str) (style : Style) (q : Bool) (l : List (Nat × Nat)) (st : St)
    (h : Inv st.buf) (ht : ∃ x ∈ l, isAlnum x.1 = true ∨ (q = true ∧ x.1 ≠ 95)) :
    Solid (l.foldl (step name style q) st).buf := by
  obtain ⟨x, hx, hxt⟩ := ht
  obtain ⟨pre, post, rfl⟩ := List.append_of_mem hx
  -- `Inv` up to the rune that settles it, `Solid` from there on
  rw [List.foldl_append, List.foldl_cons]
  exact foldl_Solid name style q post _ (step_trigger name style q _ x (foldl_Inv name style q pre st h) hxt)

theorem foldl_len (name : Str) (style : Style) (l : List (Nat × Nat)) (st : St) :
    st.buf.length + l.length ≤ (l.foldl (step name style true) st).buf.length := by
  induction l generalizing st with
  | nil => simp
  | cons x l ih =>
    obtain ⟨ext, e1, _, e3, _⟩ := step_ext name style true st x
    have hpos := List.length_pos_iff.2 (e3 (Or.inr rfl))
    have := ih (step name style true st x)
    rw [e1, List.length_append] at this
    rw [List.foldl_cons, List.length_cons]
    omega

/-- for `C28_not_lower_start` -/
def HeadInv (st : St) : Prop :=
  (st.cont = true → st.buf ≠ []) ∧ (∀ c, st.buf.head? = some c → isLowerA c = false)

theorem step_headInv (name : Str) (style : Style) (q : Bool) (hs : style ≠ .camelLower) (st : St)
    (ri : Nat × Nat) (h : HeadInv st) : HeadInv (step name style q st ri) := by
  obtain ⟨ext, e, he, hne, _⟩ := step_ext name style q st ri
  refine ⟨fun hc => ?_, fun c hc => ?_⟩
  · rw [e]
    exact fun hnil => hne (Or.inl hc) (List.append_eq_nil_iff.1 hnil).2
  · rcases head?_append_cases (e ▸ hc) with hc | ⟨hb, hc⟩
    · exact h.2 c hc
    · exact (he.head hb c hc).2 hs (Bool.eq_false_iff.2 fun hcc => h.1 hcc hb)

theorem decodeRune_ascii (b : Nat) (bs : Str) (h : b < 128) : decodeRune (b :: bs) = (b, 1) := by
  simp [decodeRune, h]

/-- The decoder accepts no overlong form: the lead bytes `C0`, `C1` are rejected, and after `E0` / `F0`, the
only lead bytes whose own payload bits are all zero, the second byte starts at `A0` / `90`. So a multi-byte
sequence never decodes to an ASCII rune (and `RuneError` is not one either). -/
theorem decodeRune_big (s : Str) (h : ∀ b, s.head? = some b → 128 ≤ b) : 128 ≤ (decodeRune s).1 := by
  fun_cases decodeRune s
  case case2 p0 _ hlt => exact absurd (h p0 rfl) (Nat.not_le.2 hlt)
  -- two, three, four bytes: the lead byte and, after `E0` / `F0`, the second one settle it
  case case4 p0 _ hC2 hE0 _ _ _ =>
    have hp : 0xC2 ≤ p0 ∧ p0 < 0xE0 := ⟨Nat.le_of_not_lt fun h => hC2 (.inl h), hE0⟩
    exact Nat.le_add_right_of_le (by omega : 128 ≤ p0 % 32 * 64)
  case case7 p0 _ _ hE0 lo hi hF0 b1 _ _ hc =>
    have hp : 0xE0 ≤ p0 ∧ p0 < 0xF0 := ⟨Nat.le_of_not_lt hE0, hF0⟩
    have hb : p0 = 0xE0 → 0xA0 ≤ b1 ∧ b1 ≤ 0xBF := fun e => by subst e; exact ⟨hc.1, hc.2.1⟩
    exact Nat.le_add_right_of_le (by omega : 128 ≤ p0 % 16 * 4096 + b1 % 64 * 64)
  case case10 p0 _ hC2 _ lo hi hF0 b1 _ _ _ hc =>
    have hp : 0xF0 ≤ p0 ∧ p0 ≤ 0xF4 := ⟨Nat.le_of_not_lt hF0, Nat.le_of_not_lt fun h => hC2 (.inr h)⟩
    have hb : p0 = 0xF0 → 0x90 ≤ b1 ∧ b1 ≤ 0xBF := fun e => by subst e; exact ⟨hc.1, hc.2.1⟩
    exact Nat.le_add_right_of_le (Nat.le_add_right_of_le
      (by omega : 128 ≤ p0 % 8 * 262144 + b1 % 64 * 4096))
  -- the remaining cases return `RuneError`
  all_goals decide

theorem decodeRune_small (b : Nat) (bs : Str) (h : (decodeRune (b :: bs)).1 < 128) :
    decodeRune (b :: bs) = (b, 1) := by
  by_cases hb : b < 128
  · exact decodeRune_ascii b bs hb
  · have := decodeRune_big (b :: bs) fun _ e => by cases e; omega
    omega

theorem runes_cons (b : Nat) (bs : Str) :
    runes (b :: bs) = ((decodeRune (b :: bs)).1, 0) ::
      runesAux bs.length (0 + (decodeRune (b :: bs)).2) ((b :: bs).drop (decodeRune (b :: bs)).2) := by
  simp [runes, runesAux]

theorem runesAux_ne_nil (fuel i : Nat) (b : Nat) (bs : Str) : runesAux (fuel + 1) i (b :: bs) ≠ [] := by
  simp [runesAux]

theorem runesAux_ascii (s : Str) (h : ∀ b ∈ s, b < 128) (fuel i : Nat) (hf : s.length ≤ fuel) :
    (runesAux fuel i s).map (·.1) = s := by
  induction s generalizing fuel i with
  | nil => cases fuel <;> simp [runesAux]
  | cons b bs ih =>
    cases fuel with
    | zero => simp at hf
    | succ fuel =>
      have hb : b < 128 := h b (by simp)
      simp only [runesAux, decodeRune_ascii b bs hb, List.map_cons, List.drop_succ_cons, List.drop_zero]
      rw [ih (fun x hx => h x (by simp [hx])) fuel (i + 1) (by simpa using hf)]

theorem runes_ascii (s : Str) (h : ∀ b ∈ s, b < 128) : (runes s).map (·.1) = s :=
  runesAux_ascii s h _ _ (Nat.le_refl _)

theorem prefixOf_facts (name : Str) (style : Style) :
    Piece style ⟨[], false⟩ (prefixOf name style) ∧
      ((prefixOf name style = [] ∧ (name.length = 1 → (charName (decodeRune name).1).isSome = true)) ∨
        Firm (prefixOf name style)) := by
  obtain ⟨ext, e, he, hf⟩ := write_ext style ⟨[], false⟩ (cs ['c','h','a','r']) (by decide)
  fun_cases prefixOf name style
  case case1 _ _ b _ => -- `char_`
    rw [show b = ext from e]; exact ⟨he.snoc_us hf.ne_nil, Or.inr (hf.append_right _)⟩
  case case2 _ _ b _ => -- `char`
    rw [show b = ext from e]; exact ⟨he, Or.inr hf⟩
  -- no prefix: the one byte has a name, or there is not just one
  case case3 h => exact ⟨Piece.nil _ _, Or.inl ⟨rfl, fun _ => Option.isSome_iff_ne_none.2 (by simpa using h)⟩⟩
  case case4 h => exact ⟨Piece.nil _ _, Or.inl ⟨rfl, fun h1 => absurd h1 h⟩⟩

theorem produce_eq (name0 : Str) (style : Style) :
    produce name0 style = [69, 83, 67] ∨ ∃ name q pre, Piece style ⟨[], false⟩ pre ∧
      produce name0 style = ((runes name).foldl (step name style q) ⟨pre, false⟩).buf := by
  fun_cases produce name0 style
  case case1 => exact Or.inl rfl -- the quoted backslash in `UpperCase`
  case case2 => exact Or.inr ⟨_, true, _, (prefixOf_facts _ style).1, rfl⟩ -- quoted
  case case3 => exact Or.inr ⟨name0, false, [], Piece.nil _ _, rfl⟩

theorem produce_head (name0 : Str) (style : Style) (hs : style ≠ .camelLower) :
    ∀ c, (produce name0 style).head? = some c → isLowerA c = false := by
  rcases produce_eq name0 style with e | ⟨name, q, pre, hpre, e⟩ <;> rw [e]
  · intro c hc; cases hc; rfl
  · exact (List.foldlRecOn (motive := HeadInv) _ _
      ⟨fun h => absurd h Bool.false_ne_true, fun c hc => (hpre.head rfl c hc).2 hs rfl⟩
      fun s h a _ => step_headInv name style q hs s a h).2

theorem produce_chars (name0 : Str) (style : Style) : ∀ c ∈ produce name0 style, CharOK style c := by
  rcases produce_eq name0 style with e | ⟨name, q, pre, hpre, e⟩ <;> rw [e]
  · intro c hc
    simp only [List.mem_cons, List.not_mem_nil, or_false] at hc
    rcases hc with rfl | rfl | rfl <;> exact ⟨Or.inl rfl, fun _ => rfl⟩
  · refine List.foldlRecOn (motive := fun st : St => ∀ c ∈ st.buf, CharOK style c) _ _ hpre.chars
      fun st h ri _ => ?_
    obtain ⟨ext, e, he, _⟩ := step_ext name style q st ri
    rw [e]
    exact fun c hc => (List.mem_append.1 hc).elim (h c) (he.chars c)

theorem quoted_core (name : Str) (style : Style) (hne : name ≠ []) :
    Solid ((runes name).foldl (step name style true) ⟨prefixOf name style, false⟩).buf := by
  obtain ⟨hext, ⟨hp, hlen⟩ | hs⟩ := prefixOf_facts name style
  · rw [hp]
    cases name with
    | nil => exact absurd rfl hne
    | cons b bs =>
      rw [runes_cons]
      by_cases ht : isAlnum (decodeRune (b :: bs)).1 = true ∨ (decodeRune (b :: bs)).1 ≠ 95
      · exact foldl_trigger _ _ _ _ _ inv_nil ⟨_, List.mem_cons_self, ht.imp_right fun h => ⟨rfl, h⟩⟩
      · -- the name starts with `_`: it has a second byte (or `char` would be there), so two runes
        have h95 : (decodeRune (b :: bs)).1 = 95 := Classical.not_not.1 fun h => ht (Or.inr h)
        have hd := decodeRune_small b bs (by omega)
        cases bs with
        | nil =>
          have := hlen rfl
          rw [h95] at this
          exact absurd this (by decide)
        | cons b' bs' =>
          rw [hd]
          simp only [List.drop_succ_cons, List.drop_zero, List.length_cons, runesAux]
          refine ⟨foldl_Inv _ _ _ _ _ inv_nil, Or.inl ?_⟩
          refine Nat.le_trans ?_ (foldl_len _ _ _ _)
          simp
  · exact foldl_Solid _ _ _ _ _ ⟨inv_append (st := ⟨[], false⟩) inv_nil hext, hs⟩

theorem produce_quoted (name0 : Str) (style : Style) (h : looksQuoted name0 = true) :
    validIdent (produce name0 style) = true := by
  have hlen : 2 < name0.length := by
    simp only [looksQuoted, Bool.and_eq_true, decide_eq_true_eq] at h; exact h.1
  fun_cases produce name0 style
  case case1 => decide -- `ESC`
  case case3 hq => exact absurd h hq
  case case2 _ name1 _ name =>
    -- the contents, less the backslash of a two-byte escape, are not empty
    refine solid_valid (quoted_core name style (List.ne_nil_of_length_pos ?_))
    simp only [name]
    split
    · next hc => rw [List.length_drop, hc.1]; decide
    · rw [List.length_take, List.length_drop]; omega

theorem idMid_cases (b : Nat) (h : isIdMid b = true) : b < 128 ∧ (isAlnum b = true ∨ b = 95 ∨ b = 45) := by
  rw [show isIdMid b = (isAlnum b || b == 95 || b == 45) from rfl] at h
  simp only [Bool.or_eq_true, beq_iff_eq, or_assoc] at h
  refine ⟨?_, h⟩
  rw [alnum_iff] at h
  omega

/-- the first byte of an `ID`: a letter or `_`, so no digit and no quote -/
theorem idStart_cases (b : Nat) (h : isIdStart b = true) :
    isIdMid b = true ∧ isDigitA b = false ∧ b ≠ 39 ∧ b ≠ 34 := by
  rw [show isIdStart b = (isLetterA b || b == 95) from rfl, Bool.or_eq_true, beq_iff_eq] at h
  rw [show isIdMid b = (isLetterA b || isDigitA b || b == 95 || b == 45) from rfl]
  rcases h with hs | rfl
  · refine ⟨by rw [hs]; rfl, ?_⟩
    simp only [isLetterA, isLowerA, isUpperA, Bool.or_eq_true, decide_eq_true_eq] at hs
    exact ⟨decide_eq_false (by omega), by omega, by omega⟩
  · decide

theorem isID_facts (name : Str) (h : isID name = true) :
    (∀ b ∈ name, isIdMid b = true) ∧ looksQuoted name = false := by
  cases name with
  | nil => cases h
  | cons b rest =>
    simp only [isID, Bool.and_eq_true, List.all_eq_true] at h
    obtain ⟨hmid, _, h39, h34⟩ := idStart_cases b h.1.1
    exact ⟨List.forall_mem_cons.2 ⟨hmid, h.1.2⟩, by simp [looksQuoted, h39, h34]⟩

theorem isID_runes (name : Str) (h : isID name = true) : (runes name).map (·.1) = name :=
  runes_ascii name fun b hb => (idMid_cases b ((isID_facts name h).1 b hb)).1

theorem validIdent_isID (id : Str) (hid : isID id = true) :
    validIdent id = (!id.contains 45 && id != [95]) := by
  have hall : id.all isIdentChar = !id.contains 45 := by
    rw [Bool.eq_iff_iff, List.all_eq_true, Bool.not_eq_true', ← Bool.not_eq_true, List.contains_iff_mem]
    refine ⟨fun h m => absurd (h 45 m) (by decide), fun h x hx => (identChar_iff x).2 ?_⟩
    exact (or_assoc.2 (idMid_cases x ((isID_facts id hid).1 x hx)).2).resolve_right fun e => h (e ▸ hx)
  cases id with
  | nil => cases hid
  | cons b rest =>
    simp only [isID, Bool.and_eq_true] at hid
    rw [validIdent, (idStart_cases b hid.1.1).2.1, hall, bne, List.cons_beq_cons, List.beq_nil_eq]
    rfl

theorem foldl_plain (name : Str) (style : Style) (l : List (Nat × Nat)) (st : St)
    (h : ∀ x ∈ l, x.1 = 95 ∨ x.1 = 45) :
    (l.foldl (step name style false) st).buf =
      st.buf ++ List.replicate (if style = .upperCase then (l.map (·.1)).count 95 else 0) 95 := by
  induction l generalizing st with
  | nil => simp
  | cons x l ih =>
    have hx := h x (by simp)
    have ha : isAlnum x.1 = false := by
      rcases hx with h | h <;> rw [h] <;> rfl
    have h36 : x.1 ≠ 36 := by omega
    rw [List.foldl_cons, ih _ (fun y hy => h y (by simp [hy])), step_unquoted name style st x ha]
    by_cases hu : style = .upperCase
    · rcases hx with hx | hx
      · simp only [hx, hu, and_self, or_true, if_true, List.map_cons, List.count_cons_self, List.append_assoc,
          List.replicate_succ, List.singleton_append]
      · simp [hx, hu]
    · simp [h36, hu]

theorem validIdent_replicate (n : Nat) : validIdent (List.replicate n 95) = decide (2 ≤ n) := by
  rcases n with _ | _ | n
  · rfl
  · rfl
  · have : (List.replicate n 95).all isIdentChar = true := List.all_eq_true.2 fun c hc => by
      rw [(List.mem_replicate.1 hc).2]; rfl
    simp [validIdent, List.replicate_succ, this]
    decide

/-- A letter or digit makes the buffer solid; without one the result is one `_` per `_` of the name in `UpperCase`, and
empty in the other styles. -/
theorem validIdent_produce_id (name : Str) (style : Style) (hid : isID name = true) :
    validIdent (produce name style) = good name style := by
  obtain ⟨hmid, hq⟩ := isID_facts name hid
  have hmap := isID_runes name hid
  unfold good produce
  simp only [hq, Bool.false_eq_true, if_false, Bool.false_or]
  cases hna : name.any isAlnum with
  | true =>
    obtain ⟨b, hb, hab⟩ := List.any_eq_true.1 hna
    rw [← hmap] at hb
    obtain ⟨x, hx, rfl⟩ := List.mem_map.1 hb
    exact solid_valid (foldl_trigger _ _ _ _ _ inv_nil ⟨x, hx, Or.inl hab⟩)
  | false =>
    have hplain : ∀ x ∈ runes name, x.1 = 95 ∨ x.1 = 45 := by
      intro x hx
      have hxn : x.1 ∈ name := by rw [← hmap]; exact List.mem_map_of_mem hx
      rcases (idMid_cases _ (hmid _ hxn)).2 with h | h
      · exact absurd h (List.any_eq_false.1 hna _ hxn)
      · exact h
    rw [foldl_plain name style (runes name) ⟨[], false⟩ hplain, hmap, List.nil_append, validIdent_replicate]
    by_cases hu : style = .upperCase <;> simp [hu]

theorem quotedBody_last (q : Nat) (s : Str) (h : quotedBody q s = true) : s.getLast? = some q := by
  fun_induction quotedBody q s with
  | case1 => simp at h
  | case2 b => simp at h; simp [h]
  | case3 b2 rest ih =>
    simp only [Bool.and_eq_true] at h
    have := ih h.2
    cases rest with
    | nil => simp [quotedBody] at h
    | cons c rest => simpa using this
  | case4 => simp at h
  | case5 b b2 rest _ _ ih => simpa using ih h

theorem isQuoted_facts (q : Nat) (name : Str) (hq : q = 39 ∨ q = 34) (h : isQuoted q name = true) :
    looksQuoted name = true ∨ name = [q, q] := by
  cases name with
  | nil => simp [isQuoted] at h
  | cons b rest =>
    simp only [isQuoted, Bool.and_eq_true, beq_iff_eq] at h
    obtain ⟨rfl, hb⟩ := h
    have hl := quotedBody_last b rest hb
    cases rest with
    | nil => simp [quotedBody] at hb
    | cons c rest =>
      cases rest with
      | nil => simp [quotedBody] at hb; right; rw [hb]
      | cons d rest =>
        left
        have : (b :: c :: d :: rest).getLast? = some b := by simpa using hl
        rcases hq with rfl | rfl <;> simp [looksQuoted, this]

theorem validIdent_produce (name : Str) (style : Style) (htm : TmName name) :
    validIdent (produce name style) = good name style := by
  have quoted : ∀ q, q = 39 ∨ q = 34 → isQuoted q name = true →
      validIdent (produce name style) = good name style := by
    intro q hq h
    rcases isQuoted_facts q name hq h with h | h
    · rw [produce_quoted name style h, good, h]; rfl
    · subst h
      rcases hq with rfl | rfl <;> cases style <;> rfl
  unfold TmName tmName at htm
  simp only [Bool.or_eq_true] at htm
  rcases htm with (hid | h39) | h34
  · exact validIdent_produce_id name style hid
  · exact quoted 39 (Or.inl rfl) h39
  · exact quoted 34 (Or.inr rfl) h34

end TmVerif.Ident
