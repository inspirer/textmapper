import TmVerif.Proofs.LRX
/-!
One loop iteration of the extended runtime (`xpre`, `xstep`): it acts by elementary moves, how it depends on
`cancelAt`, which results it can return; the induction over the loop (`xrunLoop_induct`); invariants of the elementary
moves (hence of every function of the extended runtime model).
-/
namespace TmVerif.LRX
open TmVerif.LR

def XPre.PanicOnly : XPre → Prop
  | .done r _ => r = .panic
  | _ => True

theorem xreduceTail_moves (x : XTables) (inp : Input) (b : Bool × Bool) (c2 : XCfg) (rule : Int) (ln : Nat)
    (lhs : Int) (off endo : Nat) : Moves inp b c2 (xreduceTail x c2 rule ln lhs off endo).cfg ∧
      (xreduceTail x c2 rule ln lhs off endo).PanicOnly := by
  unfold xreduceTail
  split
  · exact ⟨.refl _, rfl⟩
  · next evs endo' h =>
    have h1 : Moves inp b c2 { c2 with evs := evs.reverse ++ c2.evs } :=
      .single (.emitNodes _ _ _ fun e he => applyRuleEvents_nodes h e (List.mem_reverse.1 he))
    split
    · exact ⟨h1, rfl⟩
    · split
      · exact ⟨h1, rfl⟩
      · split
        · exact ⟨h1.tail (.setStack _ _ _ _), trivial⟩
        · exact ⟨h1.tail (.setStack _ _ _ _), trivial⟩

theorem xreducePre_moves (x : XTables) (inp : Input) (b : Bool × Bool) (c1 : XCfg) (rule : Int) :
    Moves inp b c1 (xreducePre x inp c1 rule).cfg ∧ (xreducePre x inp c1 rule).PanicOnly := by
  unfold xreducePre
  split
  · split
    · exact ⟨.refl _, rfl⟩
    · split
      · exact (xreduceTail_moves ..).imp_left (fetch_moves inp b c1).trans
      · exact xreduceTail_moves ..
  · exact ⟨.refl _, rfl⟩

theorem preBody_moves (x : XTables) (inp : Input) (e : Bool) (c1 : XCfg) (a : Act) :
    Moves inp (true, e) c1 (preBody x inp c1 a).cfg ∧ (preBody x inp c1 a).PanicOnly := by
  cases a with
  | reduce r => exact xreducePre_moves ..
  | shift q =>
    cases hn : c1.next with
    | none => rw [preBody_shift_none hn]; exact ⟨.refl _, rfl⟩
    | some tk => rw [preBody_shift hn]; exact ⟨.single (.shift _ _ _ _ _ hn), trivial⟩
  | error => exact ⟨.single (.bump _ _ _), trivial⟩

theorem xpre_moves (x : XTables) (inp : Input) (e : Bool) (k : Nat) (c : XCfg) :
    Moves inp (true, e) c (xpre x inp k c).cfg := by
  unfold xpre
  cases hd : xdecode x inp c with
  | none => exact .refl _
  | some p =>
    refine (xdecode_moves (true, e) (c1 := p.1) (a := p.2) hd).trans ?_
    dsimp only
    split
    · exact .single (.bump _ _ _)
    · exact (preBody_moves x inp e p.1 p.2).1

theorem XPre.run_cfg_moves {x : XTables} (inp : Input) (b : Bool) (fin : Int) (stop : Bool) (p : XPre) :
    Moves inp (b, true) p.cfg (p.run (onError x inp fin stop)).cfg := by
  cases p with
  | cont c => exact .refl _
  | done r c => exact .refl _
  | err c => exact onError_moves inp b fin stop c

theorem xstep_moves (x : XTables) (inp : Input) (fin : Int) (stop : Bool) (k : Nat) (c : XCfg) :
    Moves inp (true, true) c (xstep x inp fin stop k c).cfg := by
  rw [xstep_pre]
  exact (xpre_moves x inp true k c).trans (XPre.run_cfg_moves inp true fin stop _)

section loop
variable {x : XTables} {inp : Input} {fin : Int} {stop : Bool} {k : Nat}

theorem xrunLoop_succ_fin {n : Nat} {c : XCfg} (h : c.state = fin) :
    xrunLoop x inp fin stop k (n + 1) c = (.accept, c) := by
  rw [xrunLoop, if_pos h]

theorem xrunLoop_succ_cont {n : Nat} {c c' : XCfg} (h : c.state ≠ fin)
    (hs : xstep x inp fin stop k c = .cont c') :
    xrunLoop x inp fin stop k (n + 1) c = xrunLoop x inp fin stop k n c' := by
  rw [xrunLoop, if_neg h, hs]

theorem xrunLoop_succ_done {n : Nat} {c c' : XCfg} {r : XResult} (h : c.state ≠ fin)
    (hs : xstep x inp fin stop k c = .done r c') :
    xrunLoop x inp fin stop k (n + 1) c = (r, c') := by
  rw [xrunLoop, if_neg h, hs]

def XStep.Holds (P : XCfg → Prop) (Q : XResult → XCfg → Prop) : XStep → Prop
  | .cont c => P c
  | .done r c => Q r c

theorem XStep.holds_of_cfg {P : XCfg → Prop} {s : XStep} (h : P s.cfg) : s.Holds P (fun _ => P) := by
  cases s <;> exact h

theorem xrunLoop_induct {P : XCfg → Prop} {Q : XResult → XCfg → Prop}
    (hfuel : ∀ c, P c → Q .fuel c) (hacc : ∀ c, P c → c.state = fin → Q .accept c)
    (hstep : ∀ c, P c → c.state ≠ fin → (xstep x inp fin stop k c).Holds P Q) (fuel : Nat) :
    ∀ c, P c → Q (xrunLoop x inp fin stop k fuel c).1 (xrunLoop x inp fin stop k fuel c).2 := by
  induction fuel with
  | zero => exact hfuel
  | succ n ih =>
    intro c hc
    by_cases hf : c.state = fin
    · rw [xrunLoop_succ_fin hf]; exact hacc c hc hf
    · have h := hstep c hc hf
      cases hs : xstep x inp fin stop k c with
      | cont c' => rw [hs] at h; rw [xrunLoop_succ_cont hf hs]; exact ih c' h
      | done r c' => rw [hs] at h; rw [xrunLoop_succ_done hf hs]; exact h

end loop

theorem xrunLoop_moves (x : XTables) (inp : Input) (fin : Int) (stop : Bool) (k : Nat) (fuel : Nat)
    (c : XCfg) : Moves inp (true, true) c (xrunLoop x inp fin stop k fuel c).2 :=
  xrunLoop_induct (P := Moves inp (true, true) c) (Q := fun _ => Moves inp (true, true) c)
    (fun _ h => h) (fun _ h _ => h)
    (fun c' h _ => XStep.holds_of_cfg (h.trans (xstep_moves x inp fin stop k c'))) fuel c (.refl c)

theorem xdecode_evs {x : XTables} {inp : Input} {c c1 : XCfg} {a : Act}
    (h : xdecode x inp c = some (c1, a)) : c1.evs = c.evs := by
  rcases xdecode_cases h with h | h
  · rw [h]
  · rw [h, fetch_evs]

theorem xpre_zero (x : XTables) (inp : Input) (c : XCfg) :
    xpre x inp 0 c = match xdecode x inp c with
      | none => .done .panic c
      | some (c1, a) => preBody x inp c1 a := by
  unfold xpre
  cases xdecode x inp c with
  | none => rfl
  -- `pollHit 0` asks for `0 ≠ 0`
  | some p => exact if_neg fun h => h.2.2.1 rfl

/-- `cancelAt` enters an iteration through the poll only -/
theorem xstep_cancel (x : XTables) (inp : Input) (fin : Int) (stop : Bool) (k : Nat) (c : XCfg) :
    xstep x inp fin stop k c = xstep x inp fin stop 0 c ∨
      ∃ c', xstep x inp fin stop k c = .done .cancelled c' ∧ c'.evs = c.evs := by
  rw [xstep_pre, xstep_pre, xpre_zero]
  unfold xpre
  cases hd : xdecode x inp c with
  | none => exact .inl rfl
  | some p =>
    dsimp only
    split
    · exact .inr ⟨_, rfl, xdecode_evs (c1 := p.1) (a := p.2) hd⟩
    · exact .inl rfl

theorem polled_cancellable {x : XTables} {c1 : XCfg} {a : Act} (h : polled x c1 a = true) :
    x.cancellable = true := by
  cases a with
  | reduce r => cases h
  | shift q => exact h
  | error =>
    unfold polled failedShift at h
    simp only [Bool.and_eq_true] at h
    exact h.1.1

theorem xpre_done {x : XTables} {inp : Input} {k : Nat} {c c' : XCfg} {r : XResult}
    (h : xpre x inp k c = .done r c') :
    r = .panic ∨ (r = .cancelled ∧ x.cancellable = true ∧ k ≠ 0) := by
  unfold xpre at h
  cases hd : xdecode x inp c with
  | none => rw [hd] at h; cases h; exact .inl rfl
  | some p =>
    rw [hd] at h
    dsimp only at h
    split at h
    · next hg => cases h; exact .inr ⟨rfl, polled_cancellable hg.1, hg.2.2.1⟩
    -- `PanicOnly (.done r c')` is `r = .panic`
    · exact .inl (h ▸ (preBody_moves x inp false p.1 p.2).2 :)

/-- `panic` is `recoverFromError = none`: an index out of range, or the model's fuel for `recoverLoop` or
`reduceAllLoop` used up -/
theorem onError_done {x : XTables} {inp : Input} {fin : Int} {stop : Bool} {c c' : XCfg} {r : XResult}
    (h : onError x inp fin stop c = .done r c') : r = .panic ∨ ∃ o e, r = .syntaxError o e := by
  cases hr : x.recovering
  · rw [onError_eq_norec inp fin stop c hr] at h; cases h; exact .inr ⟨_, _, rfl⟩
  · rw [onError_eq_rec inp fin stop c hr] at h
    split at h
    · cases h; exact .inr ⟨_, _, rfl⟩
    · split at h
      · cases h; exact .inl rfl
      · cases h; exact .inr ⟨_, _, rfl⟩
      · cases h

/-- `accept` is not among the results: acceptance is the loop's test `state = end`. -/
theorem xstep_done {x : XTables} {inp : Input} {fin : Int} {stop : Bool} {k : Nat} {c c' : XCfg}
    {r : XResult} (h : xstep x inp fin stop k c = .done r c') :
    r = .panic ∨ (∃ o e, r = .syntaxError o e) ∨ (r = .cancelled ∧ x.cancellable = true ∧ k ≠ 0) := by
  rw [xstep_pre] at h
  cases hp : xpre x inp k c with
  | cont c1 => rw [hp] at h; cases h
  | done r1 c1 =>
    rw [hp] at h
    cases h
    exact (xpre_done hp).imp id .inr
  | err c1 =>
    rw [hp] at h
    exact (onError_done (show onError x inp fin stop c1 = _ from h)).imp id .inl

theorem xstep_done_ne_accept {x : XTables} {inp : Input} {fin : Int} {stop : Bool} {k : Nat} {c cf : XCfg} :
    xstep x inp fin stop k c ≠ .done .accept cf := by
  intro h
  rcases xstep_done h with h | ⟨_, _, h⟩ | ⟨h, _⟩ <;> cases h

theorem Move.evs_suffix {inp b c c'} (h : Move inp b c c') : c.evs <:+ c'.evs := by
  cases h with
  | emitNodes _ _ evs _ => exact List.suffix_append _ _
  | emitError => exact List.suffix_cons _ _
  | _ => exact List.suffix_refl _

theorem Moves.evs_suffix {inp b c c'} (h : Moves inp b c c') : c.evs <:+ c'.evs := by
  induction h with
  | refl => exact List.suffix_refl _
  | tail _ hm ih => exact ih.trans hm.evs_suffix

theorem nodeCount_mono {c c' : XCfg} (h : c.evs <:+ c'.evs) : c.nodeCount ≤ c'.nodeCount := by
  unfold XCfg.nodeCount
  exact (h.filter _).length_le

theorem Move.shiftCounter_eq {inp e c c'} (h : Move inp (false, e) c c') : c'.shiftCounter = c.shiftCounter := by
  cases h <;> rfl

theorem Moves.shiftCounter_eq {inp e c c'} (h : Moves inp (false, e) c c') : c'.shiftCounter = c.shiftCounter := by
  induction h with
  | refl => rfl
  | tail _ hm ih => rw [hm.shiftCounter_eq, ih]

def hasErr (evs : List XEv) : Prop := ∃ e ∈ evs, e.isError = true

theorem hasErr_of_suffix {l l' : List XEv} (h : l <:+ l') (he : hasErr l) : hasErr l' := by
  obtain ⟨e, hm, hb⟩ := he
  exact ⟨e, h.subset hm, hb⟩

/-- `recovering ≠ 0` only after a handler call -/
def RecInv (c : XCfg) : Prop := c.recovering = 0 ∨ hasErr c.evs

theorem Move.recInv {inp b c c'} (h : Move inp b c c') (hc : RecInv c) : RecInv c' := by
  cases h with
  | fetch | dropNext | setStack | bump => exact hc
  | emitNodes _ _ evs _ =>
    rcases hc with h | h
    · exact .inl h
    · exact .inr (hasErr_of_suffix (List.suffix_append _ _) h)
  | emitError _ _ tk _ _ => exact .inr ⟨_, List.mem_cons_self, rfl⟩
  | setRec _ _ hp =>
    rcases hc with h | h
    · obtain ⟨o, e, rest, hr⟩ := hp h
      exact .inr ⟨_, by rw [hr]; exact List.mem_cons_self, rfl⟩
    · exact .inr h
  | shift _ _ tk q sc _ =>
    rcases hc with h | h
    · exact .inl (by rw [h])
    · exact .inr h

theorem Moves.recInv {inp b c c'} (h : Moves inp b c c') (hc : RecInv c) : RecInv c' := by
  induction h with
  | refl => exact hc
  | tail _ hm ih => exact hm.recInv ih

end TmVerif.LRX
