import TmVerif.Model.EventNesting
import TmVerif.Proofs.LRXStep
/-!
C20 — nesting of the listener events of the extended runtime model.

Invariant (`Core`): the stack entries form a chain of ordered ranges below the offset `N` of the next
unconsumed token; every event reported so far is (closed-interval) before, after or inside every
stack entry; the events are pairwise `Compat` in report order. A reduce reports ranges whose end
points are end points of popped entries, inner first, then the node of the entry it pushes; recovery
replaces popped entries and skipped tokens by one `error` entry spanning them.
-/
namespace TmVerif.EventNesting
open TmVerif.LR TmVerif.LRX TmVerif.TreeBuilder

theorem tok_facts {inp : Input} (hw : InputWF inp) (i : Nat) :
    (inp.tok i).off ≤ (inp.tok i).endo ∧ (inp.tok i).endo ≤ (inp.tok (i + 1)).off ∧
    ((inp.tok i).sym = 0 → (inp.tok i).off = (inp.tok i).endo) := by
  rcases Nat.lt_or_ge i inp.toks.size with h | h
  · obtain ⟨h1, h2, h3⟩ := hw i h
    exact ⟨h2, h3, fun h0 => absurd h0 h1⟩
  · rw [tok_of_size_le h, tok_of_size_le (Nat.le_succ_of_le h)]
    simp

theorem tok_off_mono {inp : Input} (hw : InputWF inp) : MonoToks inp := by
  intro i j hij
  induction hij with
  | refl => exact Nat.le_refl _
  | @step m _ ih => exact Nat.le_trans ih (Nat.le_trans (tok_facts hw m).1 (tok_facts hw m).2.1)

/-- events only (what survives in configurations of aborted steps) -/
structure EvsOK (N : Nat) (evs : List TreeBuilder.Ev) : Prop where
  evb : ∀ p ∈ evs, p.off ≤ p.endo ∧ p.endo ≤ N
  pw : evs.Pairwise (fun later earlier => Compat earlier later)

theorem EvsOK.mono {N N' evs} (h : EvsOK N evs) (hN : N ≤ N') : EvsOK N' evs :=
  ⟨fun p hp => ⟨(h.evb p hp).1, Nat.le_trans (h.evb p hp).2 hN⟩, h.pw⟩

theorem EvsOK.append {N evs} (h : EvsOK N evs) (fs : List TreeBuilder.Ev)
    (f1 : ∀ f ∈ fs, f.off ≤ f.endo ∧ f.endo ≤ N)
    (f2 : ∀ f ∈ fs, ∀ p ∈ evs, Compat p f)
    (f4 : fs.Pairwise Compat) : EvsOK N (fs.reverse ++ evs) := by
  refine ⟨?_, ?_⟩
  · intro p hp
    rcases List.mem_append.1 hp with hp | hp
    · exact f1 p (List.mem_reverse.1 hp)
    · exact h.evb p hp
  · rw [List.pairwise_append]
    refine ⟨?_, h.pw, ?_⟩
    · rw [List.pairwise_reverse]; exact f4
    · intro f hf p hp
      exact f2 f (List.mem_reverse.1 hf) p hp

def CompatE (p : TreeBuilder.Ev) (e : Entry) : Prop :=
  p.endo ≤ e.off ∨ e.endo ≤ p.off ∨ (e.off ≤ p.off ∧ p.endo ≤ e.endo)

/-- `st` top first, `evs` most recent first, `N` = offset of the next unconsumed token -/
structure Core (N : Nat) (st : List Entry) (evs : List TreeBuilder.Ev) : Prop where
  chain : st.Pairwise (fun a b => b.endo ≤ a.off)
  ent : ∀ e ∈ st, e.off ≤ e.endo ∧ e.endo ≤ N
  evb : ∀ p ∈ evs, p.off ≤ p.endo ∧ p.endo ≤ N
  evc : ∀ p ∈ evs, ∀ e ∈ st, CompatE p e
  pw : evs.Pairwise (fun later earlier => Compat earlier later)

theorem Core.evsOK {N st evs} (h : Core N st evs) : EvsOK N evs := ⟨h.evb, h.pw⟩

theorem Core.mono {N N' st evs} (h : Core N st evs) (hN : N ≤ N') : Core N' st evs :=
  ⟨h.chain, fun e he => ⟨(h.ent e he).1, Nat.le_trans (h.ent e he).2 hN⟩,
   (h.evsOK.mono hN).evb, h.evc, h.pw⟩

/-- an event compatible with the entries `A` and `T` is compatible with the range from the start of `A` to the end
of `T`, or to beyond everything reported so far (as `CompatE` or `Compat`, which unfold to this) -/
theorem compatE_span {p : TreeBuilder.Ev} {A T : Entry} {o e s : Nat} (hA : CompatE p A) (hT : CompatE p T)
    (hp : p.off ≤ p.endo ∧ p.endo ≤ s) (hAw : A.off ≤ A.endo) (hTw : T.off ≤ T.endo)
    (ho : o = A.off) (he : e = T.endo ∨ s ≤ e) : p.endo ≤ o ∨ e ≤ p.off ∨ (o ≤ p.off ∧ p.endo ≤ e) := by
  unfold CompatE at *
  omega

theorem Core.compat_ends {N st evs} (h : Core N st evs) {f : TreeBuilder.Ev} {A : Entry} (hA : A ∈ st)
    (ho : f.off = A.off) (he : f.endo = A.off ∨ ∃ B ∈ st, f.endo = B.endo) :
    f.endo ≤ N ∧ ∀ p ∈ evs, Compat p f := by
  have h3 := h.ent A hA
  rcases he with he | ⟨B, hB, he⟩
  · refine ⟨he ▸ Nat.le_trans h3.1 h3.2, fun p hp => ?_⟩
    have hpb := (h.evb p hp).1
    have h1 := h.evc p hp A hA
    unfold CompatE at h1
    unfold Compat
    omega
  · have h4 := h.ent B hB
    exact ⟨he ▸ h4.2, fun p hp =>
      compatE_span (h.evc p hp A hA) (h.evc p hp B hB) (h.evb p hp) h3.1 h4.1 ho (.inl he)⟩

/-- The general reduce step: pop `ln` entries, report `fs` (time order), push `g`. -/
theorem Core.reduce {N st evs} (h : Core N st evs) (ln : Nat) (g : Entry) (fs : List TreeBuilder.Ev)
    (g1 : g.off ≤ g.endo ∧ g.endo ≤ N)
    (g2 : ∀ e ∈ st.drop ln, e.endo ≤ g.off)
    (g3 : ∀ p ∈ evs, CompatE p g)
    (f1 : ∀ f ∈ fs, f.off ≤ f.endo ∧ f.endo ≤ N)
    (f2 : ∀ f ∈ fs, ∀ p ∈ evs, Compat p f)
    (f3 : ∀ f ∈ fs, CompatE f g ∧ ∀ e ∈ st.drop ln, CompatE f e)
    (f4 : fs.Pairwise Compat) :
    Core N (g :: st.drop ln) (fs.reverse ++ evs) := by
  have hsub : ∀ e ∈ st.drop ln, e ∈ st := fun e he => List.mem_of_mem_drop he
  have hev := h.evsOK.append fs f1 f2 f4
  refine ⟨?_, ?_, hev.evb, ?_, hev.pw⟩
  · rw [List.pairwise_cons]
    exact ⟨g2, h.chain.sublist (List.drop_sublist ln st)⟩
  · intro e he
    rcases List.mem_cons.1 he with rfl | he
    · exact g1
    · exact h.ent e (hsub e he)
  · intro p hp e he
    rcases List.mem_append.1 hp with hp | hp
    · have := f3 p (List.mem_reverse.1 hp)
      rcases List.mem_cons.1 he with rfl | he
      · exact this.1
      · exact this.2 e he
    · rcases List.mem_cons.1 he with rfl | he
      · exact g3 p hp
      · exact h.evc p hp e (hsub e he)

/-- pushing an entry that starts at or after `N` (a shifted token, an empty reduction without
events, the `error` entry on top of the whole stack): a reduce that pops and reports nothing -/
theorem Core.push {N N' st evs} (h : Core N st evs) (g : Entry) (h1 : N ≤ g.off) (h2 : g.off ≤ g.endo)
    (h3 : g.endo ≤ N') : Core N' (g :: st) evs :=
  (h.mono (Nat.le_trans h1 (Nat.le_trans h2 h3))).reduce 0 g [] ⟨h2, h3⟩ (fun e he => Nat.le_trans (h.ent e he).2 h1)
    (fun p hp => .inl (Nat.le_trans (h.evb p hp).2 h1)) (by simp) (by simp) (by simp) .nil

structure Chain (l : List Entry) : Prop where
  ord : l.Pairwise (fun a b => a.endo ≤ b.off)
  wf : ∀ a ∈ l, a.off ≤ a.endo

section
variable {l : List Entry} (h : Chain l) {i j : Nat} {a b : Entry}
  (hi : l[i]? = some a) (hj : l[j]? = some b)
include h hi hj

theorem Chain.endo_le_off (hij : i < j) : a.endo ≤ b.off :=
  pairwise_get h.ord hi hj hij

theorem Chain.le (hij : i ≤ j) : a.off ≤ b.off ∧ a.endo ≤ b.endo := by
  rcases Nat.lt_or_ge i j with hlt | hge
  · have := h.endo_le_off hi hj hlt
    exact ⟨Nat.le_trans (h.wf a (List.mem_of_getElem? hi)) this, Nat.le_trans this (h.wf b (List.mem_of_getElem? hj))⟩
  · obtain rfl : i = j := Nat.le_antisymm hij hge
    obtain rfl : a = b := Option.some.inj (hi.symm.trans hj)
    exact ⟨Nat.le_refl _, Nat.le_refl _⟩

end

/-- what a report `r` of a rule may put out for the right-hand side `l` (bottom first):
an empty range sits at the start of the entry that follows it; a non-empty range runs from the
start of its first entry to the end of entry `b`, its last entry (`trim = false`) or its last
non-empty entry (`trim = true`: `reportRange` drops trailing empty entries but keeps one).
The rule's own node is the report `⟨ruleType, 0, l.length⟩`, trimmed by `fixTrailingWS`. -/
def RepSpec (trim : Bool) (l : List Entry) (r : Report) (f : TreeBuilder.Ev) : Prop :=
  (r.start = r.stop ∧ ∃ A, l[r.stop]? = some A ∧ f.off = A.off ∧ f.endo = A.off) ∨
  (r.start < r.stop ∧ r.stop ≤ l.length ∧
    ∃ b A B, l[r.start]? = some A ∧ l[b]? = some B ∧ r.start ≤ b ∧ b < r.stop ∧
     f.off = A.off ∧ f.endo = B.endo ∧
     (∀ (j : Nat) (E : Entry), b < j → j < r.stop → l[j]? = some E → E.off = E.endo) ∧
     (if trim then (b = r.start ∨ B.off ≠ B.endo) else b + 1 = r.stop))

theorem RepSpec.nil {trim : Bool} {r : Report} {f : TreeBuilder.Ev} : ¬ RepSpec trim [] r f := by
  rintro (⟨_, A, hA, _⟩ | ⟨_, _, _, A, _, hA, _⟩) <;> cases hA

theorem RepSpec.stop_le {trim : Bool} {l : List Entry} {r : Report} {f : TreeBuilder.Ev}
    (h : RepSpec trim l r f) : r.stop ≤ l.length := by
  rcases h with ⟨_, A, hA, _⟩ | ⟨_, h, _⟩
  · exact Nat.le_of_lt (List.getElem?_eq_some_iff.1 hA).1
  · exact h

theorem RepSpec.ends {trim : Bool} {l : List Entry} (hc : Chain l) {r : Report} {f : TreeBuilder.Ev}
    (h : RepSpec trim l r f) :
    ∃ A ∈ l, f.off = A.off ∧ f.off ≤ f.endo ∧ (f.endo = A.off ∨ ∃ B ∈ l, f.endo = B.endo) := by
  rcases h with ⟨_, A, hA, o, n⟩ | ⟨_, _, b, A, B, hA, hB, sb, _, o, n, _, _⟩
  · exact ⟨A, List.mem_of_getElem? hA, o, Nat.le_of_eq (o.trans n.symm), .inl n⟩
  · exact ⟨A, List.mem_of_getElem? hA, o,
      by rw [o, n]; exact Nat.le_trans (hc.le hA hB sb).1 (hc.wf B (List.mem_of_getElem? hB)),
      .inr ⟨B, List.mem_of_getElem? hB, n⟩⟩

theorem compat_point {p f : TreeBuilder.Ev} (hp : p.endo = p.off) : Compat p f := by
  unfold Compat
  omega

/-- Two reports over one right-hand side, the earlier one disjoint from or inside the later one,
give compatible events; the later one may be less trimmed than the earlier one, not more. -/
theorem RepSpec.compat {m1 m2 : Bool} {l : List Entry} (hc : Chain l) {r1 r2 : Report}
    {f1 f2 : TreeBuilder.Ev} (hm : m2 = true → m1 = true) (hn : RepNested r1 r2)
    (h1 : RepSpec m1 l r1 f1) (h2 : RepSpec m2 l r2 f2) : Compat f1 f2 := by
  rcases h1 with ⟨e1, A1, hA1, o1, n1⟩ | ⟨lt1, _, b1, A1, B1, hA1, hB1, sb1, bt1, o1, n1, em1, md1⟩
  · exact compat_point (n1.trans o1.symm)
  · unfold RepNested at hn
    unfold Compat
    rw [o1, n1]
    rcases h2 with ⟨e2, A2, hA2, o2, n2⟩ | ⟨lt2, _, b2, A2, B2, hA2, hB2, sb2, bt2, o2, n2, em2, md2⟩
    · rw [o2, n2]
      rcases Nat.lt_or_ge r1.start r2.stop with hs | hs
      · exact .inl (hc.endo_le_off hB1 hA2 (by omega))
      · exact .inr (.inl (hc.le hA2 hA1 hs).1)
    · rw [o2, n2]
      rcases hn with hn | hn | ⟨hn1, hn2⟩
      · exact .inl (hc.endo_le_off hB1 hA2 (Nat.lt_of_lt_of_le bt1 hn))
      · exact .inr (.inl (hc.endo_le_off hB2 hA1 (Nat.lt_of_lt_of_le bt2 hn)))
      · have hoff := (hc.le hA2 hA1 hn1).1
        rcases Nat.lt_or_ge b2 b1 with hb | hb
        · -- `B1` lies in the trimmed tail of the later report: it is empty, so the earlier
          -- report is trimmed down to its first entry, which follows `B2`
          have hemp := em2 b1 B1 hb (Nat.lt_of_lt_of_le bt1 hn2) hB1
          cases m1
          · cases m2
            · simp only [Bool.false_eq_true, if_false] at md1 md2
              omega
            · exact absurd (hm rfl) (by decide)
          · simp only [if_true] at md1
            obtain rfl : b1 = r1.start := by omega
            obtain rfl : A1 = B1 := Option.some.inj (hA1.symm.trans hB1)
            exact .inr (.inl (hc.endo_le_off hB2 hB1 hb))
        · exact .inr (.inr ⟨hoff, (hc.le hB1 hB2 hb).2⟩)

/-- the listener call of one report (the body of the fold in `applyRuleEvents`) -/
def repEv (fw : Bool) (rhsTop : List Entry) (ln : Nat) (r : Report) : Option XEv :=
  repX fw rhsTop ln r

theorem RepSpec.of_span {fw : Bool} {l : List Entry} {r : Report} {ty : Int} {ev : XEv} (hlt : r.start < r.stop)
    (ht : r.stop ≤ l.length) (h : spanEv ty (kept fw ((l.drop r.start).take (r.stop - r.start))) = some ev) :
    ∃ o e, ev = XEv.node ty o e ∧ RepSpec fw l r ⟨ty, o, e⟩ := by
  obtain ⟨b, A, B, hb1, hb2, hA, hB, hev, hemp, hmd⟩ := kept_slice fw ty hlt ht
  cases hev.symm.trans h
  exact ⟨_, _, rfl, .inr ⟨hlt, ht, b, A, B, hA, hB, hb1, hb2, rfl, rfl, hemp, hmd⟩⟩

theorem repX_spec {fw : Bool} {rhsTop : List Entry} {r : Report} {ev : XEv}
    (hr : r.start ≤ r.stop) (h : repX fw rhsTop rhsTop.length r = some ev) :
    ∃ t o e, ev = XEv.node t o e ∧ RepSpec fw rhsTop.reverse r ⟨t, o, e⟩ := by
  rw [repX_eq rfl hr] at h
  by_cases heq : r.start = r.stop
  · rw [if_pos heq] at h
    obtain ⟨A, hA, rfl⟩ := Option.map_eq_some_iff.1 h
    exact ⟨_, _, _, rfl, .inl ⟨heq, A, hA, rfl, rfl⟩⟩
  · rw [if_neg heq] at h
    by_cases ht : r.stop ≤ rhsTop.length
    · rw [if_pos ht] at h
      exact ⟨_, RepSpec.of_span (Nat.lt_of_le_of_ne hr heq) (by rw [List.length_reverse]; exact ht) h⟩
    · rw [if_neg ht] at h; cases h

def repEvs (fw : Bool) (rhsTop : List Entry) (ln : Nat) : List Report → Option (List XEv)
  | [] => some []
  | r :: rs =>
    match repEv fw rhsTop ln r, repEvs fw rhsTop ln rs with
    | some e, some es => some (e :: es)
    | _, _ => none

inductive All₂ {α β : Type} (R : α → β → Prop) : List α → List β → Prop
  | nil : All₂ R [] []
  | cons {a b as bs} : R a b → All₂ R as bs → All₂ R (a :: as) (b :: bs)

theorem All₂.exists_left {α β : Type} {R : α → β → Prop} {as : List α} {bs : List β} (h : All₂ R as bs) :
    ∀ b ∈ bs, ∃ a ∈ as, R a b := by
  induction h with
  | nil => intro b hb; cases hb
  | cons hab _ ih =>
    intro b hb
    rcases List.mem_cons.1 hb with rfl | hb
    · exact ⟨_, List.mem_cons_self .., hab⟩
    · obtain ⟨a, ha, hr⟩ := ih b hb
      exact ⟨a, List.mem_cons_of_mem _ ha, hr⟩

theorem All₂.pairwise {α β : Type} {R : α → β → Prop} {P : α → α → Prop} {Q : β → β → Prop}
    (hPQ : ∀ a1 a2 b1 b2, P a1 a2 → R a1 b1 → R a2 b2 → Q b1 b2)
    {as : List α} {bs : List β} (h : All₂ R as bs) (hp : as.Pairwise P) : bs.Pairwise Q := by
  induction h with
  | nil => exact .nil
  | cons hab hrest ih =>
    rw [List.pairwise_cons] at hp ⊢
    refine ⟨?_, ih hp.2⟩
    intro b' hb'
    obtain ⟨a', ha', hr'⟩ := hrest.exists_left b' hb'
    exact hPQ _ _ _ _ (hp.1 a' ha') hab hr'

theorem All₂.of_nil {trim : Bool} {reports : List Report} {es : List TreeBuilder.Ev}
    (h : All₂ (RepSpec trim []) reports es) : es = [] := by
  cases h with
  | nil => rfl
  | cons hr _ => exact absurd hr RepSpec.nil

theorem nodeEvs_append (a b : List XEv) : nodeEvs (a ++ b) = nodeEvs a ++ nodeEvs b := by
  induction a with
  | nil => rfl
  | cons e a ih => cases e <;> simp [nodeEvs, ih]

theorem nodeEvs_reverse (a : List XEv) : nodeEvs a.reverse = (nodeEvs a).reverse := by
  induction a with
  | nil => rfl
  | cons e a ih => cases e <;> simp [nodeEvs, nodeEvs_append, ih]

theorem mapM_repX_spec {fw : Bool} {rhsTop : List Entry} {ln : Nat} (hlen : rhsTop.length = ln)
    {reports : List Report} {fs : List XEv} (hr : ∀ r ∈ reports, r.start ≤ r.stop)
    (h : reports.mapM (repX fw rhsTop ln) = some fs) :
    All₂ (RepSpec fw rhsTop.reverse) reports (nodeEvs fs) := by
  subst hlen
  replace h := mapM_eq_some_iff.1 h
  induction h with
  | nil => exact .nil
  | cons hg _ ih =>
    obtain ⟨t, o, e', rfl, hspec⟩ := repX_spec (hr _ List.mem_cons_self) hg
    exact .cons hspec (ih fun r' h' => hr r' (List.mem_cons_of_mem _ h'))

theorem ruleOf_wf {x : XTables} (hx : XWF x) (rule : Int) : RuleWF x.fixWhitespace (ruleOf x rule) := by
  rcases ruleOf_cases x rule with h | ⟨_, h⟩
  · rw [h]; exact ⟨by simp, by simp, .nil⟩
  · exact hx _ (mem_toList_of_getElem? h)

theorem applyRuleEvents_spec {x : XTables} (hx : XWF x) {rule : Int} {ln off endo : Nat}
    {st : List Entry} (hln : ln ≤ st.length) {evs : List XEv} {endo' : Nat}
    (h : applyRuleEvents x rule ln off endo st = some (evs, endo')) :
    endo' = (if (ruleOf x rule).fixWS then fixTrailingWS off endo (st.take ln) else endo) ∧
    ∃ es, All₂ (RepSpec x.fixWhitespace (st.take ln).reverse) (ruleOf x rule).reports es ∧
      nodeEvs evs = es ++
        (if (ruleOf x rule).ruleType ≠ 0 then [⟨(ruleOf x rule).ruleType, off, endo'⟩] else []) := by
  have hlen := List.length_take_of_le hln
  rw [applyRuleEvents_eq] at h
  obtain ⟨fs, hm, h⟩ := Option.map_eq_some_iff.1 h
  cases h
  refine ⟨rfl, _, mapM_repX_spec hlen (ruleOf_wf hx rule).2.1 hm, ?_⟩
  rw [nodeEvs_append, ownNode]
  split <;> rfl

theorem Core.node {N g st evs} (h : Core N (g :: st) evs) (ty : Int) :
    Core N (g :: st) (⟨ty, g.off, g.endo⟩ :: evs) := by
  have hg : g ∈ g :: st := List.mem_cons_self ..
  refine ⟨h.chain, h.ent, ?_, ?_, List.pairwise_cons.2 ⟨fun p hp => h.evc p hp g hg, h.pw⟩⟩
  · intro p hp
    rcases List.mem_cons.1 hp with rfl | hp
    · exact h.ent g hg
    · exact h.evb p hp
  · intro p hp e he
    rcases List.mem_cons.1 hp with rfl | hp
    · rcases List.mem_cons.1 he with rfl | he
      · exact .inr (.inr ⟨Nat.le_refl _, Nat.le_refl _⟩)
      · exact .inr (.inl ((List.pairwise_cons.1 h.chain).1 e he))
    · exact h.evc p hp e he

/-- the range `xstep` gives the entry it pushes for a rule of length `ln`: that of the popped entries of `st`, or for an
empty rule the offset `N` of the next token -/
def RhsRange (st : List Entry) (ln N off endo : Nat) : Prop :=
  if ln = 0 then off = N ∧ endo = N
  else off = (((st.take ln).getLast?.map (·.off)).getD 0) ∧ endo = (((st.take ln).head?.map (·.endo)).getD 0)

theorem RhsRange.eq_of_zero {st : List Entry} {N off endo : Nat} (h : RhsRange st 0 N off endo) : off = N ∧ endo = N := by
  rwa [RhsRange, if_pos rfl] at h

theorem RhsRange.eq_of_ne_zero {st : List Entry} {ln N off endo : Nat} (h : RhsRange st ln N off endo) (h0 : ln ≠ 0) :
    off = (((st.take ln).getLast?.map (·.off)).getD 0) ∧ endo = (((st.take ln).head?.map (·.endo)).getD 0) := by
  rwa [RhsRange, if_neg h0] at h

theorem RhsRange.empty {st : List Entry} {ln : Nat} (h0 : ln = 0) (N : Nat) : RhsRange st ln N N N := by
  rw [RhsRange, if_pos h0]; exact ⟨rfl, rfl⟩

theorem RhsRange.popped {st : List Entry} {ln : Nat} (h0 : ln ≠ 0) (N : Nat) :
    RhsRange st ln N (((st.take ln).getLast?.map (·.off)).getD 0) (((st.take ln).head?.map (·.endo)).getD 0) := by
  rw [RhsRange, if_neg h0]; exact ⟨rfl, rfl⟩

/-- for a rule with a right-hand side that range is the one of the rule's own node: the report `⟨ty, 0, ln⟩`, trimmed by
`fixTrailingWS` -/
theorem RhsRange.node {st : List Entry} {ln N off endo : Nat} (h : RhsRange st ln N off endo) (hpos : 0 < ln)
    (hln : ln ≤ st.length) (trim : Bool) (ty : Int) :
    RepSpec trim (st.take ln).reverse ⟨ty, 0, ln⟩
      ⟨ty, off, if trim then fixTrailingWS off endo (st.take ln) else endo⟩ := by
  have hlen : (st.take ln).reverse.length = ln := by rw [List.length_reverse, List.length_take_of_le hln]
  have hne : st.take ln ≠ [] := fun h0 => by rw [h0] at hlen; exact Nat.ne_of_gt hpos hlen.symm
  have h := h.eq_of_ne_zero (Nat.ne_of_gt hpos)
  obtain ⟨o, e, heq, hs⟩ := RepSpec.of_span (fw := trim) (l := (st.take ln).reverse) (r := ⟨ty, 0, ln⟩) (ty := ty)
    hpos (Nat.le_of_eq hlen.symm)
    (by rw [List.drop_zero, Nat.sub_zero, List.take_of_length_le (Nat.le_of_eq hlen)]; exact spanEv_own trim ty hne)
  rw [h.1, h.2]
  cases heq
  exact hs

/-- `st` is the stack before the right-hand side is popped, `evsN` the listener events so far (most
recent first). -/
theorem reduce_core {x : XTables} (hx : XWF x) {N : Nat} {st : List Entry} {evsN : List TreeBuilder.Ev}
    (hc : Core N st evsN) {rule : Int} {ln off endo : Nat} {fs : List XEv} {endo' : Nat}
    (hln : ln ≤ st.length)
    (hoff : RhsRange st ln N off endo)
    (h : applyRuleEvents x rule ln off endo st = some (fs, endo')) (lhs q : Int) :
    Core N (⟨lhs, off, endo', q⟩ :: st.drop ln) ((nodeEvs fs).reverse ++ evsN) := by
  obtain ⟨hendo, es, hes, hfs⟩ := applyRuleEvents_spec hx hln h
  obtain ⟨hfw, _, hnest⟩ := ruleOf_wf hx rule
  suffices main : Core N (⟨lhs, off, endo', q⟩ :: st.drop ln) (es.reverse ++ evsN) by
    rw [hfs]
    split
    · rw [List.reverse_append, List.append_assoc]; exact main.node _
    · rw [List.append_nil]; exact main
  rcases Nat.eq_zero_or_pos ln with rfl | hpos
  · -- empty right-hand side: no report can succeed; the entry sits at the next token
    have hoff := hoff.eq_of_zero
    have he : endo' = N := by rw [hendo, hoff.1, hoff.2]; split <;> simp [fixTrailingWS]
    obtain rfl : es = [] := hes.of_nil
    rw [he, hoff.1]
    exact hc.push _ (Nat.le_refl _) (Nat.le_refl _) (Nat.le_refl _)
  · have hchain := hc.chain
    rw [← List.take_append_drop ln st, List.pairwise_append] at hchain
    obtain ⟨hrhs, _, hcross⟩ := hchain
    have hmem : ∀ a ∈ (st.take ln).reverse, a ∈ st := fun a ha => List.mem_of_mem_take (List.mem_reverse.1 ha)
    have hC : Chain (st.take ln).reverse :=
      ⟨List.pairwise_reverse.2 hrhs, fun a ha => (hc.ent a (hmem a ha)).1⟩
    have fits : ∀ {trim r f}, RepSpec trim (st.take ln).reverse r f →
        (f.off ≤ f.endo ∧ f.endo ≤ N) ∧ (∀ p ∈ evsN, Compat p f) ∧ ∀ e ∈ st.drop ln, e.endo ≤ f.off := by
      intro trim r f hf
      obtain ⟨A, hA, ho, hle, hend⟩ := hf.ends hC
      obtain ⟨hN, hp⟩ := hc.compat_ends (hmem A hA) ho
        (hend.imp_right fun ⟨B, hB, he⟩ => ⟨B, hmem B hB, he⟩)
      have := hcross A (List.mem_reverse.1 hA)
      exact ⟨⟨hle, hN⟩, hp, fun e he => ho ▸ this e he⟩
    have hlen := List.length_take_of_le hln
    have hg := hoff.node hpos hln (ruleOf x rule).fixWS 0
    rw [← hendo] at hg
    obtain ⟨g1, g3, g2⟩ := fits hg
    refine hc.reduce ln ⟨lhs, off, endo', q⟩ es g1 g2 g3 ?_ ?_ ?_ ?_
    · intro f hf
      obtain ⟨r, _, hr⟩ := hes.exists_left f hf
      exact (fits hr).1
    · intro f hf
      obtain ⟨r, _, hr⟩ := hes.exists_left f hf
      exact (fits hr).2.1
    · intro f hf
      obtain ⟨r, _, hr⟩ := hes.exists_left f hf
      have hstop : r.stop ≤ ln := by rw [← hlen, ← List.length_reverse]; exact hr.stop_le
      exact ⟨RepSpec.compat hC hfw (.inr (.inr ⟨Nat.zero_le _, hstop⟩)) hr hg,
        fun e he => .inr (.inl ((fits hr).2.2 e he))⟩
    · exact hes.pairwise (P := RepNested) (Q := Compat)
        (fun _ _ _ _ hn h1 h2 => RepSpec.compat hC id hn h1 h2) hnest

def NOff (inp : Input) (c : XCfg) : Nat := (inp.tok (nx c)).off

variable {x : XTables} {inp : Input}

/-- Reads `next`, `pos`, `stack` and the node events only: for a configuration that differs from `c` in
`recovering`, `lastErr`, `shiftCounter` or by an `.error` event, `⟨h.next_ok, h.core⟩` is a proof again. -/
structure SInv (inp : Input) (c : XCfg) : Prop where
  next_ok : XNextOk inp c
  core : Core (NOff inp c) c.stack (nodeEvs c.evs)

/-- what is kept of a configuration whose run has stopped: the listener calls are well nested below
some offset of the text -/
def EInv (inp : Input) (c : XCfg) : Prop := ∃ N, N ≤ inp.endOff ∧ EvsOK N (nodeEvs c.evs)

theorem SInv.einv (hw : InputWF inp) {c : XCfg} (h : SInv inp c) : EInv inp c :=
  ⟨_, tok_off_le_endOff (tok_off_mono hw) _, h.core.evsOK⟩

theorem sinv_init (inp : Input) (start : Int) : SInv inp (xinit inp start) where
  next_ok := fun _ ht => ⟨Nat.le_refl _, (Option.some.inj ht).symm⟩
  -- one entry, `⟨0, 0, 0, start⟩`, and no events
  core :=
    { chain := List.pairwise_singleton _ _
      ent := fun e he => by cases List.mem_singleton.1 he; exact ⟨Nat.le_refl _, Nat.zero_le _⟩
      evb := fun _ h => absurd h List.not_mem_nil
      evc := fun _ h => absurd h List.not_mem_nil
      pw := .nil }

theorem NOff_none {c : XCfg} (h : c.next = none) : NOff inp c = (inp.tok c.pos).off := by
  unfold NOff; rw [nx_none h]

theorem NOff_some {c : XCfg} {tk : Tok} (hn : XNextOk inp c) (h : c.next = some tk) : NOff inp c = tk.off := by
  unfold NOff; rw [← nx_some hn h]

theorem NOff_fetch {c : XCfg} (h : XNextOk inp c) : NOff inp (c.fetch inp).1 = NOff inp c := by
  unfold NOff; rw [fetch_nx inp c h]

theorem fetch_tok {c : XCfg} (h : XNextOk inp c) :
    (c.fetch inp).2.off = NOff inp (c.fetch inp).1 := by
  rw [NOff_fetch h, (fetch_idx inp c h).1]; rfl

theorem sinv_fetch {c : XCfg} (h : SInv inp c) : SInv inp (c.fetch inp).1 := by
  refine ⟨h.next_ok.fetch, ?_⟩
  rw [NOff_fetch h.next_ok, LRX.fetch_stack, LRX.fetch_evs]
  exact h.core

theorem next_facts (hw : InputWF inp) {c : XCfg} (hn : XNextOk inp c) {tk : Tok}
    (ht : c.next = some tk) :
    tk.off = NOff inp c ∧ tk.off ≤ tk.endo ∧ tk.endo ≤ (inp.tok c.pos).off ∧
    (tk.sym = 0 → tk.off = tk.endo) := by
  have h1 := hn tk ht
  have hf := tok_facts hw (c.pos - 1)
  rw [Nat.sub_add_cancel h1.1] at hf
  rw [NOff_some hn ht, h1.2]
  exact ⟨rfl, hf.1, hf.2.1, hf.2.2⟩

theorem NOff_dropNext (inp : Input) (c : XCfg) : NOff inp { c with next := none } = (inp.tok c.pos).off := rfl

theorem sinv_dropNext (hw : InputWF inp) {c : XCfg} (h : SInv inp c) {tk : Tok}
    (ht : c.next = some tk) : SInv inp { c with next := none } := by
  obtain ⟨ho, hle, hnext, _⟩ := next_facts hw h.next_ok ht
  exact ⟨(by intro t ht'; cases ht'), h.core.mono (by rw [NOff_dropNext]; omega)⟩

/-- A shift, on `Core` for any list of events: the token in `next` becomes the top entry; the next unconsumed token
is the one behind it, or end-of-input again (an empty token, which stays in `next`). -/
theorem core_shift (hw : InputWF inp) {c c' : XCfg} (hn : XNextOk inp c) {evs : List TreeBuilder.Ev}
    (hc : Core (NOff inp c) c.stack evs) {tk : Tok} (ht : c.next = some tk) (hpos : c'.pos = c.pos)
    (hnext : c'.next = if tk.sym ≠ 0 then none else c.next) {q : Int}
    (hst : c'.stack = ⟨tk.sym, tk.off, tk.endo, q⟩ :: c.stack) :
    XNextOk inp c' ∧ Core (NOff inp c') c'.stack evs ∧ tk.endo ≤ NOff inp c' := by
  obtain ⟨ho, hle, hend, hz⟩ := next_facts hw hn ht
  rw [hst]
  by_cases hs : tk.sym ≠ 0
  · rw [if_pos hs] at hnext
    rw [NOff_none hnext, hpos]
    exact ⟨fun t h => (nomatch hnext.symm.trans h), hc.push _ (Nat.le_of_eq ho.symm) hle hend, hend⟩
  · rw [if_neg hs] at hnext
    have hn' : XNextOk inp c' := fun t h => hpos ▸ hn t (hnext ▸ h)
    have hemp : tk.endo ≤ NOff inp c := Nat.le_of_eq ((hz (by simpa using hs)).symm.trans ho)
    rw [(NOff_some hn' (hnext.trans ht)).trans ho]
    exact ⟨hn', hc.push _ (Nat.le_of_eq ho.symm) hle hemp, hemp⟩

theorem sinv_shift (hw : InputWF inp) {c c' : XCfg} (h : SInv inp c) {tk : Tok} (ht : c.next = some tk)
    (hpos : c'.pos = c.pos) (hnext : c'.next = if tk.sym ≠ 0 then none else c.next) {q : Int}
    (hst : c'.stack = ⟨tk.sym, tk.off, tk.endo, q⟩ :: c.stack) (hev : c'.evs = c.evs) : SInv inp c' := by
  obtain ⟨h1, h2, _⟩ := core_shift hw h.next_ok h.core ht hpos hnext hst
  exact ⟨h1, hev ▸ h2⟩

theorem sinv_xdecode {c c1 : XCfg} {a : Act} (h : SInv inp c)
    (hd : xdecode x inp c = some (c1, a)) : SInv inp c1 := by
  rcases xdecode_cases hd with rfl | rfl
  · exact h
  · exact sinv_fetch h

def PreOK (inp : Input) : XPre → Prop
  | .cont c => SInv inp c
  | .err c => SInv inp c
  | .done _ c => EInv inp c

theorem xreduceTail_ok (hx : XWF x) (hw : InputWF inp) {c2 : XCfg}
    (h : SInv inp c2) {rule : Int} {ln : Nat} {lhs : Int} {off endo : Nat} (hln : ln ≤ c2.stack.length)
    (hoff : RhsRange c2.stack ln (NOff inp c2) off endo) :
    PreOK inp (xreduceTail x c2 rule ln lhs off endo) := by
  unfold xreduceTail
  split
  · exact h.einv hw
  · next evs endo' happ =>
    have hcore : ∀ q, Core (NOff inp c2) (⟨lhs, off, endo', q⟩ :: c2.stack.drop ln)
        (nodeEvs (evs.reverse ++ c2.evs)) := fun q => by
      rw [nodeEvs_append, nodeEvs_reverse]
      exact reduce_core hx h.core hln hoff happ lhs q
    have heinv : EInv inp { c2 with evs := evs.reverse ++ c2.evs } :=
      ⟨_, tok_off_le_endOff (tok_off_mono hw) _, (hcore 0).evsOK⟩
    split
    · exact heinv
    · split
      · exact heinv
      · next q _ =>
        -- `.err` and `.cont` carry the same configuration
        split <;> exact ⟨h.next_ok, hcore q⟩

theorem xreducePre_ok (hx : XWF x) (hw : InputWF inp) {c1 : XCfg}
    (h : SInv inp c1) (rule : Int) : PreOK inp (xreducePre x inp c1 rule) := by
  fun_cases xreducePre x inp c1 rule
  -- an empty rule: the lookahead is fetched, the new entry sits at its offset
  case case2 ln lhs _ _ _ h0 =>
    refine xreduceTail_ok hx hw (sinv_fetch h) (by rw [h0]; exact Nat.zero_le _) ?_
    rw [fetch_tok h.next_ok]
    exact .empty h0 _
  -- a rule with a right-hand side
  case case3 ln lhs _ _ hle h0 =>
    refine xreduceTail_ok hx hw h (Nat.le_of_not_lt hle) ?_
    exact .popped h0 _
  all_goals exact h.einv hw

theorem preBody_ok (hx : XWF x) (hw : InputWF inp) {c1 : XCfg}
    (h : SInv inp c1) (a : Act) : PreOK inp (preBody x inp c1 a) := by
  cases a with
  | reduce rule => exact xreducePre_ok hx hw h rule
  | shift q =>
    cases ht : c1.next with
    | none => rw [preBody_shift_none ht]; exact h.einv hw
    | some tk => rw [preBody_shift ht]; exact sinv_shift hw h ht rfl rfl rfl rfl
  | error => exact ⟨h.next_ok, h.core⟩

theorem xpre_ok (hx : XWF x) (hw : InputWF inp) {c : XCfg}
    (h : SInv inp c) (k : Nat) : PreOK inp (xpre x inp k c) := by
  unfold xpre
  cases hd : xdecode x inp c with
  | none => exact h.einv hw
  | some p =>
    have h1 := sinv_xdecode (c1 := p.1) (a := p.2) h hd
    dsimp only
    split
    · exact SInv.einv hw (c := bump p.1) ⟨h1.next_ok, h1.core⟩
    · exact preBody_ok hx hw h1 p.2

/-- `skipBrokenCode` moves the cursor forward only: the stack and the events stay (so `Core s` does, for any `s`),
and the end of the last dropped token lies below the token it stops at -/
theorem skipBroken_sinv (hw : InputWF inp) (can : Int → Bool) {s : Nat} :
    ∀ (fuel : Nat) (c : XCfg) (e0 : Nat) {c1 : XCfg} {e1 : Nat}, skipBroken inp can fuel c e0 = (c1, e1) →
      SInv inp c → Core s c.stack (nodeEvs c.evs) →
      SInv inp c1 ∧ Core s c1.stack (nodeEvs c1.evs) ∧ NOff inp c ≤ NOff inp c1 ∧
      (e0 ≤ NOff inp c → e1 ≤ NOff inp c1) := by
  intro fuel
  induction fuel with
  | zero => intro c e0 c1 e1 h hs hcs; cases h; exact ⟨hs, hcs, Nat.le_refl _, id⟩
  | succ n ih =>
    intro c e0 c1 e1 h hs hcs
    have hs1 := sinv_fetch hs
    have hcs1 : Core s (c.fetch inp).1.stack (nodeEvs (c.fetch inp).1.evs) := by
      rw [LRX.fetch_stack, LRX.fetch_evs]; exact hcs
    have hN := NOff_fetch hs.next_ok
    have hnext := LRX.fetch_next inp c
    unfold skipBroken at h
    simp only at h
    split at h
    · obtain ⟨ho, hle, hend, _⟩ := next_facts hw hs1.next_ok hnext
      obtain ⟨i1, i2, i3, i4⟩ := ih _ _ h (sinv_dropNext hw hs1 hnext) hcs1
      exact ⟨i1, i2, Nat.le_trans (by rw [← hN, NOff_dropNext]; omega) i3, fun _ => i4 hend⟩
    · cases h
      exact ⟨hs1, hcs1, Nat.le_of_eq hN.symm, fun he => by rw [hN]; exact he⟩

/-- keeping the lowest `pos` entries and pushing one entry that spans from the start of `A`, the lowest
popped entry, to the end of the old top or further -/
theorem Core.cover {N s : Nat} {st : List Entry} {evs : List TreeBuilder.Ev} (hc : Core s st evs)
    (hsN : s ≤ N) {pos : Nat} {A T : Entry} (hA : st.reverse[pos]? = some A) (hT : st.head? = some T) (g : Entry)
    (hgo : g.off = A.off) (hge : (g.endo = T.endo ∨ s ≤ g.endo) ∧ g.endo ≤ N) :
    Core N (g :: (st.reverse.take pos).reverse) evs := by
  -- bottom first the stack is a `Chain`: `A` lies below the top, the kept entries below `A`
  have hC : Chain st.reverse :=
    ⟨List.pairwise_reverse.2 hc.chain, fun a ha => (hc.ent a (List.mem_reverse.1 ha)).1⟩
  have hT' : st.reverse[st.length - 1]? = some T := by
    rw [← List.length_reverse, ← List.getLast?_eq_getElem?, List.getLast?_reverse]; exact hT
  have hpos : pos < st.length := by simpa using (List.getElem?_eq_some_iff.1 hA).1
  have hAT := hC.le hA hT' (Nat.le_sub_one_of_lt hpos)
  have hAm := List.mem_reverse.1 (List.mem_of_getElem? hA)
  have hTm := List.mem_of_mem_head? hT
  have hTw := hc.ent T hTm
  have hkept := hC.ord
  rw [← List.take_append_drop pos st.reverse, List.pairwise_append] at hkept
  have key : (st.reverse.take pos).reverse = st.drop (st.length - pos) := by
    rw [List.take_reverse, List.reverse_reverse]
  rw [key]
  refine (hc.mono hsN).reduce _ g [] ⟨by omega, hge.2⟩ ?_ ?_ (by simp) (by simp) (by simp) .nil
  · intro e he
    rw [← key, List.mem_reverse] at he
    exact hgo ▸ hkept.2.2 e he A (List.mem_of_mem_head? (by rw [List.head?_drop]; exact hA))
  · intro p hp
    exact compatE_span (hc.evc p hp A hAm) (hc.evc p hp T hTm) (hc.evb p hp) (hc.ent A hAm).1 hTw.1 hgo hge.1

/-- `recoverFromError` replaces the entries above position `pos` (and the skipped tokens) by one
`error` entry; `s` is the offset of the token at which the error was detected. -/
theorem core_recover {N s : Nat} {st : List Entry} {evs : List TreeBuilder.Ev} (hc : Core s st evs)
    (e2 : Nat) (hse : s ≤ e2) (he2 : e2 ≤ N) (pos : Nat) (below : Entry)
    (hpos : st.reverse[pos - 1]? = some below) (sym q : Int) (se : Nat × Nat)
    (hrange : se = if pos < st.length then
        ((Option.map (fun x => x.off) st.reverse[pos]?).getD s,
          if s = e2 then (Option.map (fun x => x.endo) st.head?).getD e2 else e2)
      else (s, e2)) :
    Core N (⟨sym, se.fst, se.snd, q⟩ :: (st.reverse.take pos).reverse) evs := by
  subst hrange
  by_cases hp : pos < st.length
  · obtain ⟨A, hA⟩ : ∃ A, st.reverse[pos]? = some A := ⟨_, List.getElem?_eq_getElem (by simpa using hp)⟩
    obtain ⟨T, hT⟩ : ∃ T, st.head? = some T :=
      ⟨_, List.head?_eq_some_head (List.ne_nil_of_length_pos (Nat.zero_lt_of_lt hp))⟩
    have hTw := hc.ent T (List.mem_of_mem_head? hT)
    rw [if_pos hp, hA, hT]
    refine hc.cover (Nat.le_trans hse he2) hA hT _ rfl ?_
    dsimp only [Option.map_some, Option.getD_some]
    split
    · exact ⟨.inl rfl, Nat.le_trans hTw.2 (Nat.le_trans hse he2)⟩
    · exact ⟨.inr hse, he2⟩
  · -- nothing is popped
    have hlen : pos - 1 < st.length := by simpa using (List.getElem?_eq_some_iff.1 hpos).1
    obtain rfl : pos = st.length := by omega
    rw [if_neg hp, ← List.length_reverse, List.take_length, List.reverse_reverse]
    exact hc.push _ (Nat.le_refl _) hse he2

/-- the end of the error range after a round of skipping, the later of the old end `e` and the end `endoff` of the
last dropped token, stays between the start of the range and the token the skipping stopped at -/
theorem skipEnd_bounds {s e endoff N N1 : Nat} (hse : s ≤ e) (heN : e ≤ N) (hN : N ≤ N1) (hend : endoff ≤ N1) :
    s ≤ (if endoff > e then endoff else e) ∧ (if endoff > e then endoff else e) ≤ N1 := by
  split <;> omega

theorem recoverLoop_spec (hw : InputWF inp) {fin : Int} {rp : List Nat}
    (fuel : Nat) (c : XCfg) (syms : List Int) (s e : Nat) (c' : XCfg) :
      SInv inp c → Core s c.stack (nodeEvs c.evs) → s ≤ e → e ≤ NOff inp c →
      recoverLoop x inp fin rp fuel c syms s e = some (some c') → SInv inp c' := by
  fun_induction recoverLoop x inp fin rp fuel c syms s e
  -- no candidate position accepts the token: it stops being a recovery token and the loop goes round again
  case case5 fuel c syms s e c1 endoff hsk e' tk _ _ _ _ _ ih =>
    intro hs hcs hse heN
    obtain ⟨hs1, hcs1, hN1, hend⟩ := skipBroken_sinv hw _ _ _ _ hsk hs hcs
    obtain ⟨b1, b2⟩ := skipEnd_bounds hse heN hN1 (hend (Nat.zero_le _))
    exact ih hs1 hcs1 b1 b2
  -- position `pos` accepts it: the `error` entry replaces what lies above; `hse2 : … = (s2, e2)` is its range as
  -- `core_recover` reads it, `hbelow : c1.stack.reverse[pos - 1]? = some below`
  case case8 fuel c syms s e c1 endoff hsk e' tk _ _ _ _ pos _ s2 e2 hse2 below hbelow q _ _ =>
    intro hs hcs hse heN h
    obtain ⟨hs1, hcs1, hN1, hend⟩ := skipBroken_sinv hw _ _ _ _ hsk hs hcs
    obtain ⟨b1, b2⟩ := skipEnd_bounds hse heN hN1 (hend (Nat.zero_le _))
    cases h
    exact ⟨hs1.next_ok, show Core (NOff inp c1) _ _ from core_recover hcs1 e' b1 b2
      pos below hbelow _ q (s2, e2) hse2.symm⟩
  all_goals
    intro _ _ _ _ h
    cases h

theorem recoverFromError_spec (hw : InputWF inp) {fin : Int} (c c' : XCfg)
    (hs : SInv inp c) (h : recoverFromError x inp fin c = some (some c')) : SInv inp c' := by
  unfold recoverFromError at h
  simp only at h
  split at h
  · cases h
  · cases h
  · have hs1 := sinv_fetch hs
    have hoff := fetch_tok hs.next_ok
    refine recoverLoop_spec hw _ _ _ _ _ _ hs1 ?_ (Nat.le_refl _) ?_ h
    · rw [hoff]; exact hs1.core
    · rw [hoff]; exact Nat.le_refl _

def StepOK (inp : Input) : XStep → Prop := XStep.Holds (SInv inp) fun _ => EInv inp

theorem sinv_errPrelude {c : XCfg} (h : SInv inp c) : SInv inp (errPrelude inp c) := by
  unfold errPrelude
  split
  · have := sinv_fetch (inp := inp) h
    exact ⟨this.next_ok, this.core⟩
  · exact h

theorem onError_ok (hw : InputWF inp) (fin : Int) (stop : Bool) {c : XCfg}
    (h : SInv inp c) : StepOK inp (onError x inp fin stop c) := by
  cases hr : x.recovering
  · rw [onError_eq_norec inp fin stop c hr]
    exact (sinv_fetch h).einv hw
  · rw [onError_eq_rec inp fin stop c hr]
    have h1 := sinv_errPrelude (inp := inp) h
    have h2 : SInv inp { errPrelude inp c with recovering := 4 } := ⟨h1.next_ok, h1.core⟩
    split
    · exact h1.einv hw
    · split
      · exact h2.einv hw
      · exact h2.einv hw
      · next c3 hrec => exact recoverFromError_spec hw _ _ h2 hrec

theorem xstep_ok (hx : XWF x) (hw : InputWF inp) (fin : Int) (stop : Bool)
    (k : Nat) {c : XCfg} (h : SInv inp c) : StepOK inp (xstep x inp fin stop k c) := by
  rw [xstep_pre]
  have := xpre_ok hx hw h k
  cases hp : xpre x inp k c with
  | cont c' => rw [hp] at this; exact this
  | done r c' => rw [hp] at this; exact this
  | err c' => rw [hp] at this; exact onError_ok hw fin stop this

theorem xrunLoop_ok (hx : XWF x) (hw : InputWF inp) (fin : Int) (stop : Bool)
    (k fuel : Nat) (c : XCfg) (h : SInv inp c) : EInv inp (xrunLoop x inp fin stop k fuel c).2 :=
  xrunLoop_induct (P := SInv inp) (Q := fun _ => EInv inp) (fun _ h => h.einv hw) (fun _ h _ => h.einv hw)
    (fun _ h _ => xstep_ok hx hw fin stop k h) fuel c h

theorem EvsOK.wellNested {N n : Nat} {evs : List TreeBuilder.Ev} (h : EvsOK N evs) (hN : N ≤ n) :
    WellNested n evs.reverse :=
  ⟨fun e he => ⟨(h.evb e (List.mem_reverse.1 he)).1, Nat.le_trans (h.evb e (List.mem_reverse.1 he)).2 hN⟩,
   List.pairwise_reverse.2 h.pw⟩

theorem einv_wellNested {c : XCfg} (h : EInv inp c) :
    WellNested inp.endOff (listenerStream c) := by
  obtain ⟨N, hN, hev⟩ := h
  unfold listenerStream
  rw [nodeEvs_reverse]
  exact hev.wellNested hN

/-- Every run of the extended runtime model — any fuel, with or without error recovery, cancelled or
not — reports a well-nested listener stream, for tables whose reports are listed inner first and
tokens in source order. -/
theorem xrun_wellNested (hx : XWF x) (hw : InputWF inp) (input : Nat)
    (stop : Bool) (cancelAt fuel : Nat) :
    WellNested inp.endOff (listenerStream (xrun x inp input stop cancelAt fuel).2) := by
  unfold xrun
  split
  · exact einv_wellNested ((sinv_init inp _).einv hw)
  · exact einv_wellNested (xrunLoop_ok hx hw _ stop cancelAt fuel _ (sinv_init inp _))

end TmVerif.EventNesting
