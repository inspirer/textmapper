import TmVerif.Model.TableWidth
/-! C17 (table widths): `bits i` is the narrowest of the widths 8/16/32 that holds `i`; the loop of `bitsPerElement`
returns the maximum of the elements' widths (`bpeLoop_max`). -/
namespace TmVerif.TableWidth

/-- `bits` read once: each width with the condition under which it is chosen. -/
theorem bits_spec (i : Int) : bits i = 8 ∧ ¬ (i < -128 ∨ i > 127) ∨
    bits i = 16 ∧ (i < -128 ∨ i > 127) ∧ ¬ (i < -32768 ∨ i > 32767) ∨ bits i = 32 ∧ (i < -32768 ∨ i > 32767) := by
  unfold bits
  simp only [Bool.or_eq_true, decide_eq_true_eq]
  split
  · next h1 =>
    split
    · next h2 => exact .inr (.inr ⟨rfl, h2⟩)
    · next h2 => exact .inr (.inl ⟨rfl, h1, h2⟩)
  · next h1 => exact .inl ⟨rfl, h1⟩

theorem fitsSigned_iff {w : Nat} {i : Int} :
    fitsSigned w i = true ↔ -(2 ^ (w - 1) : Int) ≤ i ∧ i < 2 ^ (w - 1) := by
  simp only [fitsSigned, Bool.and_eq_true, decide_eq_true_eq]

theorem fitsSigned_mono {w w' : Nat} (hle : w ≤ w') (i : Int) (h : fitsSigned w i = true) :
    fitsSigned w' i = true := by
  have hp : (2 : Int) ^ (w - 1) ≤ 2 ^ (w' - 1) := by
    have := Nat.pow_le_pow_right (by decide : 0 < 2) (Nat.sub_le_sub_right hle 1)
    exact_mod_cast this
  rw [fitsSigned_iff] at h ⊢
  omega

theorem bits_fits (i : Int) (h : fitsSigned 32 i = true) : fitsSigned (bits i) i = true := by
  rw [fitsSigned_iff] at h ⊢
  rcases bits_spec i with ⟨e, _⟩ | ⟨e, _⟩ | ⟨e, _⟩ <;> rw [e] <;> omega

theorem bits_le_of_fits {w : Nat} {i : Int} (hw : w = 8 ∨ w = 16) (h : fitsSigned w i = true) : bits i ≤ w := by
  rw [fitsSigned_iff] at h
  rcases hw with rfl | rfl <;> rcases bits_spec i with ⟨e, _⟩ | ⟨e, _⟩ | ⟨e, _⟩ <;> omega

theorem bits_vals (i : Int) : bits i = 8 ∨ bits i = 16 ∨ bits i = 32 :=
  (bits_spec i).imp And.left (Or.imp And.left And.left)

theorem bpeLoop_cons (i : Int) (rest : List Int) (ret : Nat) :
    bpeLoop (i :: rest) ret =
      if bits i = 32 then 32 else if bits i = 16 then bpeLoop rest 16 else bpeLoop rest ret := by
  rw [bpeLoop]
  fun_cases bits i <;> simp [*]

theorem bpeLoop_max (arr : List Int) (ret : Nat) (hr : ret = 8 ∨ ret = 16) :
    (bpeLoop arr ret = ret ∨ ∃ i ∈ arr, bpeLoop arr ret = bits i) ∧ ret ≤ bpeLoop arr ret ∧
      ∀ i ∈ arr, bits i ≤ bpeLoop arr ret := by
  induction arr generalizing ret with
  | nil => exact ⟨.inl rfl, Nat.le_refl _, nofun⟩
  | cons i rest ih =>
    simp only [List.mem_cons, forall_eq_or_imp, exists_eq_or_imp]
    rcases bits_vals i with e | e | e
    · have hc : bpeLoop (i :: rest) ret = bpeLoop rest ret := by rw [bpeLoop_cons, e]; rfl
      obtain ⟨h1, h2, h3⟩ := ih ret hr
      rw [hc, e]
      exact ⟨h1.imp_right .inr, h2, by omega, h3⟩
    · have hc : bpeLoop (i :: rest) ret = bpeLoop rest 16 := by rw [bpeLoop_cons, e]; rfl
      obtain ⟨h1, h2, h3⟩ := ih 16 (.inr rfl)
      rw [hc, e]
      exact ⟨.inr (h1.imp_right id), by omega, h2, h3⟩
    · have hc : bpeLoop (i :: rest) ret = 32 := by rw [bpeLoop_cons, e]; rfl
      rw [hc, e]
      exact ⟨.inr (.inl rfl), by omega, Nat.le_refl _, fun j _ => by rcases bits_vals j with h | h | h <;> omega⟩

theorem bitsPerElement_max (arr : List Int) :
    (bitsPerElement arr = 8 ∨ ∃ i ∈ arr, bitsPerElement arr = bits i) ∧ ∀ i ∈ arr, bits i ≤ bitsPerElement arr :=
  ⟨(bpeLoop_max arr 8 (.inl rfl)).1, (bpeLoop_max arr 8 (.inl rfl)).2.2⟩

end TmVerif.TableWidth
