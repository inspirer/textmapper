/-
The viable-prefix certificate `viableOk`: productive nonterminals, the semantic notion "item valid
for the consumed word" (start, goto, closure), and the invariant of the run — the stack is
built along relevant transitions only (`VInv`, the soundness invariant over `RelEdge`), so the
consumed word is a prefix of a word of the language.
-/
import TmVerif.Model.LRViable
import TmVerif.Proofs.LRCompleteStep
import TmVerif.Proofs.LRSoundAccept
namespace TmVerif.LRViable
open TmVerif.LR TmVerif.CFG TmVerif.LRSound TmVerif.LRRef
open TmVerif.LRComplete (rhsOf_rule drop_eq_cons_iff)

variable {g : Grammar} {t : Tables} {cert : Cert} {vc : VCert} {i : Nat} {inp : Input}
  {order : List Nat}

theorem seq_prod : ∀ (α : List Nat), (∀ s ∈ α, ∃ w, Derives g s w) →
    ∃ u, DerivesSeq g α u
  | [], _ => ⟨[], .nil⟩
  | X :: α, h => by
    obtain ⟨w, hw⟩ := h X (by simp)
    obtain ⟨u, hu⟩ := seq_prod α (fun s hs => h s (by simp [hs]))
    exact ⟨w ++ u, .cons X α w u hw hu⟩

theorem hasProdRule_sound {pre : List Nat} {X : Nat} (h : hasProdRule g pre X = true)
    (hpre : ∀ Y ∈ pre, ∃ w, Derives g Y w) : ∃ w, Derives g X w := by
  unfold hasProdRule at h
  rw [List.any_eq_true] at h
  obtain ⟨r, hr, h⟩ := h
  simp only [Bool.and_eq_true, beq_iff_eq, List.all_eq_true, Bool.or_eq_true,
    decide_eq_true_eq] at h
  obtain ⟨hl, hall⟩ := h
  obtain ⟨u, hu⟩ := seq_prod (g := g) r.rhs (by
    intro s hs
    rcases hall s hs with h1 | h1
    · exact ⟨[s], .term s h1⟩
    · exact hpre s (by simpa using h1))
  exact ⟨u, hl ▸ Derives.rule r u hr hu⟩

theorem prodFrom_sound : ∀ (order pre : List Nat), prodFrom g pre order = true →
    (∀ Y ∈ pre, ∃ w, Derives g Y w) → ∀ X ∈ order, ∃ w, Derives g X w
  | [], _, _, _ => fun _ hX => by cases hX
  | Y :: rest, pre, h, hpre => by
    rw [prodFrom, Bool.and_eq_true] at h
    have hY := hasProdRule_sound h.1 hpre
    exact List.forall_mem_cons.mpr
      ⟨hY, prodFrom_sound rest (Y :: pre) h.2 (List.forall_mem_cons.mpr ⟨hY, hpre⟩)⟩

theorem productive_sym (h : productiveOk g order = true) {X : Nat} (h2 : X < g.nSyms) :
    ∃ w, Derives g X w := by
  rcases Nat.lt_or_ge X g.nTerms with h1 | h1
  · exact ⟨[X], .term X h1⟩
  · unfold productiveOk at h
    rw [Bool.and_eq_true, List.all_eq_true] at h
    have hm := h.2 (X - g.nTerms) (List.mem_range.mpr (Nat.sub_lt_sub_right h1 h2))
    rw [Nat.add_sub_cancel' h1] at hm
    exact prodFrom_sound order [] h.1 (fun _ h => by cases h) X (by simpa using hm)

theorem rhsOf_syms (hwf : WfFacts g) (r : Nat) : ∀ s ∈ rhsOf g r, s < g.nSyms := by
  -- a grammar rule; the augmented rule of an input with, without end-of-input; of no input
  fun_cases rhsOf g r
  case case1 hlt =>
    rw [Array.getElem?_eq_getElem hlt]
    exact fun s hs => ((hwf.rules g.rules[r] (by simp)).2.2 s hs).2
  case case2 inp hinp _ =>
    exact List.forall_mem_cons.mpr ⟨(hwf.inputs inp (mem_toList_of_getElem? hinp)).2,
      List.forall_mem_singleton.mpr (Nat.lt_of_lt_of_le hwf.nTermsPos hwf.le)⟩
  case case3 inp hinp _ =>
    exact List.forall_mem_singleton.mpr (hwf.inputs inp (mem_toList_of_getElem? hinp)).2
  case case4 => nofun

theorem productive_rest (hwf : WfFacts g) (h : productiveOk g order = true) (r n : Nat) :
    ∃ u, DerivesSeq g ((rhsOf g r).drop n) u :=
  seq_prod _ fun s hs => productive_sym h (rhsOf_syms hwf r s (List.mem_of_mem_drop hs))

structure ViableFacts (g : Grammar) (t : Tables) (vc : VCert) : Prop where
  wf : g.wf = true
  prod : productiveOk g vc.order = true
  entry : ∀ s, s < g.inputs.size →
    (g.rules.size + s, 0) ∈ itemsOf vc s ∧ ∀ it ∈ itemsOf vc s, it.2 = 0
  just : ∀ s, justFrom g s [] (itemsOf vc s) = true
  edges : ∀ p X q, (p, X, q) ∈ edges t → relevant g vc p X = true → kernelOk g vc p X q = true
  red : ∀ s, s < t.nStates → reduceOk g t vc s = true

theorem viableFacts (h : viableOk g t vc = true) : ViableFacts g t vc := by
  unfold viableOk at h
  simp only [Bool.and_eq_true, List.all_eq_true, List.mem_range] at h
  obtain ⟨⟨⟨⟨⟨h1, h2⟩, h3⟩, h4⟩, h5⟩, h6⟩ := h
  refine ⟨h1, h2, ?_, ?_, ?_, h6⟩
  · intro s hs
    have := List.all_eq_true.mp h3 s (List.mem_range.mpr hs)
    simpa using this
  · intro s
    rcases Nat.lt_or_ge s vc.items.size with h | h
    · exact h4 s h
    · unfold itemsOf
      rw [Array.getD_eq_getD_getElem?, Array.getElem?_eq_none h]
      rfl
  · intro p X q hm hrel
    have := List.all_eq_true.mp h5 (p, X, q) hm
    simpa [hrel] using this

theorem kernelOk_elim {p X : Nat} {q : Int} (h : kernelOk g vc p X q = true) :
    itemsOf vc q.toNat ≠ [] ∧ ∀ r d, (r, d + 1) ∈ itemsOf vc q.toNat →
      (rhsOf g r)[d]? = some X ∧ (r, d) ∈ itemsOf vc p := by
  unfold kernelOk at h
  simp only [Bool.and_eq_true, Bool.not_eq_true', List.isEmpty_eq_false_iff,
    List.all_eq_true, Bool.or_eq_true, beq_iff_eq, List.contains_iff_mem] at h
  refine ⟨h.1.2, fun r d hm => ?_⟩
  rcases h.2 (r, d + 1) hm with h' | h'
  · exact absurd h' (Nat.succ_ne_zero d)
  · exact h'

/-- (J): an item with dot 0 of a grammar rule has an item asking for its left-hand side -/
theorem justFrom_mem {s : Nat} : ∀ (l pre : List Item),
    justFrom g s pre l = true → ∀ r rule, (r, 0) ∈ l → g.rules[r]? = some rule →
    ∃ p ∈ pre ++ l, symAfterDot g p = some rule.lhs
  | [], _, _, _, _, hm, _ => by cases hm
  | x :: rest, pre, h, r, rule, hm, hr => by
    rw [justFrom, Bool.and_eq_true] at h
    rcases List.mem_cons.mp hm with rfl | e
    · have h1 := h.1
      simp only [bne_self_eq_false, Bool.false_or, hr, List.any_eq_true, beq_iff_eq] at h1
      obtain ⟨p, hp, hs⟩ := h1
      exact ⟨p, List.mem_append_left _ hp, hs⟩
    · obtain ⟨p, hp, hs⟩ := justFrom_mem rest (x :: pre) h.2 r rule e hr
      exact ⟨p, List.perm_middle.mem_iff.mpr hp, hs⟩

def Lang (g : Grammar) (i : Nat) (x : List Nat) : Prop :=
  DerivesSeq g (rhsOf g (g.rules.size + i)) x

/-- `[A → α . β]` is valid for the consumed word `w`: whatever `β` derives, `w` followed by it can
be completed to a word of the language -/
def Valid (g : Grammar) (i : Nat) (it : Item) (w : List Nat) : Prop :=
  ∀ v, DerivesSeq g ((rhsOf g it.1).drop it.2) v → ∃ z, Lang g i (w ++ v ++ z)

theorem valid_start (g : Grammar) (i : Nat) : Valid g i (g.rules.size + i, 0) [] :=
  fun v hv => ⟨[], by simpa [Lang] using hv⟩

theorem valid_goto {r d X : Nat} {w y : List Nat}
    (h : Valid g i (r, d) w) (hx : (rhsOf g r)[d]? = some X) (hy : Derives g X y) :
    Valid g i (r, d + 1) (w ++ y) := by
  intro v hv
  obtain ⟨z, hz⟩ := h (y ++ v) (by
    show DerivesSeq g ((rhsOf g r).drop d) (y ++ v)
    rw [drop_eq_cons_iff.2 ⟨hx, rfl⟩]
    exact .cons X _ y v hy hv)
  exact ⟨z, by rwa [List.append_assoc w y v]⟩

theorem valid_clos (hwf : WfFacts g) (hp : productiveOk g order = true) {p : Item} {w : List Nat}
    (h : Valid g i p w) {r' : Nat} {rule : Rule} (hr : g.rules[r']? = some rule)
    (hx : symAfterDot g p = some rule.lhs) : Valid g i (r', 0) w := by
  intro v (hv : DerivesSeq g (rhsOf g r') v)
  rw [rhsOf_rule hr] at hv
  obtain ⟨ub, hub⟩ := productive_rest hwf hp p.1 (p.2 + 1)
  obtain ⟨z, hz⟩ := h (v ++ ub) (by
    rw [drop_eq_cons_iff.2 ⟨hx, rfl⟩]
    exact .cons _ _ _ _ (.rule rule v (mem_toList_of_getElem? hr) hv) hub)
  exact ⟨ub ++ z, by simpa [List.append_assoc] using hz⟩

theorem valid_prefix (hwf : WfFacts g) (hp : productiveOk g order = true) {p : Item}
    {w : List Nat} (h : Valid g i p w) : ∃ z, Lang g i (w ++ z) := by
  obtain ⟨ub, hub⟩ := productive_rest hwf hp p.1 p.2
  obtain ⟨z, hz⟩ := h ub hub
  exact ⟨ub ++ z, by rwa [← List.append_assoc]⟩

theorem justFrom_valid {s : Nat} (hwf : WfFacts g) (hp : productiveOk g order = true)
    {w : List Nat} (hentry : s < g.inputs.size → s = i ∧ w = []) : ∀ (l pre : List Item),
    justFrom g s pre l = true → (∀ p ∈ pre, Valid g i p w) →
    (∀ r d, (r, d + 1) ∈ l → Valid g i (r, d + 1) w) → ∀ it ∈ l, Valid g i it w
  | [], _, _, _, _ => fun _ hm => by cases hm
  | (r, d) :: rest, pre, h, hpre, hker => by
    rw [justFrom, Bool.and_eq_true] at h
    have hx : Valid g i (r, d) w := by
      cases d with
      | succ d => exact hker r d List.mem_cons_self
      | zero =>
        have h1 := h.1
        simp only [bne_self_eq_false, Bool.false_or] at h1
        cases hr : g.rules[r]? with
        | some rule =>
          simp only [hr, List.any_eq_true, beq_iff_eq] at h1
          obtain ⟨p, hpm, hs⟩ := h1
          exact valid_clos hwf hp (hpre p hpm) hr hs
        | none =>
          simp only [hr, Bool.and_eq_true, beq_iff_eq, decide_eq_true_eq] at h1
          obtain ⟨rfl, rfl⟩ := hentry h1.2
          rw [h1.1]
          exact valid_start g _
    exact List.forall_mem_cons.mpr ⟨hx, justFrom_valid hwf hp hentry rest _ h.2
      (List.forall_mem_cons.mpr ⟨hx, hpre⟩) fun r d hm => hker r d (List.mem_cons_of_mem _ hm)⟩

/-- the transitions that matter: a terminal shift, or a goto on a nonterminal that some item of the
source state has after its dot (the displacement encoding answers gotos no reduction asks for) -/
def RelEdge (g : Grammar) (t : Tables) (vc : VCert) (p X : Nat) (q : Int) : Prop :=
  Edge t p X q ∧ relevant g vc p X = true

section stack
variable (hc : CertFacts g t cert) (hv : ViableFacts g t vc) (hi : i < g.inputs.size)
  {stk : List Entry} {s : Nat} {syms : List Int} {w : List Nat}
include hv

/-- a relevant transition has passed (K) -/
theorem RelEdge.kernel {p X q : Nat} (h : RelEdge g t vc p X q) :
    itemsOf vc q ≠ [] ∧ ∀ r d, (r, d + 1) ∈ itemsOf vc q →
      (rhsOf g r)[d]? = some X ∧ (r, d) ∈ itemsOf vc p := by
  have hk := kernelOk_elim (hv.edges p X q (edge_mem h.1) h.2)
  rwa [Int.toNat_natCast] at hk

include hc hi

theorem stack_valid (h : Stack g (RelEdge g t vc) i stk s syms w) :
    itemsOf vc s ≠ [] ∧ ∀ it ∈ itemsOf vc s, Valid g i it w := by
  have hwf := wfFacts hv.wf
  induction h with
  | base he =>
    have hent := hv.entry i hi
    exact ⟨List.ne_nil_of_mem hent.1,
      justFrom_valid hwf hv.prod (fun _ => ⟨rfl, rfl⟩) _ [] (hv.just i) (fun _ h => by cases h)
        fun r d hm => absurd (hent.2 _ hm) (Nat.succ_ne_zero d)⟩
  | push _ _ _ hE hD ih =>
    obtain ⟨hne, hker⟩ := hE.kernel hv
    obtain ⟨q', hq', hq1, _, _⟩ := edgeOk_elim (edge_ok hc hE.1)
    refine ⟨hne, justFrom_valid hwf hv.prod
      (fun hlt => absurd (Int.ofNat.inj hq' ▸ hlt) (Nat.not_lt.mpr hq1)) _ [] (hv.just _)
      (fun _ h => by cases h) fun r d hm => ?_⟩
    obtain ⟨hx, hpm⟩ := hker r d hm
    exact valid_goto (ih.2 _ hpm) hx hD

omit hc in
theorem traceback (h : Stack g (RelEdge g t vc) i stk s syms w) :
    ∀ (r d n : Nat), (r, d + n) ∈ itemsOf vc s →
      ∃ e rest, stk.drop n = e :: rest ∧ (r, d) ∈ itemsOf vc e.state.toNat := by
  induction h with
  | base he =>
    intro r d n hm
    have h0 : d + n = 0 := (hv.entry i hi).2 _ hm
    obtain rfl : n = 0 := Nat.eq_zero_of_add_eq_zero_left h0
    exact ⟨_, [], rfl, by rw [he, Int.toNat_natCast]; exact hm⟩
  | push _ _ hq hE _ ih =>
    intro r d n hm
    cases n with
    | zero => exact ⟨_, _, rfl, by rw [hq, Int.toNat_natCast]; exact hm⟩
    | succ n' => exact ih r d n' ((hE.kernel hv).2 r (d + n') hm).2

end stack

theorem reduceOk_elim {s : Nat} (h : reduceOk g t vc s = true) {a : Option Nat} {r : Int}
    (hm : (a, some (Act.reduce r)) ∈ stateActs t s) :
    0 ≤ r ∧ (r.toNat, (rhsOf g r.toNat).length) ∈ itemsOf vc s := by
  unfold reduceOk at h
  rw [List.all_eq_true] at h
  have := h _ hm
  simpa using this

def VInv (g : Grammar) (t : Tables) (vc : VCert) (i : Nat) (inp : Input) (c : Cfg) : Prop :=
  StackInv g (RelEdge g t vc) i inp c

section inv
variable (hc : CertFacts g t cert) (hv : ViableFacts g t vc) (htok : TokOk t inp)
  (hi : i < g.inputs.size)
include hc hv htok hi

/-- the transition a step takes is relevant: a shift takes a terminal; the complete item of a
reduced rule leads back to an item asking for its left-hand side -/
theorem step_vinv (c c' : Cfg) (h : VInv g t vc i inp c) (hs : step t inp c = .cont c') :
    VInv g t vc i inp c' := by
  obtain ⟨s0, syms, hstk, hst, hn⟩ := h
  have hm := step_move (justified hc) (decodeOk hc htok) htok hi (hstk.mono And.left) hst hn
  rw [hs] at hm
  obtain ⟨hn', c1, act, p, X, q, hd, hm⟩ := hm
  refine hm.inv (justified hc) And.left hi hstk ⟨hm.edge, ?_⟩ hn'
  unfold relevant
  cases hm with
  | shift ha => simp [hc.nTerms ▸ ha]
  | @reduce r rule top _ _ _ _ _ _ hrule hdrop hts =>
    have hlt := (hstk.mono And.left).lt (justified hc) hi
    obtain ⟨_, _, _, _, hmem, _, hd'⟩ := decode_cert hc htok hlt hst hn
    cases hd'.symm.trans hd
    obtain ⟨_, hitem⟩ := reduceOk_elim (hv.red s0 hlt) hmem
    rw [rhsOf_rule hrule] at hitem
    obtain ⟨e, rest', hdrop', hm0⟩ := traceback hv hi hstk r.toNat 0 rule.rhs.length
      (by rw [Nat.zero_add]; exact hitem)
    cases hdrop.symm.trans hdrop'
    obtain ⟨p0, hp, hsym'⟩ := justFrom_mem _ [] (hv.just top.state.toNat) _ rule hm0 hrule
    rw [hts, Int.toNat_natCast] at hp
    simp only [Bool.or_eq_true, List.any_eq_true, beq_iff_eq]
    exact Or.inr ⟨p0, hp, hsym'⟩

omit htok in
theorem vinv_prefix (c : Cfg) (h : VInv g t vc i inp c) :
    ∃ z, Lang g i (consumed inp (nshift c.evs) ++ z) := by
  obtain ⟨s, syms, hstk, _, _⟩ := h
  obtain ⟨hne, hval⟩ := stack_valid hc hv hi hstk
  obtain ⟨it, rest, hl⟩ := List.exists_cons_of_ne_nil hne
  exact valid_prefix (wfFacts hv.wf) hv.prod (hval it (by rw [hl]; exact List.mem_cons_self))

end inv

end TmVerif.LRViable
