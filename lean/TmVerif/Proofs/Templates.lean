/-
C14, instantiation. `check` computes the boolean semantics of predicates, `resolveArgs` the environment of a
reference; the rules of the instantiated grammar are those of the enabled alternatives of each instance, so an
instance derives what its template derives under its argument values (both directions).
-/
import TmVerif.Model.Templates
import TmVerif.Proofs.Basic
import TmVerif.Proofs.CFG
namespace TmVerif.Templates
open TmVerif.CFG

theorem forall2_mem' {α β : Type} {R : α → β → Prop} :
    ∀ {l : List α} {l' : List β}, All2 R l l' → ∀ y ∈ l', ∃ x ∈ l, R x y :=
  fun h => All2.mem h.flip

theorem DerSeq.nil_inv {imp : Implicit} {g : TGrammar} {N : Nat} {env : Env} {first : Bool} {w : List Nat}
    (h : DerSeq imp g N env first [] w) : w = [] := by
  cases h; rfl

section
variable {imp : Implicit} {g : TGrammar} {N : Nat} {env : Env} {first : Bool} {w : List Nat}

theorem Der.inv (h : Der imp g N env w) :
    ∃ nt a, g.nts[N]? = some nt ∧ a ∈ nt.alts ∧ a.enabled env = true ∧ DerSeq imp g N env true a.rhs w := by
  cases h with
  | alt _ _ nt a _ hnt ha hen hs => exact ⟨nt, a, hnt, ha, hen, hs⟩

theorem DerSeq.t_inv {a : Nat} {rest : List Sym} (h : DerSeq imp g N env first (.t a :: rest) w) :
    ∃ v, w = a :: v ∧ a < g.nTerms ∧ DerSeq imp g N env false rest v := by
  cases h with
  | t _ _ _ _ _ v ha hr => exact ⟨v, rfl, ha, hr⟩

theorem DerSeq.n_inv {m : Nat} {args : List Arg} {rest : List Sym}
    (h : DerSeq imp g N env first (.n m args :: rest) w) :
    ∃ u v, w = u ++ v ∧ Der imp g m (callEnv imp N first m env args) u ∧ DerSeq imp g N env false rest v := by
  cases h with
  | n _ _ _ _ _ _ u v hd hr => exact ⟨u, v, rfl, hd, hr⟩

end

theorem TGrammar.ntParams_eq {g : TGrammar} {N : Nat} {nt : Nonterm} (h : g.nts[N]? = some nt) :
    g.ntParams N = nt.params := by
  rw [TGrammar.ntParams, h]

theorem lookupB_envOf {ctx : Bound} {p : Nat} {v : Val} (h : lookupB ctx p = some v) : envOf ctx p = v := by
  simp [envOf, h]

mutual
theorem check_eval (ctx : Bound) : ∀ (p : Pred) (b : Bool), check ctx p = some b → p.eval (envOf ctx) = b
  | .eq p v, b, h => by
    obtain ⟨x, hx, rfl⟩ := Option.map_eq_some_iff.1 h
    exact congrArg (· == v) (lookupB_envOf hx)
  | .not a, b, h => by
    obtain ⟨x, hx, rfl⟩ := Option.map_eq_some_iff.1 h
    exact congrArg (!·) (check_eval ctx a x hx)
  | .and l, b, h => checkAnd_eval ctx l b h
  | .or l, b, h => checkOr_eval ctx l b h
theorem checkAnd_eval (ctx : Bound) : ∀ (l : List Pred) (b : Bool), checkAnd ctx l = some b → Pred.evalAll (envOf ctx) l = b
  | [], _, h => Option.some.inj h
  | a :: l, b, h => by
    rw [checkAnd] at h
    cases hc : check ctx a with
    | none => rw [hc] at h; cases h
    | some x =>
      rw [hc] at h
      rw [Pred.evalAll, check_eval ctx a x hc]
      -- `checkAnd` returns at the first `false`, as `&&` does
      cases x with
      | false => exact Option.some.inj h
      | true => exact checkAnd_eval ctx l b h
theorem checkOr_eval (ctx : Bound) : ∀ (l : List Pred) (b : Bool), checkOr ctx l = some b → Pred.evalAny (envOf ctx) l = b
  | [], _, h => Option.some.inj h
  | a :: l, b, h => by
    rw [checkOr] at h
    cases hc : check ctx a with
    | none => rw [hc] at h; cases h
    | some x =>
      rw [hc] at h
      rw [Pred.evalAny, check_eval ctx a x hc]
      cases x with
      | true => exact Option.some.inj h
      | false => exact checkOr_eval ctx l b h
end

mutual
theorem check_isSome (ctx : Bound) : ∀ (p : Pred), (∀ q ∈ p.params, (lookupB ctx q).isSome) → (check ctx p).isSome
  | .eq p _, h => Option.isSome_map.trans (h p (List.mem_singleton_self p))
  | .not a, h => Option.isSome_map.trans (check_isSome ctx a h)
  | .and l, h => checkAnd_isSome ctx l h
  | .or l, h => checkOr_isSome ctx l h
theorem checkAnd_isSome (ctx : Bound) : ∀ (l : List Pred), (∀ q ∈ Pred.paramsL l, (lookupB ctx q).isSome) → (checkAnd ctx l).isSome
  | [], _ => rfl
  | a :: l, h => by
    have h1 := check_isSome ctx a (fun q hq => h q (List.mem_append_left _ hq))
    have h2 := checkAnd_isSome ctx l (fun q hq => h q (List.mem_append_right _ hq))
    rw [checkAnd]
    cases hc : check ctx a with
    | none => rw [hc] at h1; cases h1
    | some x => cases x <;> simp [h2]
theorem checkOr_isSome (ctx : Bound) : ∀ (l : List Pred), (∀ q ∈ Pred.paramsL l, (lookupB ctx q).isSome) → (checkOr ctx l).isSome
  | [], _ => rfl
  | a :: l, h => by
    have h1 := check_isSome ctx a (fun q hq => h q (List.mem_append_left _ hq))
    have h2 := checkOr_isSome ctx l (fun q hq => h q (List.mem_append_right _ hq))
    rw [checkOr]
    cases hc : check ctx a with
    | none => rw [hc] at h1; cases h1
    | some x => cases x <;> simp [h2]
end

theorem checkAlt_enabled {ctx : Bound} {a : Alt} {b : Bool} (h : checkAlt ctx a = some b) :
    a.enabled (envOf ctx) = b := by
  unfold checkAlt at h
  unfold Alt.enabled
  cases hp : a.pred with
  | none => rw [hp] at h; exact Option.some.inj h
  | some p => rw [hp] at h; exact check_eval ctx p b h

theorem Alt.enabled_congr {a a' : Alt} {e e' : Env} (hp : a.pred = a'.pred)
    (he : ∀ p, a.pred = some p → p.eval e = p.eval e') : a.enabled e = a'.enabled e' := by
  unfold Alt.enabled
  rw [← hp]
  cases hpa : a.pred with
  | none => rfl
  | some p => exact he p hpa

theorem enabledAlts_spec {ctx : Bound} {l alts : List Alt} (h : enabledAlts ctx l = some alts) :
    (∀ a ∈ l, ∃ b, checkAlt ctx a = some b) ∧ alts = l.filter (checkAlt ctx · == some true) := by
  fun_induction enabledAlts ctx l generalizing alts with
  | case1 => cases h; exact ⟨fun _ h => (nomatch h), rfl⟩
  | case2 a l hc => cases h
  | case3 a l hc ih =>
    obtain ⟨r, hr, rfl⟩ := Option.map_eq_some_iff.1 h
    obtain ⟨ih, rfl⟩ := ih hr
    exact ⟨List.forall_mem_cons.2 ⟨⟨_, hc⟩, ih⟩, by simp [List.filter, hc]⟩
  | case4 a l hc ih =>
    obtain ⟨ih, rfl⟩ := ih h
    exact ⟨List.forall_mem_cons.2 ⟨⟨_, hc⟩, ih⟩, by simp [List.filter, hc]⟩

theorem findArg_cons (a : Arg) (l : List Arg) (p : Nat) :
    findArg (a :: l) p = if a.param = p then some a.v else findArg l p := by
  by_cases h : a.param = p
  · simp [findArg, List.find?, h]
  · have : (a.param == p) = false := by simpa using h
    simp [findArg, List.find?, h, this]

theorem lookupB_cons (q : Nat) (v : Val) (b : Bound) (p : Nat) :
    lookupB ((q, v) :: b) p = if q = p then some v else lookupB b p := by
  by_cases h : q = p
  · simp [lookupB, List.find?, h]
  · have : (q == p) = false := by simpa using h
    simp [lookupB, List.find?, h, this]

theorem resolveArg_eq {ctx : Bound} {a : Arg} {x : Nat × Val} (h : resolveArg ctx a = some x) :
    x = (a.param, a.v.get (envOf ctx)) := by
  unfold resolveArg at h
  cases hv : a.v with
  | value v => rw [hv] at h; exact (Option.some.inj h).symm
  | takeFrom q =>
    rw [hv] at h
    obtain ⟨v, hq, rfl⟩ := Option.map_eq_some_iff.1 h
    rw [ArgV.get, lookupB_envOf hq]

theorem resolveArgs_env {ctx : Bound} (N : Nat) (f : Bool) (m : Nat) {args : List Arg} {b : Bound}
    (h : resolveArgs ctx args = some b) : envOf b = callEnv noImp N f m (envOf ctx) args := by
  fun_induction resolveArgs ctx args generalizing b with
  | case1 => cases h; rfl
  | case2 a l x xs h2 h1 ih =>
    cases h
    cases resolveArg_eq h1
    funext p
    have ih := congrFun (ih h2) p
    unfold envOf callEnv at ih ⊢
    rw [lookupB_cons, findArg_cons]
    by_cases hp : a.param = p
    · rw [if_pos hp, if_pos hp]; rfl
    · rw [if_neg hp, if_neg hp]; exact ih
  | case3 => cases h

theorem indexOf_get {k : Inst} {l : List Inst} {j : Nat} (h : indexOf k l = some j) : l[j]? = some k := by
  fun_induction indexOf k l generalizing j with
  | case1 => cases h
  | case2 l => cases h; rfl
  | case3 x l hx ih =>
    obtain ⟨j', hj', rfl⟩ := Option.map_eq_some_iff.1 h
    exact ih hj'

theorem indexOf_of_mem {k : Inst} : ∀ {l : List Inst}, k ∈ l → ∃ j, indexOf k l = some j := by
  intro l h
  fun_induction indexOf k l with
  | case1 => cases h
  | case2 l => exact ⟨0, rfl⟩
  | case3 x l hx ih =>
    obtain ⟨j, hj⟩ := ih ((List.mem_cons.1 h).resolve_left (Ne.symm hx))
    exact ⟨j + 1, congrArg (Option.map (· + 1)) hj⟩

section
variable {g : TGrammar} {insts : List Inst}

theorem symOf_t {ctx : Bound} {a x : Nat} (h : symOf g insts ctx (.t a) = some x) : x = a ∧ a < g.nTerms := by
  obtain ⟨ha, rfl⟩ : a < g.nTerms ∧ a = x := by simpa [symOf] using h
  exact ⟨rfl, ha⟩

theorem symOf_n {ctx : Bound} {m : Nat} {args : List Arg} {x : Nat} (N : Nat) (f : Bool)
    (h : symOf g insts ctx (.n m args) = some x) :
    ∃ b j, x = g.nTerms + j ∧ insts[j]? = some ⟨m, b⟩ ∧ envOf b = callEnv noImp N f m (envOf ctx) args := by
  simp only [symOf, instKey] at h
  cases h1 : resolveArgs ctx args with
  | none => simp [h1] at h
  | some b =>
    obtain ⟨j, hj, rfl⟩ : ∃ j, indexOf ⟨m, b⟩ insts = some j ∧ g.nTerms + j = x := by simpa [h1] using h
    exact ⟨b, j, rfl, indexOf_get hj, resolveArgs_env N f m h1⟩

/-- `α` is the right-hand side `syms` with every reference replaced by its instance -/
abbrev SymsOf (g : TGrammar) (insts : List Inst) (ctx : Bound) (syms : List Sym) (α : List Nat) : Prop :=
  All2 (fun s x => symOf g insts ctx s = some x) syms α

theorem symsOf_all2 {ctx : Bound} {l : List Sym} {α : List Nat} (h : symsOf g insts ctx l = some α) :
    SymsOf g insts ctx l α := by
  fun_induction symsOf g insts ctx l generalizing α with
  | case1 => cases h; exact .nil
  | case2 s l x xs h2 h1 ih => cases h; exact .cons h1 (ih h2)
  | case3 => cases h

theorem altRules_all2 {i : Nat} {ctx : Bound} {l : List Alt} {rs : List Rule} (h : altRules g insts i ctx l = some rs) :
    All2 (fun a r => r.lhs = g.nTerms + i ∧ SymsOf g insts ctx a.rhs r.rhs) l rs := by
  fun_induction altRules g insts i ctx l generalizing rs with
  | case1 => cases h; exact .nil
  | case2 a l x xs h2 h1 ih => cases h; exact .cons ⟨rfl, symsOf_all2 h1⟩ (ih h2)
  | case3 => cases h

theorem rulesFrom_all2 {l : List Inst} {k : Nat} {rs : List Rule} (h : rulesFrom g insts k l = some rs) :
    ∃ rss, All2 (fun (x : Inst × Nat) rsj => instRules g insts x.2 x.1 = some rsj) (l.zipIdx k) rss ∧
      rs = rss.flatten := by
  fun_induction rulesFrom g insts k l generalizing rs with
  | case1 => cases h; exact ⟨[], .nil, rfl⟩
  | case2 k it l a b h2 h1 ih =>
    cases h
    obtain ⟨rss, hall, rfl⟩ := ih h2
    exact ⟨a :: rss, .cons h1 hall, rfl⟩
  | case3 => cases h

theorem instRules_spec {i : Nat} {it : Inst} {rsj : List Rule} (h : instRules g insts i it = some rsj) :
    ∃ nt alts, g.nts[it.nt]? = some nt ∧ enabledAlts it.args nt.alts = some alts ∧
      ((alts = [] ∧ rsj = [{ lhs := g.nTerms + i, rhs := [] }]) ∨ altRules g insts i it.args alts = some rsj) := by
  revert h
  fun_cases instRules g insts i it <;> intro h
  · cases h
  · cases h
  · next nt hnt hen => exact ⟨nt, [], hnt, hen, .inl ⟨rfl, (Option.some.inj h).symm⟩⟩
  · next nt hnt a alts hen => exact ⟨nt, a :: alts, hnt, hen, .inr h⟩

/-- Hypothesis of `C14_instantiate_lang_partial`: no instance in `insts` is dead, i.e. has a nonterminal all of
whose alternatives are disabled under the instance's argument values (`deadInst`, decidable). `doExpr` gives a
dead instance one EMPTY rule (`instRules_spec`), so it derives `ε` where its template derives nothing: without
the hypothesis the statement is false (`C14_dead_instance_counterexample`). -/
def NoDead (g : TGrammar) (insts : List Inst) : Prop := ∀ it ∈ insts, deadInst g it = false

variable {rs : List Rule}

theorem rules_sound (h : rulesOf g insts = some rs) (hd : NoDead g insts) :
    ∀ r ∈ rs, ∃ i it nt a, insts[i]? = some it ∧ r.lhs = g.nTerms + i ∧ g.nts[it.nt]? = some nt ∧ a ∈ nt.alts ∧
      a.enabled (envOf it.args) = true ∧ SymsOf g insts it.args a.rhs r.rhs := by
  intro r hr
  obtain ⟨rss, hall, rfl⟩ := rulesFrom_all2 h
  obtain ⟨rsj, hrsj, hm⟩ := List.mem_flatten.1 hr
  obtain ⟨⟨it, j⟩, hx, hi⟩ := forall2_mem' hall rsj hrsj
  have hj : insts[j]? = some it := List.mem_zipIdx_iff_getElem?.1 hx
  obtain ⟨nt, alts, hnt, hen, ⟨rfl, _⟩ | hi⟩ := instRules_spec hi
  · have hdead := hd it (List.mem_of_getElem? hj)
    simp [deadInst, hnt, hen] at hdead
  · obtain ⟨a, ha, hl, hs⟩ := forall2_mem' (altRules_all2 hi) r hm
    obtain ⟨_, rfl⟩ := enabledAlts_spec hen
    obtain ⟨ha, hc⟩ := List.mem_filter.1 ha
    exact ⟨j, it, nt, a, hj, hl, hnt, ha, checkAlt_enabled (eq_of_beq hc), hs⟩

theorem rules_complete (h : rulesOf g insts = some rs) :
    ∀ i it nt a, insts[i]? = some it → g.nts[it.nt]? = some nt → a ∈ nt.alts → a.enabled (envOf it.args) = true →
      ∃ r ∈ rs, r.lhs = g.nTerms + i ∧ SymsOf g insts it.args a.rhs r.rhs := by
  intro i it nt a hi hnt ha hen
  obtain ⟨rss, hall, rfl⟩ := rulesFrom_all2 h
  obtain ⟨rsj, hrsj, hir⟩ := hall.mem (it, i) (List.mem_zipIdx_iff_getElem?.2 hi)
  obtain ⟨nt', alts, hnt', hea, hcase⟩ := instRules_spec hir
  cases hnt.symm.trans hnt'
  obtain ⟨hdef, rfl⟩ := enabledAlts_spec hea
  obtain ⟨b, hb⟩ := hdef a ha
  cases (checkAlt_enabled hb).symm.trans hen
  have hmem : a ∈ nt.alts.filter (checkAlt it.args · == some true) := List.mem_filter.2 ⟨ha, beq_iff_eq.2 hb⟩
  rcases hcase with ⟨he, _⟩ | hir
  · rw [he] at hmem; cases hmem
  · obtain ⟨r, hr, hl, hs⟩ := (altRules_all2 hir).mem a hmem
    exact ⟨r, List.mem_flatten_of_mem hrsj hr, hl, hs⟩

variable {ins : List GInput}

theorem derives_to_der (h : rulesOf g insts = some rs) (hd : NoDead g insts) {X : Nat} {w : List Nat}
    (hder : Derives (plain g insts rs ins) X w) :
    (X < g.nTerms → w = [X]) ∧
    ∀ i it, X = g.nTerms + i → insts[i]? = some it → Der noImp g it.nt (envOf it.args) w := by
  refine (Derives.ind
    (P := fun X w => (X < g.nTerms → w = [X]) ∧
      ∀ i it, X = g.nTerms + i → insts[i]? = some it → Der noImp g it.nt (envOf it.args) w)
    (Q := fun α w => ∀ (ctx : Bound) (N : Nat) (first : Bool) (syms : List Sym),
      SymsOf g insts ctx syms α → DerSeq noImp g N (envOf ctx) first syms w)
    ?term ?rule ?nil ?cons).1 hder
  case term =>
    intro a (ha : a < g.nTerms)
    exact ⟨fun _ => rfl, fun i it hX _ => absurd ha (hX ▸ Nat.not_lt.2 (Nat.le_add_right _ _))⟩
  case rule =>
    intro r w hr _ ih
    obtain ⟨i, it, nt, a, hi, hl, hnt, ha, hc, hs⟩ := rules_sound h hd r hr
    rw [hl]
    refine ⟨fun hlt => absurd hlt (Nat.not_lt.2 (Nat.le_add_right _ _)), fun i' it' hX hi' => ?_⟩
    cases Nat.add_left_cancel hX
    cases hi.symm.trans hi'
    exact Der.alt _ _ nt a w hnt ha hc (ih it.args it.nt true a.rhs hs)
  case nil =>
    intro ctx N first syms hs
    cases hs
    exact DerSeq.nil _ _ _
  case cons =>
    intro X α u v _ _ ih1 ih2 ctx N first syms hs
    cases hs with
    | @cons s _ l _ hx hxs =>
      cases s with
      | t a =>
        obtain ⟨rfl, ha⟩ := symOf_t hx
        cases ih1.1 ha
        exact DerSeq.t _ _ _ _ l v ha (ih2 ctx N false l hxs)
      | n m args =>
        obtain ⟨b, j, rfl, hj, henv⟩ := symOf_n N first hx
        exact DerSeq.n _ _ _ m args l u v (henv ▸ ih1.2 j ⟨m, b⟩ rfl hj) (ih2 ctx N false l hxs)

theorem der_to_derives (h : rulesOf g insts = some rs) {N : Nat} {env : Env} {w : List Nat}
    (hder : Der noImp g N env w) :
    ∀ i it, insts[i]? = some it → it.nt = N → envOf it.args = env →
      Derives (plain g insts rs ins) (g.nTerms + i) w := by
  refine @Der.rec noImp g
    (fun N env w _ => ∀ i it, insts[i]? = some it → it.nt = N → envOf it.args = env →
      Derives (plain g insts rs ins) (g.nTerms + i) w)
    (fun N env first syms w _ => ∀ (ctx : Bound), envOf ctx = env → ∀ α, SymsOf g insts ctx syms α →
      DerivesSeq (plain g insts rs ins) α w)
    ?alt ?nil ?t ?n N env w hder
  case alt =>
    intro N env nt a w hnt ha hen _ ih i it hi hN henv
    subst hN; subst henv
    obtain ⟨r, hr, hl, hs⟩ := rules_complete h i it nt a hi hnt ha hen
    exact hl ▸ Derives.rule r w hr (ih it.args rfl r.rhs hs)
  case nil =>
    intro N env first ctx _ α hs
    cases hs
    exact DerivesSeq.nil
  case t =>
    intro N env first a rest v ha _ ih ctx henv α hs
    cases hs with
    | cons hx hxs =>
      obtain ⟨rfl, _⟩ := symOf_t hx
      exact DerivesSeq.cons _ _ [_] v (Derives.term _ ha) (ih ctx henv _ hxs)
  case n =>
    intro N env first m args rest u v _ _ ih1 ih2 ctx henv α hs
    subst henv
    cases hs with
    | cons hx hxs =>
      obtain ⟨b, j, rfl, hj, henv⟩ := symOf_n N first hx
      exact DerivesSeq.cons _ _ u v (ih1 j ⟨m, b⟩ hj rfl henv) (ih2 ctx rfl _ hxs)

theorem plainInputs_get {l : List (Nat × Bool)} {ins : List GInput} (h : plainInputs g insts l = some ins)
    (k : Nat) (i : Nat × Bool) (hk : l[k]? = some i) :
    ∃ j, ins[k]? = some (GInput.mk (g.nTerms + j) i.2) ∧ insts[j]? = some (Inst.mk i.1 []) := by
  fun_induction plainInputs g insts l generalizing ins k with
  | case1 => cases hk
  | case2 x l j r h2 h1 ih =>
    cases h
    cases k with
    | zero => cases hk; exact ⟨j, rfl, indexOf_get h1⟩
    | succ k => exact ih h2 k hk
  | case3 => cases h

end

theorem instantiate_spec {g : TGrammar} {fuel : Nat} {insts : List Inst} {G : Grammar}
    (h : instantiate g fuel = some (insts, G)) :
    ∃ rs ins, rulesOf g insts = some rs ∧ plainInputs g insts g.inputs = some ins ∧
      G = plain g insts rs ins := by
  unfold instantiate at h
  split at h
  · cases h
  · split at h <;> cases h
    next hr hp => exact ⟨_, _, hr, hp, rfl⟩

theorem envOf_nil : envOf [] = env0 := by
  funext p
  simp [envOf, lookupB, env0]

end TmVerif.Templates
