/-
C19 panic-freedom: the state-stack invariant `StOk` (every stack the recovering runtime builds or
simulates is a path of transitions of the tables that respects the `past` certificate), the reduction
step on such stacks with its potential, and `reduceAll`, the simulated reductions of recovery.
-/
import TmVerif.Model.LRXSafe
import TmVerif.Proofs.LRSoundAccept
namespace TmVerif.LRSound

/-- the weight of one token in the halting potentials of both loops: a stack entry's weight plus
any rank and one more, `rankBound + 1 + weight` written out (`rankBound` wants an `XTables`, the
plain runtime has none) -/
def rankW (t : LR.Tables) (rc : LRX.XCert) : Nat := 4 * t.nStates + 12 + rc.weight

theorem rankW_eq (x : LRX.XTables) (rc : LRX.XCert) :
    rankW x.t rc = LRX.rankBound x + 1 + rc.weight := rfl

end TmVerif.LRSound

namespace TmVerif.LRX
open TmVerif.LR TmVerif.CFG TmVerif.LRSound
variable {g : Grammar} {x : XTables} {cert : Cert} {i : Nat} {xc : XCert}

structure RankFacts (g : Grammar) (x : XTables) (cert : Cert) (xc : XCert) : Prop where
  rankB : ∀ i a s, i < g.inputs.size → a < x.t.nTerms → s < x.t.nStates →
    rankOf xc i a s ≤ rankBound x
  weightPos : 1 ≤ xc.weight
  red : ∀ i a s, i < g.inputs.size → a < x.t.nTerms → s < x.t.nStates →
    reduceOk g x cert xc (xedges x) i a s = true

theorem rankFacts (h3 : ranksOk g x cert xc = true) : RankFacts g x cert xc := by
  unfold ranksOk at h3
  simp only [List.all_eq_true, List.mem_range, Bool.and_eq_true, decide_eq_true_eq] at h3
  exact ⟨fun i a s hi ha hs => (h3.2 i hi a ha s hs).1, h3.1,
    fun i a s hi ha hs => (h3.2 i hi a ha s hs).2⟩

theorem RankFacts.eoi (h : RankFacts g x cert xc) {s q : Nat} (hi : i < g.inputs.size) (hs : s < x.t.nStates) (h0 : 0 < x.t.nTerms)
    (hsr : s ∈ reachOf cert i) (hfin : (s : Int) ≠ finOf x i)
    (hact : actOf x.t noDeep s (0 : Nat) = some (.shift q)) :
    rankOf xc i 0 q + xc.weight + 1 ≤ rankOf xc i 0 s := by
  have := h.red i 0 s hi h0 hs
  unfold reduceOk at this
  rw [hact] at this
  simp only [Bool.or_eq_true, Bool.not_eq_true', List.contains_eq_mem, decide_eq_false_iff_not,
    beq_iff_eq, bne_self_eq_false, Bool.false_or, Bool.and_eq_true, decide_eq_true_eq, Int.toNat_natCast] at this
  exact (this.resolve_left (not_or.2 ⟨not_not_intro hsr, hfin⟩)).2

structure XFacts (g : Grammar) (x : XTables) (cert : Cert) (xc : XCert) : Prop where
  reports : ∀ (i : Nat) (info : RuleInfo) (ln : Int), x.rules[i]? = some info →
    geti x.t.ruleLen i = some ln → ∀ r ∈ info.reports,
      r.start ≤ r.stop ∧ r.stop ≤ ln.toNat ∧ (r.start = r.stop → r.stop < ln.toNat)
  errNonneg : x.recovering = true → 0 ≤ x.errSym
  errGoto : x.recovering = true → ∀ p : Nat, p < x.t.nStates →
    ∃ q, gotoState x.t p x.errSym = some q ∧
      (q = -1 ∨ edgeOk g.inputs.size x.t cert p x.errSym q = true)
  reachX : ∀ i, i < g.inputs.size → ∀ p X q, (p, X, q) ∈ errEdges x → p ∈ reachOf cert i →
    q.toNat ∈ reachOf cert i
  weightLe : xc.weight ≤ 4
  rk : RankFacts g x cert xc

theorem xFacts (h : xwf g x cert xc = true) : XFacts g x cert xc := by
  unfold xwf at h
  simp only [Bool.and_eq_true, decide_eq_true_eq] at h
  obtain ⟨⟨⟨⟨h1, h2⟩, hrx⟩, h3⟩, h4⟩ := h
  unfold errOk at h2
  simp only [Bool.or_eq_true, Bool.not_eq_true', Bool.and_eq_true, decide_eq_true_eq,
    List.all_eq_true, List.mem_range] at h2
  have herr := fun hr : x.recovering = true => h2.resolve_left (ne_false_of_eq_true hr)
  refine ⟨?_, fun hr => (herr hr).1, fun hr p hp => ?_, ?_, h4, rankFacts h3⟩
  · intro i info ln hi hl r hr
    unfold reportsOk at h1
    simp only [List.all_eq_true, List.mem_range] at h1
    obtain ⟨hlt, _⟩ := Array.getElem?_eq_some_iff.1 hi
    have := h1 i hlt
    rw [hi, hl] at this
    simp only [List.all_eq_true, Bool.and_eq_true, decide_eq_true_eq, Bool.or_eq_true,
      bne_iff_ne, ne_eq] at this
    obtain ⟨⟨a, b⟩, c⟩ := this r hr
    exact ⟨a, b, fun e => c.resolve_left (not_not_intro e)⟩
  · have := (herr hr).2 p hp
    cases hg : gotoState x.t p x.errSym with
    | none => rw [hg] at this; cases this
    | some q =>
      rw [hg] at this
      exact ⟨q, rfl, by simpa using this⟩
  · intro i hi p X q hm hp
    unfold reachXOk at hrx
    simp only [List.all_eq_true, List.mem_range] at hrx
    have := hrx i hi (p, X, q) hm
    simp only [Bool.or_eq_true, Bool.not_eq_true', List.contains_eq_mem, decide_eq_false_iff_not,
      decide_eq_true_eq] at this
    exact this.resolve_left (not_not_intro hp)

def ReachClosed (g : Grammar) (x : XTables) (cert : Cert) : Prop :=
  ∀ i, i < g.inputs.size → i ∈ reachOf cert i ∧
    ∀ p X (q : Nat), (p, X, (q : Int)) ∈ xedges x → p ∈ reachOf cert i → q ∈ reachOf cert i

theorem reachClosed
    (hc : CertFacts g x.t cert)
    (hrx : ∀ i, i < g.inputs.size → ∀ p X q, (p, X, q) ∈ errEdges x → p ∈ reachOf cert i →
      q.toNat ∈ reachOf cert i) : ReachClosed g x cert := by
  intro i hi
  obtain ⟨_, _, _, _, _, _, _, hr, _⟩ := finalOn_elim (finalOk_eq_finalOn ▸ hc.finals i hi)
  obtain ⟨h1, h2⟩ := reachOn_elim hr
  refine ⟨h1, fun p X q hm hp => (List.mem_append.1 hm).elim (h2 p X q · hp) fun hm => ?_⟩
  simpa using hrx i hi p X _ hm hp

theorem XFacts.closed {g : Grammar} {x : XTables} {cert : Cert} {xc : XCert}
    (hc : CertFacts g x.t cert) (h : XFacts g x cert xc) : ReachClosed g x cert :=
  reachClosed hc h.reachX

/-- `StOk g x cert i sts syms`: `sts` (top first) is a path of transitions of the tables from the
entry state `i`, with symbols `syms` (top first), each transition respecting the `past`
certificate, inside the reachable set of `i`. -/
inductive StOk (g : Grammar) (x : XTables) (cert : Cert) (i : Nat) : List Nat → List Int → Prop
  | base : i < g.inputs.size → i ∈ reachOf cert i → StOk g x cert i [i] []
  | push (q p : Nat) (rest : List Nat) (X : Nat) (syms : List Int) :
      StOk g x cert i (p :: rest) syms → (p, X, (q : Int)) ∈ xedges x → q < x.t.nStates →
      pastOf cert (q : Nat) <+: (X : Int) :: pastOf cert (p : Nat) → q ∈ reachOf cert i →
      StOk g x cert i (q :: p :: rest) ((X : Int) :: syms)

theorem StOk.length {sts : List Nat} {syms : List Int} (h : StOk g x cert i sts syms) :
    sts.length = syms.length + 1 := by
  induction h with
  | base _ _ => rfl
  | push q p rest X syms _ _ _ _ _ ih => simp [ih]

theorem StOk.ne_nil {sts : List Nat} {syms : List Int} (h : StOk g x cert i sts syms) : sts ≠ [] := by
  cases h <;> simp

section
variable {sts : List Nat} {syms : List Int}

theorem StOk.lt (hc : CertFacts g x.t cert) (h : StOk g x cert i sts syms) :
    ∀ s ∈ sts, s < x.t.nStates := by
  induction h with
  | base hs _ => exact fun s' hs' => List.mem_singleton.1 hs' ▸ Nat.lt_of_lt_of_le hs hc.nIn
  | push q p rest X syms _ _ hq _ _ ih => exact List.forall_mem_cons.2 ⟨hq, ih⟩

theorem StOk.mem_reach (h : StOk g x cert i sts syms) : ∀ s ∈ sts, s ∈ reachOf cert i := by
  induction h with
  | base _ hr => exact fun s hs => List.mem_singleton.1 hs ▸ hr
  | push q p rest X syms _ _ _ _ hr ih => exact List.forall_mem_cons.2 ⟨hr, ih⟩

theorem StOk.input_lt (h : StOk g x cert i sts syms) : i < g.inputs.size := by
  induction h with
  | base hs _ => exact hs
  | push _ _ _ _ _ _ _ _ _ _ ih => exact ih

/-- a push along a transition of the tables: its target is reachable because its source is -/
theorem StOk.push_closed (hcl : ReachClosed g x cert) {q p X : Nat} {rest : List Nat}
    (h : StOk g x cert i (p :: rest) syms) (he : (p, X, (q : Int)) ∈ xedges x) (hq : q < x.t.nStates)
    (hp : pastOf cert q <+: (X : Int) :: pastOf cert p) :
    StOk g x cert i (q :: p :: rest) ((X : Int) :: syms) :=
  .push q p rest X syms h he hq hp ((hcl i h.input_lt).2 p X q he (h.mem_reach p List.mem_cons_self))

theorem StOk.past (hc : CertFacts g x.t cert) (h : StOk g x cert i sts syms) {s : Nat}
    (hs : sts.head? = some s) : pastOf cert (s : Nat) <+: syms := by
  induction h generalizing s with
  | base hi _ =>
    cases hs
    exact hc.pastEntry _ hi ▸ List.nil_prefix
  | push q p rest X syms _ _ _ hp _ ih =>
    cases hs
    exact hp.trans ((List.prefix_cons_inj _).mpr (ih rfl))

theorem StOk.drop (h : StOk g x cert i sts syms) :
    ∀ k, k < sts.length → StOk g x cert i (sts.drop k) (syms.drop k) := by
  induction h with
  | base hs hr =>
    intro k hk
    cases Nat.lt_one_iff.1 hk
    exact .base hs hr
  | push q p rest X syms h0 he hq hp hr ih =>
    intro k hk
    cases k with
    | zero => exact .push q p rest X syms h0 he hq hp hr
    | succ k => exact ih k (Nat.lt_of_succ_lt_succ hk)

end

theorem StOk.back {syms' : List Int} : ∀ (β : List Int) {s : Nat} {rest S : List Nat},
    StOk g x cert i (s :: rest) (β ++ syms') → s ∈ S →
    ∃ p' rest', (s :: rest).drop β.length = p' :: rest' ∧ p' ∈ backStates (xedges x) β S
  | [], s, rest, _, _, hS => ⟨s, rest, rfl, hS⟩
  | _ :: β, _, _, S, .push q p _ X _ h0 hedge _ _ _, hS =>
    have hp : p ∈ preds (xedges x) X S :=
      List.mem_filterMap.2 ⟨(p, X, (q : Int)), hedge, by simp [hS]⟩
    StOk.back β h0 hp

theorem finOf_eq {fin : Int} (h : x.t.finalStates[i]? = some fin) :
    fin = finOf x i := by
  unfold finOf; rw [h]; rfl

/-- certified tables have a final state for every input of the grammar: there `xrun` is the loop -/
theorem xrun_certified (hc : CertFacts g x.t cert) (hi : i < g.inputs.size) (inp : Input) (stop : Bool)
    (k fuel : Nat) : xrun x inp i stop k fuel = xrunLoop x inp (finOf x i) stop k fuel (xinit inp i) := by
  unfold xrun finOf
  rw [Array.getElem?_eq_getElem (hc.fin ▸ hi : i < x.t.finalStates.size)]
  rfl

/-- one reduction on a certified state stack: no underflow, the goto is a state, the new stack is
certified again and the potential `weight · height + rank` decreases -/
theorem StOk.reduce (hc : CertFacts g x.t cert) (hx : RankFacts g x cert xc)
    (hcl : ReachClosed g x cert)
    {s a : Nat} {rest : List Nat} {syms : List Int} {r : Int}
    (h : StOk g x cert i (s :: rest) syms) (ha : a < x.t.nTerms)
    (hfin : (s : Int) ≠ finOf x i)
    (hact : actOf x.t noDeep s a = some (.reduce r)) :
    ∃ (rule : Rule) (p' : Nat) (rest' : List Nat) (q : Nat),
      0 ≤ r ∧ g.rules[r.toNat]? = some rule ∧
      geti x.t.ruleLen r = some (rule.rhs.length : Int) ∧
      geti x.t.ruleSymbol r = some (rule.lhs : Int) ∧
      (s :: rest).drop rule.rhs.length = p' :: rest' ∧
      gotoState x.t p' rule.lhs = some (q : Int) ∧
      StOk g x cert i (q :: p' :: rest') ((rule.lhs : Int) :: syms.drop rule.rhs.length) ∧
      rankOf xc i a q + xc.weight + 1 ≤ rankOf xc i a s + xc.weight * rule.rhs.length := by
  have hs : s < x.t.nStates := h.lt hc s List.mem_cons_self
  have hi := h.input_lt
  -- `certOk` has checked the reduction by `ruleOk`: the right-hand side lies on top of the stack;
  -- `p'` is the state under it
  obtain ⟨b, act, -, hact', -, hok⟩ := cell_cert hc hs ha
  obtain rfl : Act.reduce r = act := Option.some.inj (hact.symm.trans (hact' noDeep))
  -- `actOk` of a reduce entry is `ruleOk` whatever its lookahead component (`some a` or `none`, by `b`)
  replace hok : ruleOk g x.t cert s r = true := by cases b <;> exact hok
  obtain ⟨rule, hr0, hrule, hlen, hsym, hpre⟩ := ruleOk_elim hok
  obtain ⟨syms', rfl⟩ := hpre.trans (h.past hc rfl)
  obtain ⟨p', rest', hdrop, hback⟩ := StOk.back _ h (List.mem_singleton_self s)
  rw [List.length_map, List.length_reverse] at hdrop
  have hrest := h.drop _ (List.length_lt_of_drop_ne_nil (hdrop ▸ List.cons_ne_nil p' rest'))
  rw [hdrop] at hrest
  have hp' : p' < x.t.nStates := hrest.lt hc p' List.mem_cons_self
  have hpr : p' ∈ reachOf cert i := hrest.mem_reach p' List.mem_cons_self
  -- `certOk`: the goto of `p'` under the left-hand side is `-1` or a justified transition
  obtain ⟨hlhs1, hlhs2, _⟩ := (wfFacts hc.wf).rules rule (mem_toList_of_getElem? hrule)
  rw [← hc.nTerms] at hlhs1
  rw [← hc.nSyms] at hlhs2
  obtain ⟨q, hg, hq⟩ := nt_goto (hc.gotos p' hp') hp' hlhs1 hlhs2
  -- `ranksOk`: it is not `-1`, and the rank condition holds
  have hred := hx.red i a s hi ha hs
  unfold reduceOk at hred
  rw [hact] at hred
  simp only [Bool.or_eq_true, Bool.not_eq_true', List.contains_eq_mem, decide_eq_false_iff_not,
    beq_iff_eq] at hred
  replace hred := hred.resolve_left
    (not_or.2 ⟨not_not_intro (h.mem_reach s List.mem_cons_self), hfin⟩)
  rw [hrule] at hred
  simp only [List.all_eq_true, Bool.or_eq_true, Bool.not_eq_true', decide_eq_false_iff_not] at hred
  have hrk := (hred p' hback).resolve_left (fun h => h hpr)
  rw [hg] at hrk
  simp only [Bool.and_eq_true, decide_eq_true_eq] at hrk
  rcases hq with rfl | ⟨hE, hok⟩
  · exact absurd hrk.1 (by decide)
  · obtain ⟨q', rfl, _, hq2, hq3⟩ := edgeOk_elim hok
    have hedge : (p', rule.lhs, (q' : Int)) ∈ xedges x := List.mem_append_left _ (ntEdge_mem hE)
    exact ⟨rule, p', rest', q', hr0, hrule, hlen, hsym, hdrop, hg, hrest.push_closed hcl hedge hq2 hq3,
      by simpa using hrk.2⟩

/-- `reduceAll`'s simulation on the combined stack of states (top first); `reduceAllLoop` computes
this for every way of splitting the stack into the copied part and the part pushed since -/
def simC (x : XTables) (a : Nat) (fin : Int) : Nat → List Nat → Option Bool
  | 0, _ => none
  | _ + 1, [] => none
  | n + 1, s :: rest =>
    if (s : Int) = fin then some (decide ((a : Int) = 0))
    else
      match actOf x.t noDeep s a with
      | some (.reduce r) =>
        match geti x.t.ruleLen r, geti x.t.ruleSymbol r with
        | some ln, some lhs =>
          match (s :: rest).drop ln.toNat with
          | [] => none
          | p' :: rest' =>
            match gotoState x.t p' lhs with
            | some q => if 0 ≤ q then simC x a fin n (q.toNat :: p' :: rest') else none
            | none => none
        | _, _ => none
      | some (.shift _) => some true
      | some .error => some false
      | none => none

def phi (xc : XCert) (i a : Nat) (sts : List Nat) : Nat :=
  xc.weight * sts.length + rankOf xc i a (sts.headD 0)

theorem phi_of_stack {stk : List Entry} {st : Int} {s : Nat} {rest : List Nat} (a : Nat)
    (hmap : stk.map (·.state) = (s :: rest).map Int.ofNat) (hst : st = (s : Int)) :
    xc.weight * stk.length + rankOf xc i a st.toNat = phi xc i a (s :: rest) := by
  have hlen : stk.length = (s :: rest).length := by simpa using congrArg List.length hmap
  rw [hlen, hst, Int.toNat_natCast]
  rfl

theorem phi_reduce_lt {a s q p' n : Nat} {rest rest' : List Nat}
    (hdrop : (s :: rest).drop n = p' :: rest')
    (hrank : rankOf xc i a q + xc.weight + 1 ≤ rankOf xc i a s + xc.weight * n) :
    phi xc i a (q :: p' :: rest') < phi xc i a (s :: rest) := by
  have hlen : rest.length + 1 = rest'.length + 1 + n := by
    have := congrArg List.length hdrop
    simp only [List.length_drop, List.length_cons] at this
    omega
  unfold phi
  simp only [List.length_cons, List.headD_cons, hlen, Nat.mul_add, Nat.mul_one]
  omega

/-- one unit of `W` pays for one more stack entry and any rank: the step of the loops' potentials
when a token is consumed (or the commitment flag is spent) -/
theorem pot_unit_lt {W w B u u' h h' r r' : Nat} (hW : B + 1 + w ≤ W) (hu : u' + 1 ≤ u)
    (hh : h' ≤ h + 1) (hr : r' ≤ B) : W * u' + w * h' + r' < W * u + w * h + r := by
  have h1 : W * (u' + 1) ≤ W * u := Nat.mul_le_mul_left W hu
  have h2 : w * h' ≤ w * (h + 1) := Nat.mul_le_mul_left w hh
  rw [Nat.mul_add, Nat.mul_one] at h1 h2
  omega

theorem StOk.reduce_sim (hc : CertFacts g x.t cert) (hx : RankFacts g x cert xc)
    (hcl : ReachClosed g x cert) {s a : Nat} {rest : List Nat} {syms : List Int} {r : Int}
    (h : StOk g x cert i (s :: rest) syms) (ha : a < x.t.nTerms) {fin : Int} (hfi : fin = finOf x i)
    (hfin : (s : Int) ≠ fin) (hact : actOf x.t noDeep s a = some (.reduce r)) :
    ∃ (rule : Rule) (p' : Nat) (rest' : List Nat) (q : Nat),
      geti x.t.ruleLen r = some (rule.rhs.length : Int) ∧
      geti x.t.ruleSymbol r = some (rule.lhs : Int) ∧
      (s :: rest).drop rule.rhs.length = p' :: rest' ∧
      gotoState x.t p' rule.lhs = some (q : Int) ∧
      StOk g x cert i (q :: p' :: rest') ((rule.lhs : Int) :: syms.drop rule.rhs.length) ∧
      phi xc i a (q :: p' :: rest') < phi xc i a (s :: rest) ∧
      ∀ n, simC x a fin (n + 1) (s :: rest) = simC x a fin n (q :: p' :: rest') := by
  obtain ⟨rule, p', rest', q, _, _, hlen, hsym, hdrop, hg, hnew, hrank⟩ :=
    h.reduce hc hx hcl ha (hfi ▸ hfin) hact
  refine ⟨rule, p', rest', q, hlen, hsym, hdrop, hg, hnew, phi_reduce_lt hdrop hrank,
    fun n => ?_⟩
  rw [simC]
  simp only [hfin, if_false, hact, hlen, hsym, Int.toNat_natCast, hdrop, hg, Int.natCast_nonneg,
    if_true]

/-- `reduceAllLoop` pops `ln` states from the split stack `s2 ++ ss` (`r` = what it goes on with:
the copied part, the pushed part, the state under the right-hand side): the same as dropping them
from the combined stack. -/
theorem pop_split (ss s2 : List Int) (state : Int) (ln : Nat) (hs2 : s2.head? = some state) :
    ∀ r, r = (if ln = 0 then (ss, s2, some state)
        else if ln < s2.length then (ss, s2.drop ln, (s2.drop ln).head?)
        else (ss.drop (ln - s2.length), ([] : List Int), (ss.drop (ln - s2.length)).head?)) →
      r.2.1 ++ r.1 = (s2 ++ ss).drop ln ∧ r.2.2 = ((s2 ++ ss).drop ln).head? := by
  rintro r rfl
  by_cases h0 : ln = 0
  · subst h0
    rw [if_pos rfl, List.drop_zero, List.head?_append, hs2]
    exact ⟨rfl, rfl⟩
  · rw [if_neg h0]
    by_cases h1 : ln < s2.length
    · rw [if_pos h1]
      exact ⟨(List.drop_append_of_le_length (Nat.le_of_lt h1)).symm,
        by rw [List.head?_drop, List.head?_drop, List.getElem?_append_left h1]⟩
    · rw [if_neg h1, List.drop_append, List.drop_eq_nil_of_le (Nat.le_of_not_lt h1)]
      exact ⟨rfl, rfl⟩

theorem reduceAllLoop_of_simC {a : Nat} {fin : Int} {b : Bool} (n : Nat) (sts : List Nat) :
    simC x a fin n sts = some b → ∀ (ss s2 : List Int) (state : Int),
      state :: s2 ++ ss = sts.map Int.ofNat →
      reduceAllLoop x a fin n ss (state :: s2) state = some b := by
  fun_induction simC x a fin n sts with
  -- where `simC` gives up: `none = some b`
  | case1 | case2 | case4 | case6 | case7 | case8 | case11 => nofun
  -- the final state
  | case3 n s rest hfin =>
    intro h ss s2 state hcomb
    obtain rfl : state = (s : Int) := (List.cons.inj hcomb).1
    rw [reduceAllLoop, if_pos hfin]
    exact h
  -- a shift, an error
  | case9 n s rest hfin _ hact | case10 n s rest hfin hact =>
    intro h ss s2 state hcomb
    obtain rfl : state = (s : Int) := (List.cons.inj hcomb).1
    obtain ⟨nt, hnt⟩ := needsTok_of_actOf hact
    rw [reduceAllLoop, if_neg hfin]
    simp only [hnt, show actOf x.t (fun _ => none) (s : Int) (a : Int) = _ from hact]
    exact h
  -- a reduction whose goto is a state `q`
  | case5 n s rest hfin r hact ln lhs hy hl p' rest' hd q hg hq ih =>
    intro h ss s2 state hcomb
    obtain rfl : state = (s : Int) := (List.cons.inj hcomb).1
    obtain ⟨nt, hnt⟩ := needsTok_of_actOf hact
    rw [reduceAllLoop, if_neg hfin]
    simp only [hnt, show actOf x.t (fun _ => none) (s : Int) (a : Int) = _ from hact, hl, hy]
    obtain ⟨e1, e2⟩ := pop_split ss (s :: s2) s ln.toNat rfl _ rfl
    rw [hcomb, ← List.map_drop, hd] at e1 e2
    rw [e2]
    simp only [List.map_cons, List.head?_cons, show gotoState x.t (Int.ofNat p') lhs = _ from hg]
    refine ih h _ _ q ?_
    rw [List.cons_append, e1]
    exact congrArg (· :: _) (Int.toNat_of_nonneg hq).symm

theorem simC_total (hc : CertFacts g x.t cert) (hx : XFacts g x cert xc)
    {a : Nat} (ha : a < x.t.nTerms) (fin : Int) (hfi : fin = finOf x i) :
    ∀ (n : Nat) {s : Nat} {rest : List Nat} {syms : List Int},
      StOk g x cert i (s :: rest) syms → phi xc i a (s :: rest) < n →
      ∃ b, ∀ extra, simC x a fin (n + extra) (s :: rest) = some b := by
  intro n
  induction n with
  | zero => exact fun _ hn => absurd hn (Nat.not_lt_zero _)
  | succ n ih =>
    intro s rest syms h hn
    have hsucc : ∀ extra, n + 1 + extra = (n + extra) + 1 := fun _ => Nat.add_right_comm n 1 _
    by_cases hfin : (s : Int) = fin
    · exact ⟨_, fun extra => by rw [hsucc, simC, if_pos hfin]⟩
    · obtain ⟨_, act, -, hact, -, -⟩ := cell_cert hc (h.lt hc s List.mem_cons_self) ha
      have hact := hact noDeep
      cases act with
      | error => exact ⟨false, fun extra => by rw [hsucc, simC, if_neg hfin, hact]⟩
      | shift q => exact ⟨true, fun extra => by rw [hsucc, simC, if_neg hfin, hact]⟩
      | reduce r =>
        obtain ⟨rule, p', rest', q, _, _, _, _, hnew, hphi, hsim⟩ :=
          h.reduce_sim hc hx.rk (hx.closed hc) ha hfi hfin hact
        obtain ⟨b, hb⟩ := ih hnew (Nat.lt_of_lt_of_le hphi (Nat.le_of_lt_succ hn))
        exact ⟨b, fun extra => by rw [hsucc, hsim]; exact hb extra⟩

/-- `reduceAll` on a certified stack: defined, its fuel is sufficient, and the result is the one
of the simulation on the combined stack -/
theorem reduceAll_total (hc : CertFacts g x.t cert) (hx : XFacts g x cert xc)
    {a : Nat} (ha : a < x.t.nTerms) (fin : Int) (hfi : fin = finOf x i) {s : Nat} {rest : List Nat}
    {syms : List Int} (h : StOk g x cert i (s :: rest) syms) :
    ∃ b, reduceAll x (rest.map Int.ofNat) s a fin = some b ∧
      (∀ extra, reduceAllLoop x a fin
        (4 * ((rest.map Int.ofNat).length + x.t.nStates + 4) + extra) (rest.map Int.ofNat) [(s : Int)] s
        = some b) ∧
      simC x a fin (4 * ((rest.map Int.ofNat).length + x.t.nStates + 4)) (s :: rest) = some b := by
  have hr := hx.rk.rankB i a s h.input_lt ha (h.lt hc s List.mem_cons_self)
  unfold rankBound at hr
  have hphi : phi xc i a (s :: rest) < 4 * ((rest.map Int.ofNat).length + x.t.nStates + 4) := by
    unfold phi
    simp only [List.length_cons, List.length_map, List.headD_cons]
    have : xc.weight * (rest.length + 1) ≤ 4 * (rest.length + 1) :=
      Nat.mul_le_mul_right _ hx.weightLe
    omega
  obtain ⟨b, hb⟩ := simC_total hc hx ha fin hfi _ h hphi
  have hb' := fun extra => reduceAllLoop_of_simC _ (s :: rest) (hb extra) (rest.map Int.ofNat) [] s rfl
  refine ⟨b, ?_, hb', hb 0⟩
  unfold reduceAll
  rw [if_neg (Int.not_lt.mpr (Int.natCast_nonneg s))]
  exact hb' 0

end TmVerif.LRX
