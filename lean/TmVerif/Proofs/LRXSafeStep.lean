/-
C19 panic-freedom and halting: the invariant `XInv` of the extended
runtime and the loop iteration up to the error branch (`xpre`). `xpre_spec` says what an iteration
makes of a configuration satisfying the invariant (`XPreOut`: cancelled, a reduction, a shift, or
on to the error branch); panic-freedom and the decrease of the halting potential are read off it.
-/
import TmVerif.Proofs.LRXSafe
import TmVerif.Proofs.LRX
namespace TmVerif.LRX
open TmVerif.LR TmVerif.CFG TmVerif.LRSound
open TmVerif.EventNesting (nx)
variable {g : Grammar} {x : XTables} {cert : Cert} {xc : XCert} {i : Nat}

theorem applyRuleEvents_some (hx : XFacts g x cert xc) {rule ln : Int}
    (hl : geti x.t.ruleLen rule = some ln) (stk : List Entry) (hlen : ln.toNat ≤ stk.length)
    (off endo : Nat) : ∃ r, applyRuleEvents x rule ln.toNat off endo stk = some r := by
  have htl : (stk.take ln.toNat).length = ln.toNat := List.length_take_of_le hlen
  obtain ⟨evs, hevs⟩ := mapM_some_of_forall (f := repX x.fixWhitespace (stk.take ln.toNat) ln.toNat)
    (ruleOf x rule).reports (fun r hr => by
      rcases ruleOf_cases x rule with h | ⟨h0, h⟩
      · rw [h] at hr; cases hr
      · have := hx.reports rule.toNat _ ln h (by rw [Int.toNat_of_nonneg h0]; exact hl) r hr
        exact repX_some _ htl this.1 this.2.1 this.2.2)
  rw [applyRuleEvents_eq, hevs]
  exact ⟨_, rfl⟩

def XInv (g : Grammar) (x : XTables) (cert : Cert) (i : Nat) (inp : Input) (c : XCfg) : Prop :=
  ∃ (s : Nat) (rest : List Nat) (syms : List Int), StOk g x cert i (s :: rest) syms ∧
    c.stack.map (·.state) = (s :: rest).map Int.ofNat ∧ c.state = (s : Int) ∧ XNextOk inp c

theorem xinv_xinit (hcl : ReachClosed g x cert) (inp : Input) (hi : i < g.inputs.size) :
    XInv g x cert i inp (xinit inp i) :=
  ⟨i, [], [], .base hi (hcl i hi).1, rfl, rfl,
    fun _ h => ⟨Nat.le_refl _, (Option.some.inj h).symm⟩⟩

theorem XInv.fetch {inp : Input} {c : XCfg} (h : XInv g x cert i inp c) :
    XInv g x cert i inp (c.fetch inp).1 := by
  obtain ⟨s, rest, syms, h1, h2, h3, h4⟩ := h
  exact ⟨s, rest, syms, h1, (fetch_stack inp c).symm ▸ h2, (fetch_state inp c).trans h3, h4.fetch⟩

theorem xdecode_spec (hc : CertFacts g x.t cert) {inp : Input} (htok : TokOk x.t inp) (c : XCfg)
    (s : Nat) (hs : s < x.t.nStates) (hst : c.state = (s : Int)) (hn : XNextOk inp c) :
    ∃ c1 act, xdecode x inp c = some (c1, act) ∧
      actOf x.t noDeep s (symAt inp (nx c)) = some act ∧
      c1.stack = c.stack ∧ c1.state = c.state ∧ XNextOk inp c1 ∧ nx c1 = nx c ∧
      (∀ q, act = .shift q → c1.next = some (inp.tok (nx c)) ∧ needsTok x.t s = some true ∧
        edgeOk g.inputs.size x.t cert s (symAt inp (nx c) : Nat) q = true) := by
  obtain ⟨ha2, ha1⟩ := symAt_lt_nTerms htok hc.nTermsPos (nx c)
  obtain ⟨b, act, hnt, hact, -, hok⟩ := cell_cert hc hs ha2
  cases b with
  | true =>
    obtain ⟨g1, _⟩ := fetch_idx inp c hn
    have hd : xdecode x inp c = some ((c.fetch inp).1, act) := by
      unfold xdecode; rw [hst, hnt]; simp only; rw [g1, ha1, hact]; rfl
    -- `actOk` of the entry `(some a, some (.shift q))` is `edgeOk`
    exact ⟨_, act, hd, hact _, fetch_stack inp c, fetch_state inp c, hn.fetch, fetch_nx inp c hn,
      fun q hq => ⟨by rw [fetch_next, g1], hnt, by subst hq; exact hok⟩⟩
  | false =>
    have hd : xdecode x inp c = some (c, act) := by
      unfold xdecode; rw [hst, hnt]; simp only
      rw [actOf_of_needsTok_false hnt _ noDeep 0 (symAt inp (nx c)), hact]; rfl
    -- a state that does not consult the token has no shift: `actOk` of `(none, some (.shift q))` is `false`
    exact ⟨c, act, hd, hact _, rfl, rfl, hn, rfl, fun q hq => by subst hq; cases hok⟩

/-- What one iteration up to the error branch makes of a configuration `c` that satisfies the
invariant with state stack `s :: rest`, under the symbol `a` of the next token. -/
inductive XPreOut (g : Grammar) (x : XTables) (cert : Cert) (xc : XCert) (i : Nat) (inp : Input)
    (fin : Int) (c : XCfg) (s : Nat) (rest : List Nat) (a : Nat) : XPre → Prop
  | cancelled (c' : XCfg) : XPreOut g x cert xc i inp fin c s rest a (.done .cancelled c')
  | reduce (c' : XCfg) (s' : Nat) (rest' : List Nat) (syms' : List Int) :
      StOk g x cert i (s' :: rest') syms' →
      c'.stack.map (·.state) = (s' :: rest').map Int.ofNat → c'.state = (s' : Int) →
      XNextOk inp c' → nx c' = nx c →
      phi xc i a (s' :: rest') < phi xc i a (s :: rest) →
      (∀ n, simC x a fin (n + 1) (s :: rest) = simC x a fin n (s' :: rest')) →
      XPreOut g x cert xc i inp fin c s rest a (.cont c')
  | shift (c' : XCfg) (q : Int) :
      (s, a, q) ∈ xedges x → c'.stack.length = c.stack.length + 1 → c'.state = q →
      XInv g x cert i inp c' → (a ≠ 0 → nx c' = nx c + 1) →
      XPreOut g x cert xc i inp fin c s rest a (.cont c')
  | err (c' : XCfg) :
      actOf x.t noDeep s a = some .error → XInv g x cert i inp c' → c'.stack = c.stack →
      nx c' = nx c →
      XPreOut g x cert xc i inp fin c s rest a (.err c')

/-! `xdecode` has turned `c` into `c1` (a fetch at most: `c1.stack = c.stack`, `c1.state = c.state`,
`nx c1 = nx c`); the state stack is `s :: rest`, `a` the symbol of the next token. -/

theorem shift_spec (hc : CertFacts g x.t cert) (hx : XFacts g x cert xc) {inp : Input}
    {fin : Int} {c c1 : XCfg} {s a : Nat} {rest : List Nat} {syms : List Int} {q : Int}
    (hstk : StOk g x cert i (s :: rest) syms)
    (hmap : c1.stack.map (·.state) = (s :: rest).map Int.ofNat) (hn : XNextOk inp c1)
    (e1 : c1.stack = c.stack) (hidx : nx c1 = nx c)
    (hnx : c1.next = some (inp.tok (nx c))) (hsym : (inp.tok (nx c)).sym = (a : Int))
    (ha : a < x.t.nTerms) (hnt : needsTok x.t s = some true)
    (hact : actOf x.t noDeep s a = some (.shift q))
    (hedge : edgeOk g.inputs.size x.t cert s a q = true) :
    XPreOut g x cert xc i inp fin c s rest a (preBody x inp c1 (.shift q)) := by
  have hs : s < x.t.nStates := hstk.lt hc s List.mem_cons_self
  obtain ⟨q', rfl, _, hq2, hq3⟩ := edgeOk_elim hedge
  have hedge' : (s, a, (q' : Int)) ∈ xedges x :=
    List.mem_append_left _ (termEdge_mem ⟨hs, ha, hnt, hact⟩)
  have hpos := (hn _ hnx).1
  have hxi : nx c1 = c1.pos - 1 := nx_next hnx
  rw [preBody_shift hnx]
  have hstk' := hstk.push_closed (hx.closed hc) hedge' hq2 hq3
  refine .shift _ q' hedge' (congrArg (·.length + 1) e1) rfl
    ⟨q', s :: rest, _, hstk', congrArg ((q' : Int) :: ·) hmap, rfl, ?nextOk⟩ ?advance
  case nextOk =>
    -- the shift keeps the token only if it is the end of input
    intro tk' htk'
    by_cases hz : (inp.tok (nx c)).sym = 0
    · exact hn tk' ((if_neg (not_not_intro hz)).symm.trans htk')
    · cases (if_pos hz).symm.trans htk'
  case advance =>
    intro hz
    have hz' : (inp.tok (nx c)).sym ≠ 0 := by rw [hsym]; exact Int.natCast_ne_zero.mpr hz
    refine (nx_none (if_pos hz')).trans ?_
    rw [← hidx, hxi]
    exact (Nat.sub_add_cancel hpos).symm

theorem rhs_le_stack_length {stk : List Entry} {sts : List Nat} {n p' : Nat} {rest' : List Nat}
    (hmap : stk.map (·.state) = sts.map Int.ofNat) (hdrop : sts.drop n = p' :: rest') :
    n ≤ stk.length := by
  have hlen : stk.length = sts.length := by simpa using congrArg List.length hmap
  exact hlen ▸ Nat.le_of_lt (List.length_lt_of_drop_ne_nil (hdrop ▸ List.cons_ne_nil p' rest'))

theorem xreduceTail_safe (hx : XFacts g x cert xc) {inp : Input} {c2 : XCfg} {rule : Int}
    {r : Rule} {s p' q : Nat} {rest rest' : List Nat} (off endo : Nat)
    (hlen : geti x.t.ruleLen rule = some (r.rhs.length : Int))
    (hstk : c2.stack.map (·.state) = (s :: rest).map Int.ofNat)
    (hdrop : (s :: rest).drop r.rhs.length = p' :: rest')
    (hg : gotoState x.t p' r.lhs = some (q : Int)) (hn : XNextOk inp c2) :
    ∃ c3, xreduceTail x c2 rule r.rhs.length r.lhs off endo = .cont c3 ∧
      c3.stack.map (·.state) = (q :: p' :: rest').map Int.ofNat ∧ c3.state = (q : Int) ∧
      XNextOk inp c3 ∧ nx c3 = nx c2 := by
  obtain ⟨⟨evs, endo'⟩, hev⟩ := applyRuleEvents_some hx hlen c2.stack
    (by rw [Int.toNat_natCast]; exact rhs_le_stack_length hstk hdrop) off endo
  rw [Int.toNat_natCast] at hev
  have hd : (c2.stack.drop r.rhs.length).map (·.state) = (p' :: rest').map Int.ofNat := by
    rw [List.map_drop, hstk, ← List.map_drop, hdrop]
  unfold xreduceTail
  rw [hev]
  simp only
  cases hz : c2.stack.drop r.rhs.length with
  | nil => rw [hz] at hd; simp at hd
  | cons top tl =>
    rw [hz] at hd
    simp only
    have e : top.state = ((p' : Nat) : Int) := (List.cons.inj hd).1
    rw [e, hg]
    have hq : ¬ ((q : Int) = -1) := fun h => absurd (h ▸ Int.natCast_nonneg q) (by decide)
    simp only [hq, if_false]
    exact ⟨_, rfl, congrArg ((q : Int) :: ·) hd, rfl, hn, rfl⟩

theorem xreducePre_spec (hc : CertFacts g x.t cert) (hx : XFacts g x cert xc) {inp : Input}
    {c c1 : XCfg} {s a : Nat} {rest : List Nat} {syms : List Int} {r : Int} {fin : Int}
    (hstk : StOk g x cert i (s :: rest) syms)
    (hmap : c1.stack.map (·.state) = (s :: rest).map Int.ofNat) (hn : XNextOk inp c1)
    (hidx : nx c1 = nx c) (ha : a < x.t.nTerms) (hfi : fin = finOf x i)
    (hne : (s : Int) ≠ fin) (hact : actOf x.t noDeep s a = some (.reduce r)) :
    XPreOut g x cert xc i inp fin c s rest a (xreducePre x inp c1 r) := by
  obtain ⟨rule, p', rest', q, hlen, hsym, hdrop, hg, hnew, hphi, hsim⟩ :=
    hstk.reduce_sim hc hx.rk (hx.closed hc) ha hfi hne hact
  have hl : ¬ rule.rhs.length > c1.stack.length :=
    Nat.not_lt.mpr (rhs_le_stack_length hmap hdrop)
  unfold xreducePre
  rw [hlen, hsym]
  simp only [Int.toNat_natCast, hl, if_false]
  -- an empty right-hand side takes its offsets from the fetched token, any other from the stack
  have tail : ∀ c2 off endo, c2.stack.map (·.state) = (s :: rest).map Int.ofNat → XNextOk inp c2 →
      nx c2 = nx c → XPreOut g x cert xc i inp fin c s rest a
        (xreduceTail x c2 r rule.rhs.length rule.lhs off endo) := by
    intro c2 off endo hm2 hn2 hi2
    obtain ⟨c3, hc3, hm3, hst3, hn3, hi3⟩ := xreduceTail_safe hx off endo hlen hm2 hdrop hg hn2
    exact hc3 ▸ .reduce c3 q (p' :: rest') _ hnew hm3 hst3 hn3 (hi3.trans hi2) hphi hsim
  split
  · exact tail _ _ _ (fetch_stack inp c1 ▸ hmap) hn.fetch ((fetch_nx inp c1 hn).trans hidx)
  · exact tail _ _ _ hmap hn hidx

theorem xpre_spec (hc : CertFacts g x.t cert) (hx : XFacts g x cert xc) {inp : Input}
    (htok : TokOk x.t inp) (k : Nat) (fin : Int) (c : XCfg) {s : Nat} {rest : List Nat}
    {syms : List Int} (hstk : StOk g x cert i (s :: rest) syms)
    (hmap : c.stack.map (·.state) = (s :: rest).map Int.ofNat) (hst : c.state = (s : Int))
    (hn : XNextOk inp c) (hfi : fin = finOf x i) (hne : c.state ≠ fin) :
    XPreOut g x cert xc i inp fin c s rest (symAt inp (nx c)) (xpre x inp k c) := by
  have hs : s < x.t.nStates := hstk.lt hc s List.mem_cons_self
  obtain ⟨c1, act, hd, hact, e1, e2, hn1, hidx1, hshift⟩ := xdecode_spec hc htok c s hs hst hn
  obtain ⟨ha2, ha1⟩ := symAt_lt_nTerms htok hc.nTermsPos (nx c)
  have hmap1 : c1.stack.map (·.state) = (s :: rest).map Int.ofNat := e1 ▸ hmap
  unfold xpre
  rw [hd]
  dsimp only
  split
  · exact .cancelled _
  cases act with
  | error => exact .err _ hact ⟨s, rest, syms, hstk, hmap1, e2.trans hst, hn1⟩ e1 hidx1
  | shift q =>
    obtain ⟨hnx, hnt, hedge⟩ := hshift q rfl
    exact shift_spec hc hx hstk hmap1 hn1 e1 hidx1 hnx ha1 ha2 hnt hact hedge
  | reduce r => exact xreducePre_spec hc hx hstk hmap1 hn1 hidx1 ha2 hfi (hst ▸ hne) hact

end TmVerif.LRX
