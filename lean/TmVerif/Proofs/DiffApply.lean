import TmVerif.Proofs.DiffHunks
/-!
The hunks `LineDiff` writes apply to the first text and produce the second, provided no run of
deleted or inserted lines is longer than 14 (`hunk.add` elides longer runs). The loop's state is described on the
prefixes of the two texts it has consumed (`Open`, `Closed`); `slice_at`/`slice_take` turn the index arithmetic of
`ldStep` into pieces of those prefixes.
-/
namespace TmVerif.Diff

theorem applyBody_minus (ls rest : List Line) :
    applyBody (ls.map fun l => ('-', l)) (ls ++ rest) = some ([], ls.length, 0, rest) := by
  induction ls with
  | nil => simp [applyBody]
  | cons l ls ih => simp [applyBody, ih]

theorem applyBody_plus (ls a : List Line) :
    applyBody (ls.map fun l => ('+', l)) a = some (ls, 0, ls.length, a) := by
  induction ls with
  | nil => simp [applyBody]
  | cons l ls ih => simp [applyBody, ih]

theorem applyBody_ctx (ls rest : List Line) :
    applyBody (ls.map fun l => (' ', l)) (ls ++ rest) = some (ls, ls.length, ls.length, rest) := by
  induction ls with
  | nil => simp [applyBody]
  | cons l ls ih => simp [applyBody, ih]

theorem applyBody_append {b1 b2 : List (Char × Line)} {a o1 r1 o2 r2 : List Line}
    {nl1 nr1 nl2 nr2 : Nat}
    (h1 : applyBody b1 a = some (o1, nl1, nr1, r1)) (h2 : applyBody b2 r1 = some (o2, nl2, nr2, r2)) :
    applyBody (b1 ++ b2) a = some (o1 ++ o2, nl1 + nl2, nr1 + nr2, r2) := by
  fun_induction applyBody b1 a generalizing o1 nl1 nr1 with
  | case1 a => cases h1; simpa using h2
  | case3 | case4 | case7 => cases h1
  | case2 l body a ih =>
    obtain ⟨⟨o, nl, nr, rest⟩, hr, e⟩ := Option.map_eq_some_iff.mp h1
    cases e
    simp [applyBody, ih hr, Nat.add_right_comm]
  | case5 l body x a' hx _ ih =>
    obtain ⟨⟨o, nl, nr, rest⟩, hr, e⟩ := Option.map_eq_some_iff.mp h1
    cases e
    simp [applyBody, hx, ih hr, Nat.add_right_comm]
  | case6 l body x a' hx _ _ ih =>
    obtain ⟨⟨o, nl, nr, rest⟩, hr, e⟩ := Option.map_eq_some_iff.mp h1
    cases e
    simp [applyBody, hx, ih hr, Nat.add_right_comm]

/-- `h` starts at lines `L`/`R`, consumes `HA` and produces `HB` -/
def HunkDesc (h : Hunk) (L R : Nat) (HA HB : List Line) : Prop :=
  h.leftLine = L ∧ h.rightLine = R ∧ h.leftSize = HA.length ∧ h.rightSize = HB.length ∧
    ∀ T, applyBody h.body (HA ++ T) = some (HB, HA.length, HB.length, T)

theorem applyHunksFrom_cons_desc (h : Hunk) (hs : List Hunk) (pos outLen : Nat)
    (G HA HB R : List Line)
    (hd : HunkDesc h (pos + G.length + 1) (outLen + G.length + 1) HA HB) :
    applyHunksFrom (h :: hs) pos outLen (G ++ (HA ++ R)) =
      (applyHunksFrom hs (pos + G.length + HA.length) (outLen + G.length + HB.length) R).map
        (G ++ HB ++ ·) := by
  obtain ⟨hl, hr, hls, hrs, hb⟩ := hd
  rw [applyHunksFrom]
  have e : h.leftLine - 1 - pos = G.length := by omega
  simp only [e]
  rw [if_neg (by omega), if_neg (by simp), if_neg (by omega)]
  simp only [List.drop_left, hb R, List.take_left]
  rw [if_neg (by omega)]

/-- The hunks written so far turn the prefix `A0` into `B0`, whatever hunks and lines follow. -/
def Written (out : List Hunk) (A0 B0 : List Line) : Prop :=
  ∀ hs R, applyHunksFrom (out ++ hs) 0 0 (A0 ++ R) =
    (applyHunksFrom hs A0.length B0.length R).map (B0 ++ ·)

theorem written_nil : Written [] [] [] := by
  intro hs R; simp

theorem written_snoc {out : List Hunk} {h : Hunk} {A0 B0 HA HB : List Line} (G : List Line)
    (hw : Written out A0 B0)
    (hd : HunkDesc h (A0.length + G.length + 1) (B0.length + G.length + 1) HA HB) :
    Written (out ++ [h]) (A0 ++ G ++ HA) (B0 ++ G ++ HB) := by
  intro hs R
  have := hw (h :: hs) (G ++ (HA ++ R))
  rw [applyHunksFrom_cons_desc h hs _ _ G HA HB R hd] at this
  simp only [List.append_assoc, List.singleton_append, List.length_append, Nat.add_assoc] at this ⊢
  rw [this, Option.map_map]
  rfl

theorem add_short (h : Hunk) (c : Char) (ls : List Line) (hl : ls.length ≤ 14) :
    h.add c ls = h.addPlain c ls := by
  unfold Hunk.add
  rw [if_neg (by omega)]

theorem desc_fresh (L R : Nat) : HunkDesc { leftLine := L, rightLine := R } L R [] [] := by
  refine ⟨rfl, rfl, rfl, rfl, ?_⟩
  intro T; simp [applyBody]

theorem slice_at {β : Type} (X M S l : List β) (i j : Nat) (hl : l = X ++ (M ++ S))
    (hi : i = X.length) (hj : j = i + M.length) : slice l i j = M := by
  subst hl hi hj
  simp [slice]

/-- `a[i:min(i+t, len(a))]`, the context after the last chunk -/
theorem slice_take {β : Type} (X M l : List β) (i t : Nat) (hl : l = X ++ M) (hi : i = X.length) :
    slice l i (min (i + t) l.length) = M.take t := by
  subst hl hi
  unfold slice
  rw [List.drop_left, List.length_append, Nat.add_min_add_left, Nat.add_sub_cancel_left,
    ← List.take_eq_take_min]

/-- `ai - c.eq` in `ldStep`, where `ai = st.ai + c.eq + c.del` -/
theorem add_right_comm_sub (x e d : Nat) : x + e + d - e = x + d := by
  rw [Nat.add_right_comm, Nat.add_sub_cancel]

theorem split_last3 (E : List Line) (h : 3 ≤ E.length) : ∃ E2 E3, E = E2 ++ E3 ∧ E3.length = 3 :=
  ⟨E.take (E.length - 3), E.drop (E.length - 3), (List.take_append_drop _ _).symm,
    by rw [List.length_drop]; omega⟩

theorem split3 (E : List Line) (h : 6 < E.length) :
    ∃ E1 E2 E3, E = E1 ++ E2 ++ E3 ∧ E1.length = 3 ∧ E3.length = 3 := by
  obtain ⟨E2, E3, e, h3⟩ := split_last3 (E.drop 3) (by rw [List.length_drop]; omega)
  exact ⟨E.take 3, E2, E3, by rw [List.append_assoc, ← e, List.take_append_drop],
    by rw [List.length_take]; omega, h3⟩

theorem add_nil (h : Hunk) (c : Char) : h.add c [] = h := by
  simp [Hunk.add, Hunk.addPlain]

/-- No hunk is open: the written hunks turn `PA` into `PB` up to a common tail `G` of lines after the last hunk. -/
def Closed (out : List Hunk) (PA PB : List Line) : Prop :=
  ∃ A0 B0 G, PA = A0 ++ G ∧ PB = B0 ++ G ∧ Written out A0 B0

/-- The written hunks and the current hunk `h` together turn the consumed prefix `PA` into `PB`: after the lines
`A0`/`B0` covered by `out` comes a gap `G` of equal lines, then the lines `HA`/`HB` of `h`. Each branch of `ldStep` is
a composition of the moves `minus`, `plus`, `ctx`, `close`, `gap` and `open` below. -/
def Open (out : List Hunk) (h : Hunk) (PA PB : List Line) : Prop :=
  ∃ A0 B0 G HA HB, PA = A0 ++ G ++ HA ∧ PB = B0 ++ G ++ HB ∧ Written out A0 B0 ∧
    HunkDesc h (A0.length + G.length + 1) (B0.length + G.length + 1) HA HB

section
variable {out : List Hunk} {h : Hunk} {PA PB : List Line}

/-- a run `ls` of lines with intro character `c` (at most 14, else `hunk.add` elides) that consumes `CA` and
produces `CB` is added to the open hunk -/
theorem Open.add (ho : Open out h PA PB) (c : Char) (ls CA CB : List Line) (hl : ls.length ≤ 14)
    (hca : (if c ≠ '+' then ls.length else 0) = CA.length)
    (hcb : (if c ≠ '-' then ls.length else 0) = CB.length)
    (hb : ∀ T, applyBody (ls.map fun l => (c, l)) (CA ++ T) = some (CB, CA.length, CB.length, T)) :
    Open out (h.add c ls) (PA ++ CA) (PB ++ CB) := by
  obtain ⟨A0, B0, G, HA, HB, rfl, rfl, hw, h1, h2, h3, h4, h5⟩ := ho
  rw [add_short h _ _ hl]
  refine ⟨A0, B0, G, HA ++ CA, HB ++ CB, List.append_assoc _ _ _, List.append_assoc _ _ _, hw, h1, h2,
    by rw [addPlain_left, h3, hca, List.length_append],
    by rw [addPlain_right, h4, hcb, List.length_append], fun T => ?_⟩
  have := applyBody_append (h5 (CA ++ T)) (hb T)
  rwa [← List.append_assoc, ← List.length_append, ← List.length_append] at this

theorem Open.minus (ho : Open out h PA PB) (D : List Line) (hl : D.length ≤ 14) :
    Open out (h.add '-' D) (PA ++ D) PB :=
  List.append_nil PB ▸ ho.add '-' D D [] hl rfl rfl (applyBody_minus D)

theorem Open.plus (ho : Open out h PA PB) (I : List Line) (hl : I.length ≤ 14) :
    Open out (h.add '+' I) PA (PB ++ I) :=
  List.append_nil PA ▸ ho.add '+' I [] I hl rfl rfl (applyBody_plus I)

theorem Open.ctx (ho : Open out h PA PB) (E : List Line) (hl : E.length ≤ 14) :
    Open out (h.add ' ' E) (PA ++ E) (PB ++ E) :=
  ho.add ' ' E E E hl rfl rfl (applyBody_ctx E)

/-- `writeTo`: an empty hunk is not written, and then its lines are a gap. -/
theorem Open.close (ho : Open out h PA PB) : Closed (writeHunk out h) PA PB := by
  obtain ⟨A0, B0, G, HA, HB, rfl, rfl, hw, hd⟩ := ho
  unfold writeHunk
  by_cases hz : h.leftSize = 0 ∧ h.rightSize = 0
  · rw [if_pos hz]
    obtain rfl := List.eq_nil_of_length_eq_zero (hd.2.2.1.symm.trans hz.1)
    obtain rfl := List.eq_nil_of_length_eq_zero (hd.2.2.2.1.symm.trans hz.2)
    exact ⟨A0, B0, G, List.append_nil _, List.append_nil _, hw⟩
  · rw [if_neg hz]
    exact ⟨_, _, [], (List.append_nil _).symm, (List.append_nil _).symm, written_snoc G hw hd⟩

theorem Closed.nil : Closed [] [] [] := ⟨[], [], [], rfl, rfl, written_nil⟩

theorem Closed.gap (hc : Closed out PA PB) (E : List Line) : Closed out (PA ++ E) (PB ++ E) := by
  obtain ⟨A0, B0, G, rfl, rfl, hw⟩ := hc
  exact ⟨A0, B0, G ++ E, List.append_assoc _ _ _, List.append_assoc _ _ _, hw⟩

theorem Closed.open (hc : Closed out PA PB) (L R : Nat) (hL : L = PA.length + 1)
    (hR : R = PB.length + 1) : Open out { leftLine := L, rightLine := R } PA PB := by
  obtain ⟨A0, B0, G, rfl, rfl, hw⟩ := hc
  rw [List.length_append] at hL hR
  subst hL hR
  exact ⟨A0, B0, G, [], [], (List.append_nil _).symm, (List.append_nil _).symm, hw, desc_fresh _ _⟩

theorem Closed.applies {a b : List Line} (hc : Closed out a b) : applyHunks out a = some b := by
  obtain ⟨A0, B0, T, rfl, rfl, hw⟩ := hc
  have := hw [] T
  rw [List.append_nil] at this
  unfold applyHunks
  rw [this]
  rfl

end

/-- `RA`, `RB` are what the loop has not looked at -/
def Inv (a b : List Line) (st : LDState) (RA RB : List Line) : Prop :=
  ∃ PA PB, a = PA ++ RA ∧ b = PB ++ RB ∧ st.ai = PA.length ∧ st.bi = PB.length ∧
    Open st.out st.h PA PB

theorem inv_init (a b : List Line) : Inv a b {} a b :=
  ⟨[], [], rfl, rfl, rfl, rfl, Closed.nil.open 1 1 rfl rfl⟩

/-- After the hunks `out` and a gap, the last three lines `E3` of a run of equal lines open a new hunk; if they end
the texts, the new hunk stays unwritten and they are a gap as well. -/
theorem inv_fresh {a b : List Line} {out : List Hunk} {PA PB : List Line} (hc : Closed out PA PB)
    (E3 RA RB : List Line) (ai bi : Nat) (ha : a = PA ++ (E3 ++ RA)) (hb : b = PB ++ (E3 ++ RB))
    (hai : ai = PA.length + 3) (hbi : bi = PB.length + 3) (h3 : E3.length = 3) (last : Bool)
    (hlast : last = true → RA = [] ∧ RB = []) :
    (last = false → Inv a b ⟨out, ai, bi,
      ({ leftLine := ai - 2, rightLine := bi - 2 } : Hunk).add ' ' (slice a (ai - 3) ai)⟩ RA RB) ∧
      (last = true → Closed out a b) := by
  refine ⟨fun _ => ?_, fun hl => ?_⟩
  · rw [slice_at PA E3 RA a _ _ ha (by omega) (by omega)]
    exact ⟨PA ++ E3, PB ++ E3, by rw [ha, List.append_assoc], by rw [hb, List.append_assoc],
      by rw [List.length_append, h3]; exact hai, by rw [List.length_append, h3]; exact hbi,
      (hc.open _ _ (by omega) (by omega)).ctx E3 (by rw [h3]; decide)⟩
  · obtain ⟨rfl, rfl⟩ := hlast hl
    simpa only [ha, hb, List.append_nil] using hc.gap E3

/-- `first` matters only for a leading run of more than three equal lines, when the loop has not
touched its state yet. -/
theorem ldStep_inv (a b : List Line) (st : LDState) (first last : Bool) (D I E RA RB : List Line)
    (hinv : Inv a b st (D ++ E ++ RA) (I ++ E ++ RB)) (hfirst : first = true → st = {})
    (hsd : D.length ≤ 14) (hsi : I.length ≤ 14) (hlast : last = true → RA = [] ∧ RB = []) :
    (last = false → Inv a b (ldStep a b st ⟨D.length, I.length, E.length⟩ first last) RA RB) ∧
      (last = true → Closed (ldStep a b st ⟨D.length, I.length, E.length⟩ first last).out a b) := by
  obtain ⟨PA, PB, ha, hb, hai, hbi, ho⟩ := hinv
  simp only [List.append_assoc] at ha hb
  have sD : slice a st.ai (st.ai + D.length) = D := slice_at PA D (E ++ RA) a _ _ ha hai rfl
  have sI : slice b st.bi (st.bi + I.length) = I := slice_at PB I (E ++ RB) b _ _ hb hbi rfl
  have o1 := (ho.minus D hsd).plus I hsi
  rw [← List.append_assoc] at ha hb
  have pos : st.ai + D.length = (PA ++ D).length := by rw [List.length_append, hai]
  unfold ldStep
  simp only [sD, sI, add_right_comm_sub]
  by_cases h1 : first = true ∧ D.length = 0 ∧ I.length = 0 ∧ E.length > 3
  · -- leading run of equal lines: nothing is open, only its last three lines are shown
    rw [if_pos h1]
    obtain ⟨hf, hdel, hins, heq⟩ := h1
    obtain rfl := hfirst hf
    obtain rfl := List.eq_nil_of_length_eq_zero hdel
    obtain rfl := List.eq_nil_of_length_eq_zero hins
    obtain rfl := List.eq_nil_of_length_eq_zero hai.symm
    obtain rfl := List.eq_nil_of_length_eq_zero hbi.symm
    obtain ⟨E2, E3, rfl, h3⟩ := split_last3 E (by omega)
    simp only [List.nil_append, List.append_nil, List.append_assoc] at ha hb
    have hc : Closed [] ([] ++ E2) ([] ++ E2) := Closed.nil.gap E2
    simp only [add_nil, List.length_nil, Nat.zero_add, Nat.add_zero]
    exact inv_fresh hc E3 RA RB _ _ ha hb (by simp [h3]) (by simp [h3]) h3 last hlast
  rw [if_neg h1]
  by_cases h6 : E.length > 6
  · -- the hunk is closed after three lines `E1` of context, `E2` is skipped, `E3` opens the next
    rw [if_pos h6]
    obtain ⟨E1, E2, E3, rfl, hl1, hl3⟩ := split3 E h6
    simp only [List.append_assoc] at ha hb
    rw [slice_at (PA ++ D) E1 (E2 ++ (E3 ++ RA)) a _ _ (by rw [ha, List.append_assoc]) pos (by rw [hl1])]
    have hc := ((o1.ctx E1 (by rw [hl1]; decide)).close).gap E2
    exact inv_fresh hc E3 RA RB _ _ (by rw [ha]; simp only [List.append_assoc])
      (by rw [hb]; simp only [List.append_assoc])
      (by simp only [List.length_append]; omega) (by simp only [List.length_append]; omega) hl3 last hlast
  rw [if_neg h6]
  by_cases hl : last = true
  · simp only [hl, if_true]
    obtain ⟨rfl, rfl⟩ := hlast hl
    refine ⟨fun h => (by cases h), fun _ => ?_⟩
    simp only [List.append_nil] at ha hb
    rw [slice_take (PA ++ D) E a _ 3 ha pos]
    have := ((o1.ctx (E.take 3) (by rw [List.length_take]; omega)).close).gap (E.drop 3)
    simpa only [ha, hb, List.append_assoc, List.take_append_drop] using this
  · simp only [hl, Bool.false_eq_true, if_false]
    refine ⟨fun _ => ?_, fun h => (by cases h)⟩
    rw [slice_at (PA ++ D) E RA a _ _ (by rw [ha, List.append_assoc]) pos (Nat.add_right_comm _ _ _)]
    exact ⟨_, _, ha.trans (List.append_assoc _ _ _).symm, hb.trans (List.append_assoc _ _ _).symm,
      by simp only [List.length_append] at pos ⊢; omega,
      by simp only [List.length_append, hbi]; omega,
      o1.ctx E (Nat.le_trans (Nat.le_of_not_lt h6) (by decide))⟩

theorem ldLoop_final (a b : List Line) (cs : List Chunk) (st : LDState) (first : Bool)
    (RA RB : List Line) (hinv : Inv a b st RA RB) (hfirst : first = true → st = {})
    (hv : Valid cs RA RB) (hshort : ∀ c ∈ cs, c.del ≤ 14 ∧ c.ins ≤ 14) (hne : cs ≠ []) :
    Closed (ldLoop a b st first cs).out a b := by
  induction cs generalizing st first RA RB with
  | nil => exact absurd rfl hne
  | cons c cs ih =>
    obtain ⟨D, I, E, ra', rb', rfl, rfl, rfl, hv'⟩ := (valid_cons_iff c cs RA RB).mp hv
    have hs := hshort _ (List.mem_cons_self ..)
    have step := ldStep_inv a b st first cs.isEmpty D I E ra' rb' hinv hfirst hs.1 hs.2
      (fun hl => by rw [List.isEmpty_iff.mp hl] at hv'; exact hv')
    unfold ldLoop
    cases cs with
    | nil => simpa [ldLoop] using step.2 rfl
    | cons c' cs' =>
      exact ih _ false _ _ (step.1 rfl) (fun h => by cases h) hv'
        (fun x hx => hshort x (by simp [hx])) (by simp)

theorem hunksOfChunks_apply (a b : List Line) (cs : List Chunk) (hv : Valid cs a b)
    (hshort : ∀ c ∈ cs, c.del ≤ 14 ∧ c.ins ≤ 14) :
    applyHunks (hunksOfChunks a b cs) a = some b := by
  apply Closed.applies
  cases cs with
  | nil =>
    obtain ⟨rfl, rfl⟩ := hv
    exact Closed.nil
  | cons c cs =>
    exact ldLoop_final a b _ {} true a b (inv_init a b) (fun _ => rfl) hv hshort (by simp)

end TmVerif.Diff
