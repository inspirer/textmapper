import TmVerif.Model.LRX
import TmVerif.Proofs.Basic
import TmVerif.Proofs.LR
/-!
The extended runtime model `Model/LRX.lean`. Every function of the model acts by `Moves inp (s, e)`, a
sequence of elementary configuration updates (`Move`), so an invariant that does not speak of the stack is
checked against the handful of moves only; `setStack` puts ANY stack, so invariants of the stack (`XInv`)
walk the functions themselves. Flag `s` allows the moves that touch `shiftCounter` (`shift`, `bump`), `e`
those of the error branch (`emitError`, `setRec`). `xstep` is a pre-step `xpre`, then `onError`
(`xstep_pre`); the other proof modules never unfold `xstep`. `applyRuleEvents` is a `mapM` of `repX` over the
reports of `ruleOf` followed by the rule's own node (`applyRuleEvents_eq`); what one report puts out is read
once, on the right-hand side in source order (`repX_eq`, `kept_slice`), and the own node is the report of the
whole right-hand side (`spanEv_own`). The lookahead of a configuration is
`next`/`pos`; `XNextOk` ties it to the token source, `nx` is the index of the token under the cursor, and `fetch`
keeps both (`XNextOk.fetch`, `fetch_idx`, `fetch_nx`).
-/
namespace TmVerif.EventNesting
open TmVerif.LR TmVerif.LRX

/-- index of the next unconsumed token -/
def nx (c : XCfg) : Nat := if c.next.isSome then c.pos - 1 else c.pos

end TmVerif.EventNesting

namespace TmVerif.LRX
open TmVerif.LR
open TmVerif.EventNesting (nx)

def XEv.isNode : XEv → Bool
  | .node _ _ _ => true
  | .error _ _ => false

def XEv.isError : XEv → Bool
  | .node _ _ _ => false
  | .error _ _ => true

/- In `fetch` … `emitNodes` the binder `b` is the whole flag pair, in `emitError`/`setRec` it is the
first flag (the second is `true`), in `shift`/`bump` `e` is the second (the first is `true`).
The premise of `setRec` is what `onError` knows when it sets `recovering := 4` (the handler has
just been called unless the counter was already running); `Move.recInv` needs it. -/
inductive Move (inp : Input) : Bool × Bool → XCfg → XCfg → Prop
  | fetch (b) (c : XCfg) : c.next = none →
      Move inp b c { c with next := some (inp.tok c.pos), pos := c.pos + 1 }
  | dropNext (b) (c : XCfg) : Move inp b c { c with next := none }
  | setStack (b) (c : XCfg) (s : List Entry) (q : Int) : Move inp b c { c with stack := s, state := q }
  | emitNodes (b) (c : XCfg) (evs : List XEv) : (∀ e ∈ evs, e.isNode = true) →
      Move inp b c { c with evs := evs ++ c.evs }
  | emitError (b : Bool) (c : XCfg) (tk : Tok) : c.next = some tk → c.recovering = 0 →
      Move inp (b, true) c { c with lastErr := (tk.off, tk.endo), evs := .error tk.off tk.endo :: c.evs }
  | setRec (b : Bool) (c : XCfg) : (c.recovering = 0 → ∃ o e rest, c.evs = .error o e :: rest) →
      Move inp (b, true) c { c with recovering := 4 }
  | shift (e : Bool) (c : XCfg) (tk : Tok) (q : Int) (sc : Nat) : c.next = some tk →
      Move inp (true, e) c { c with stack := ⟨tk.sym, tk.off, tk.endo, q⟩ :: c.stack, state := q,
                                    next := if tk.sym ≠ 0 then none else c.next,
                                    recovering := c.recovering - 1, shiftCounter := sc }
  | bump (e : Bool) (c : XCfg) (sc : Nat) : Move inp (true, e) c { c with shiftCounter := sc }

inductive Moves (inp : Input) (b : Bool × Bool) : XCfg → XCfg → Prop
  | refl (c : XCfg) : Moves inp b c c
  | tail {a m c : XCfg} : Moves inp b a m → Move inp b m c → Moves inp b a c

theorem Moves.single {inp b c c'} (h : Move inp b c c') : Moves inp b c c' :=
  .tail (.refl c) h

theorem Moves.trans {inp b a m c} (h1 : Moves inp b a m) (h2 : Moves inp b m c) : Moves inp b a c := by
  induction h2 with
  | refl => exact h1
  | tail _ hm ih => exact .tail ih hm

theorem Move.weaken {inp b c c'} (h : Move inp b c c') : Move inp (true, true) c c' := by
  cases h <;> constructor <;> assumption

theorem Moves.weaken {inp b c c'} (h : Moves inp b c c') : Moves inp (true, true) c c' := by
  induction h with
  | refl => exact .refl _
  | tail _ hm ih => exact .tail ih hm.weaken

theorem fetch_moves (inp : Input) (b : Bool × Bool) (c : XCfg) : Moves inp b c (c.fetch inp).1 := by
  unfold XCfg.fetch
  split
  · exact .refl _
  · next h => exact .single (.fetch _ _ h)

theorem fetch_some {inp : Input} {c : XCfg} {tk : Tok} (h : c.next = some tk) :
    c.fetch inp = (c, tk) := by
  unfold XCfg.fetch; rw [h]

theorem fetch_none {inp : Input} {c : XCfg} (h : c.next = none) :
    c.fetch inp = ({ c with next := some (inp.tok c.pos), pos := c.pos + 1 }, inp.tok c.pos) := by
  unfold XCfg.fetch; rw [h]

theorem fetch_stack (inp : Input) (c : XCfg) : (c.fetch inp).1.stack = c.stack := by
  unfold XCfg.fetch; split <;> rfl

theorem fetch_state (inp : Input) (c : XCfg) : (c.fetch inp).1.state = c.state := by
  unfold XCfg.fetch; split <;> rfl

theorem fetch_recovering (inp : Input) (c : XCfg) : (c.fetch inp).1.recovering = c.recovering := by
  unfold XCfg.fetch; split <;> rfl

theorem fetch_evs (inp : Input) (c : XCfg) : (c.fetch inp).1.evs = c.evs := by
  unfold XCfg.fetch; split <;> rfl

theorem fetch_next (inp : Input) (c : XCfg) : (c.fetch inp).1.next = some (c.fetch inp).2 := by
  unfold XCfg.fetch
  split
  · next h => simpa using h
  · rfl

def XNextOk (inp : Input) (c : XCfg) : Prop :=
  ∀ tk, c.next = some tk → 1 ≤ c.pos ∧ tk = inp.tok (c.pos - 1)

theorem nx_next {c : XCfg} {tk : Tok} (h : c.next = some tk) : nx c = c.pos - 1 := by
  unfold nx; rw [h]; rfl

theorem nx_none {c : XCfg} (h : c.next = none) : nx c = c.pos := by
  unfold nx; rw [h]; rfl

theorem nx_some {inp : Input} {c : XCfg} {tk : Tok} (hn : XNextOk inp c) (h : c.next = some tk) :
    tk = inp.tok (nx c) := by
  rw [nx_next h]; exact (hn tk h).2

theorem XNextOk.fetch {inp : Input} {c : XCfg} (h : XNextOk inp c) : XNextOk inp (c.fetch inp).1 := by
  cases hn : c.next with
  | some tk => rw [fetch_some hn]; exact h
  | none =>
    rw [fetch_none hn]
    intro tk htk
    exact ⟨Nat.le_add_left _ _, (Option.some.inj htk).symm⟩

theorem fetch_idx (inp : Input) (c : XCfg) (h : XNextOk inp c) :
    (c.fetch inp).2 = inp.tok (nx c) ∧ (c.fetch inp).1.pos = nx c + 1 := by
  cases hn : c.next with
  | some tk =>
    rw [fetch_some hn, nx_next hn]
    obtain ⟨h1, h2⟩ := h tk hn
    exact ⟨h2, (Nat.sub_add_cancel h1).symm⟩
  | none =>
    rw [fetch_none hn, nx_none hn]
    exact ⟨rfl, rfl⟩

theorem fetch_nx (inp : Input) (c : XCfg) (h : XNextOk inp c) :
    nx (c.fetch inp).1 = nx c := by
  rw [nx_next (fetch_next inp c), (fetch_idx inp c h).2]; rfl

def MonoToks (inp : Input) : Prop := ∀ i j, i ≤ j → (inp.tok i).off ≤ (inp.tok j).off

theorem tok_off_le_endOff {inp : Input} (hm : MonoToks inp) (j : Nat) : (inp.tok j).off ≤ inp.endOff := by
  have h := hm j (max j inp.toks.size) (Nat.le_max_left _ _)
  rw [tok_of_size_le (Nat.le_max_right _ _)] at h
  exact h

theorem xdecode_inv {x : XTables} {inp : Input} {cx cx1 : XCfg} {a : Act} :
    xdecode x inp cx = some (cx1, a) →
    (needsTok x.t cx.state = some true ∧ cx1 = (cx.fetch inp).1 ∧
      actOf x.t (deepLA x.t inp (inp.toks.size + 2) (cx.fetch inp).1.pos) cx.state (cx.fetch inp).2.sym = some a) ∨
    (needsTok x.t cx.state = some false ∧ cx1 = cx ∧ actOf x.t (fun _ => none) cx.state 0 = some a) := by
  fun_cases xdecode x inp cx with
  | case1 => nofun
  | case2 hn c1 tk hf =>
    rw [hf, Option.map_eq_some_iff]
    rintro ⟨_, h, ⟨⟩⟩
    exact .inl ⟨hn, rfl, h⟩
  | case3 hn =>
    rw [Option.map_eq_some_iff]
    rintro ⟨_, h, ⟨⟩⟩
    exact .inr ⟨hn, rfl, h⟩

theorem xdecode_cases {x : XTables} {inp : Input} {c c1 : XCfg} {a : Act}
    (h : xdecode x inp c = some (c1, a)) : c1 = c ∨ c1 = (c.fetch inp).1 := by
  rcases xdecode_inv h with ⟨_, h, _⟩ | ⟨_, h, _⟩
  · exact .inr h
  · exact .inl h

theorem xdecode_moves {x : XTables} {inp : Input} {c c1 : XCfg} {a : Act} (b : Bool × Bool)
    (h : xdecode x inp c = some (c1, a)) : Moves inp b c c1 := by
  rcases xdecode_cases h with h | h
  · subst h; exact .refl _
  · subst h; exact fetch_moves inp b c

theorem skipBroken_moves (inp : Input) (b : Bool × Bool) (can : Int → Bool) (fuel : Nat) (c : XCfg) (e : Nat) :
    Moves inp b c (skipBroken inp can fuel c e).1 := by
  induction fuel generalizing c e with
  | zero => exact .refl _
  | succ n ih =>
    unfold skipBroken
    simp only
    split
    · exact ((fetch_moves inp b c).tail (.dropNext _ _)).trans (ih _ _)
    · exact fetch_moves inp b c

theorem recoverLoop_moves {x : XTables} {inp : Input} {fin : Int} {rp : List Nat} (b : Bool × Bool)
    (fuel : Nat) (c : XCfg) (syms : List Int) (s e : Nat) (c' : XCfg) :
    recoverLoop x inp fin rp fuel c syms s e = some (some c') → Moves inp b c c' := by
  have hsk := fun syms : List Int => skipBroken_moves inp b (fun sym => syms.contains sym) (inp.toks.size + 2)
  fun_induction recoverLoop x inp fin rp fuel c syms s e with
  | case1 | case2 | case3 | case4 | case6 | case7 => nofun
  -- no recovery position for this token: another round
  | case5 fuel c syms s e c1 endoff h1 _ _ _ _ _ _ _ ih => exact fun h => (h1 ▸ hsk syms c 0).trans (ih h)
  -- a recovery position is found
  | case8 fuel c syms s e c1 endoff h1 =>
    rintro ⟨⟩
    exact (h1 ▸ hsk syms c 0 :).tail (.setStack _ _ _ _)

theorem recoverFromError_moves {x : XTables} {inp : Input} {fin : Int} (b : Bool × Bool) (c c' : XCfg)
    (h : recoverFromError x inp fin c = some (some c')) : Moves inp b c c' := by
  unfold recoverFromError at h
  simp only at h
  split at h
  · cases h
  · cases h
  · exact (fetch_moves inp b c).trans (recoverLoop_moves b _ _ _ _ _ _ h)

def XStep.cfg : XStep → XCfg
  | .cont c => c
  | .done _ c => c

def errPrelude (inp : Input) (c : XCfg) : XCfg :=
  if c.recovering = 0 then
    { (c.fetch inp).1 with lastErr := ((c.fetch inp).2.off, (c.fetch inp).2.endo),
                           evs := .error (c.fetch inp).2.off (c.fetch inp).2.endo :: (c.fetch inp).1.evs }
  else c

theorem onError_eq_rec {x : XTables} (inp : Input) (fin : Int) (stop : Bool) (c : XCfg)
    (hr : x.recovering = true) :
    onError x inp fin stop c =
      if (c.recovering = 0 ∧ stop = true) then
        .done (.syntaxError (errPrelude inp c).lastErr.1 (errPrelude inp c).lastErr.2) (errPrelude inp c)
      else
        match recoverFromError x inp fin { errPrelude inp c with recovering := 4 } with
        | none => .done .panic { errPrelude inp c with recovering := 4 }
        | some none => .done (.syntaxError (errPrelude inp c).lastErr.1 (errPrelude inp c).lastErr.2)
                          { errPrelude inp c with recovering := 4 }
        | some (some c3) => .cont c3 := by
  unfold onError errPrelude
  by_cases h0 : c.recovering = 0
  · cases stop <;> simp [hr, h0, XCfg.emit] <;> rfl
  · simp [hr, h0] <;> rfl

theorem onError_eq_norec {x : XTables} (inp : Input) (fin : Int) (stop : Bool) (c : XCfg)
    (hr : x.recovering = false) :
    onError x inp fin stop c =
      .done (.syntaxError (c.fetch inp).2.off (c.fetch inp).2.endo) (c.fetch inp).1 := by
  unfold onError
  simp [hr]

theorem errPrelude_moves (inp : Input) (b : Bool) (c : XCfg) : Moves inp (b, true) c (errPrelude inp c) := by
  unfold errPrelude
  split
  · next h0 =>
    exact (fetch_moves inp (b, true) c).tail
      (.emitError _ _ _ (fetch_next inp c) (by rw [fetch_recovering]; exact h0))
  · exact .refl _

theorem onError_rec_moves {x : XTables} (inp : Input) (b : Bool) (fin : Int) (stop : Bool) (c : XCfg)
    (hr : x.recovering = true) : Moves inp (b, true) (errPrelude inp c) (onError x inp fin stop c).cfg := by
  rw [onError_eq_rec inp fin stop c hr]
  have h2 : Moves inp (b, true) (errPrelude inp c) { errPrelude inp c with recovering := 4 } := by
    refine .single (.setRec _ _ ?_)
    unfold errPrelude
    split
    · exact fun _ => ⟨_, _, _, rfl⟩
    · next h0 => exact fun h => absurd h h0
  split
  · exact .refl _
  · split
    · exact h2
    · exact h2
    · next h => exact h2.trans (recoverFromError_moves (b, true) _ _ h)

theorem onError_moves {x : XTables} (inp : Input) (b : Bool) (fin : Int) (stop : Bool) (c : XCfg) :
    Moves inp (b, true) c (onError x inp fin stop c).cfg := by
  cases hr : x.recovering
  · rw [onError_eq_norec inp fin stop c hr]
    exact fetch_moves inp (b, true) c
  · exact (errPrelude_moves inp b c).trans (onError_rec_moves inp b fin stop c hr)

/-- the listener call of `applyRuleEvents` for one report -/
def repX (fw : Bool) (rhsTop : List Entry) (ln : Nat) (r : Report) : Option XEv :=
  if r.start = r.stop then
    match rhsAt rhsTop ln r.stop with
    | some e => some (XEv.node r.type e.off e.off)
    | none => none
  else if fw then
    let slice := ((List.range (r.stop - r.start)).reverse.filterMap fun k => rhsAt rhsTop ln (r.start + k))
    if slice.length ≠ r.stop - r.start then none
    else match trimTrailing slice with
      | [] => none
      | last :: rest => some (XEv.node r.type ((rest.getLast?).getD last).off last.endo)
  else
    match rhsAt rhsTop ln r.start, rhsAt rhsTop ln (r.stop - 1) with
    | some a, some b => some (XEv.node r.type a.off b.endo)
    | _, _ => none

theorem foldl_none {α β : Type} (f : Option β → α → Option β) (h : ∀ a, f none a = none) (l : List α) :
    l.foldl f none = none := by
  induction l with
  | nil => rfl
  | cons a l ih => rw [List.foldl_cons, h, ih]

theorem foldl_opt {α β : Type} (f : Option (List β) → α → Option (List β)) (g : α → Option β)
    (hnone : ∀ a, f none a = none)
    (hsome : ∀ evs a, f (some evs) a = (g a).map (fun e => evs ++ [e])) (l : List α) :
    ∀ acc : List β, l.foldl f (some acc) = (l.mapM g).map (acc ++ ·) := by
  induction l with
  | nil => intro acc; simp
  | cons a l ih =>
    intro acc
    rw [List.foldl_cons, hsome]
    cases hg : g a with
    | none => simp [foldl_none f hnone, hg]
    | some e =>
      simp only [Option.map_some]
      rw [ih]
      simp only [List.mapM_cons, hg]
      cases List.mapM g l <;> simp

/-- the entry of `tmRuleType`/`Parser.Actions` for `rule`; synthetic rules have no actions, like the default entry -/
def ruleOf (x : XTables) (rule : Int) : RuleInfo :=
  (if rule < 0 then none else x.rules[rule.toNat]?).getD {}

theorem ruleOf_of_nonneg {x : XTables} {rule : Int} (h : 0 ≤ rule) :
    ruleOf x rule = (x.rules[rule.toNat]?).getD {} := by
  rw [ruleOf, if_neg (Int.not_lt.2 h)]

theorem ruleOf_cases (x : XTables) (rule : Int) :
    ruleOf x rule = {} ∨ (0 ≤ rule ∧ x.rules[rule.toNat]? = some (ruleOf x rule)) := by
  unfold ruleOf
  split
  · exact .inl rfl
  · cases x.rules[rule.toNat]? with
    | none => exact .inl rfl
    | some info => exact .inr ⟨by omega, rfl⟩

def ownNode (info : RuleInfo) (off endo : Nat) : List XEv :=
  if info.ruleType ≠ 0 then [XEv.node info.ruleType off endo] else []

theorem applyRuleEvents_eq (x : XTables) (rule : Int) (ln off endo : Nat) (st : List Entry) :
    applyRuleEvents x rule ln off endo st =
      ((ruleOf x rule).reports.mapM (repX x.fixWhitespace (st.take ln) ln)).map fun evs =>
        (evs ++ ownNode (ruleOf x rule) off
            (if (ruleOf x rule).fixWS then fixTrailingWS off endo (st.take ln) else endo),
          if (ruleOf x rule).fixWS then fixTrailingWS off endo (st.take ln) else endo) := by
  unfold applyRuleEvents ruleOf ownNode
  generalize (if rule < 0 then none else x.rules[rule.toNat]?) = info
  cases info with
  | none => rfl
  | some info =>
    simp only [Option.getD_some]
    rw [foldl_opt _ (repX x.fixWhitespace (st.take ln) ln) (fun _ => rfl)]
    · cases List.mapM (repX x.fixWhitespace (st.take ln) ln) info.reports with
      | none => rfl
      | some evs => by_cases h : info.ruleType ≠ 0 <;> simp [h]
    · intro evs r
      unfold repX
      by_cases he : r.start = r.stop
      · simp only [he, if_true]
        cases rhsAt (st.take ln) ln r.stop <;> rfl
      · simp only [he, if_false]
        cases x.fixWhitespace with
        | true =>
          simp only [if_true]
          split
          · rfl
          · cases trimTrailing _ <;> rfl
        | false =>
          simp only [Bool.false_eq_true, if_false]
          cases rhsAt (st.take ln) ln r.start with
          | none => rfl
          | some a => cases rhsAt (st.take ln) ln (r.stop - 1) <;> rfl

theorem repX_isNode {fw : Bool} {rhsTop : List Entry} {ln : Nat} {r : Report} {e : XEv} :
    repX fw rhsTop ln r = some e → e.isNode = true := by
  fun_cases repX fw rhsTop ln r <;> intro h <;> cases h <;> rfl

theorem applyRuleEvents_nodes {x : XTables} {rule : Int} {ln off endo : Nat} {st : List Entry}
    {evs : List XEv} {e' : Nat} (h : applyRuleEvents x rule ln off endo st = some (evs, e')) :
    ∀ e ∈ evs, e.isNode = true := by
  rw [applyRuleEvents_eq] at h
  obtain ⟨reps, hm, h⟩ := Option.map_eq_some_iff.1 h
  cases h
  intro e he
  rcases List.mem_append.1 he with h1 | h1
  · obtain ⟨_, _, hr⟩ := (mapM_eq_some_iff.1 hm).flip.mem e h1
    exact repX_isNode hr
  · unfold ownNode at h1
    split at h1
    · cases List.mem_singleton.1 h1; rfl
    · cases h1

theorem rhsAt_eq (rhsTop : List Entry) (ln j : Nat) (h : rhsTop.length = ln) :
    rhsAt rhsTop ln j = rhsTop.reverse[j]? := by
  unfold rhsAt
  split
  · rename_i hj
    rw [List.getElem?_reverse (by omega), h]
  · rename_i hj
    rw [List.getElem?_eq_none (by simp; omega)]

theorem filterMap_range_get {α : Type} (l : List α) (s : Nat) (n : Nat) :
    (List.range n).filterMap (fun k => l[s + k]?) = (l.drop s).take n := by
  induction n with
  | zero => simp
  | succ n ih =>
    rw [List.range_succ, List.filterMap_append, ih, List.take_add_one, List.getElem?_drop]
    cases h : l[s + n]? <;> simp [h]

theorem slice_ends {α : Type} (l : List α) {s t : Nat} (hst : s < t) (ht : t ≤ l.length) :
    ((l.drop s).take (t - s)).length = t - s ∧ ((l.drop s).take (t - s)).head? = l[s]? ∧
      ((l.drop s).take (t - s)).getLast? = l[t - 1]? := by
  have hne := Nat.sub_ne_zero_of_lt hst
  have hl : ((l.drop s).take (t - s)).length = t - s := by
    rw [List.length_take, List.length_drop]; exact Nat.min_eq_left (Nat.sub_le_sub_right ht s)
  refine ⟨hl, ?_, ?_⟩
  · rw [List.head?_take, if_neg hne, List.head?_drop]
  · rw [List.getLast?_eq_getElem?, hl, List.getElem?_take, if_pos (Nat.sub_one_lt hne), List.getElem?_drop,
      Nat.sub_sub, ← Nat.add_sub_assoc (show s + 1 ≤ t from hst), Nat.add_sub_add_left]

theorem trimTrailing_spec : ∀ (sl : List Entry), sl ≠ [] → ∃ pre last rest, sl = pre ++ last :: rest ∧
    trimTrailing sl = last :: rest ∧ (∀ E ∈ pre, E.off = E.endo) ∧ (rest = [] ∨ last.off ≠ last.endo)
  | [], h => absurd rfl h
  | [e], _ => ⟨[], e, [], rfl, rfl, (fun _ h => nomatch h), .inl rfl⟩
  | e :: e' :: rest', _ => by
    by_cases he : e.off = e.endo
    · obtain ⟨pre, last, rest, hsl, htrim, hemp, hlast⟩ := trimTrailing_spec (e' :: rest') (List.cons_ne_nil _ _)
      refine ⟨e :: pre, last, rest, by rw [hsl]; rfl, by rw [trimTrailing, if_pos he, htrim], ?_, hlast⟩
      intro E hE
      rcases List.mem_cons.1 hE with rfl | hE
      · exact he
      · exact hemp E hE
    · exact ⟨[], e, e' :: rest', rfl, by rw [trimTrailing, if_neg he], (fun _ h => nomatch h), .inr he⟩

/-- the entries of its slice `S` of the right-hand side (source order) that a report spans: with
`fixWhitespace`, `reportRange` drops trailing empty entries but keeps one -/
def kept (fw : Bool) (S : List Entry) : List Entry :=
  if fw then (trimTrailing S.reverse).reverse else S

def spanEv (ty : Int) (K : List Entry) : Option XEv :=
  match K.head?, K.getLast? with
  | some a, some b => some (XEv.node ty a.off b.endo)
  | _, _ => none

theorem spanEv_rev (ty : Int) (last : Entry) (rest : List Entry) :
    spanEv ty (last :: rest).reverse = some (XEv.node ty ((rest.getLast?).getD last).off last.endo) := by
  simp only [spanEv, List.head?_reverse, List.getLast?_reverse, List.getLast?_cons, List.head?_cons]

/-- The one place where `repX` is read: an empty report sits at the start of the entry that follows it,
a non-empty one inside the right-hand side spans the kept part of its slice. `Events.reportEvent` is the
same formula on ranges (`Events.kept_map`). -/
theorem repX_eq {fw : Bool} {rhsTop : List Entry} {ln : Nat} (hlen : rhsTop.length = ln) {r : Report}
    (hr : r.start ≤ r.stop) :
    repX fw rhsTop ln r =
      if r.start = r.stop then (rhsTop.reverse[r.stop]?).map fun e => XEv.node r.type e.off e.off
      else if r.stop ≤ ln then
        spanEv r.type (kept fw ((rhsTop.reverse.drop r.start).take (r.stop - r.start)))
      else none := by
  unfold repX
  simp only [rhsAt_eq _ _ _ hlen]
  have hl : rhsTop.reverse.length = ln := by rw [List.length_reverse, hlen]
  generalize rhsTop.reverse = l at hl ⊢
  by_cases he : r.start = r.stop
  · rw [if_pos he, if_pos he]; cases l[r.stop]? <;> rfl
  · rw [if_neg he, if_neg he]
    have hlt := Nat.lt_of_le_of_ne hr he
    by_cases ht : r.stop ≤ ln
    · obtain ⟨h1, h2, h3⟩ := slice_ends l hlt (hl ▸ ht)
      rw [if_pos ht]
      cases fw
      · simp only [Bool.false_eq_true, if_false, kept, spanEv, h2, h3]
      · simp only [if_true, kept, List.filterMap_reverse, filterMap_range_get, List.length_reverse, h1, ne_eq,
          not_true_eq_false, if_false]
        cases trimTrailing ((l.drop r.start).take (r.stop - r.start)).reverse with
        | nil => rfl
        | cons last rest => rw [spanEv_rev]
    · rw [if_neg ht]
      cases fw
      · rw [if_neg Bool.false_ne_true, List.getElem?_eq_none (l := l) (i := r.stop - 1) (by omega)]
        cases l[r.start]? <;> rfl
      · simp only [if_true, List.filterMap_reverse, filterMap_range_get, List.length_reverse, List.length_take,
          List.length_drop]
        rw [if_pos (by omega)]

/-- What a report over the slice `l[s:t]` spans: from its first entry to entry `b`, behind which the
slice holds empty entries only; `b` is the last entry of the slice, or with trimming its last non-empty
entry (its first entry if all are empty). -/
theorem kept_slice (fw : Bool) (ty : Int) {l : List Entry} {s t : Nat} (hst : s < t) (ht : t ≤ l.length) :
    ∃ b A B, s ≤ b ∧ b < t ∧ l[s]? = some A ∧ l[b]? = some B ∧
      spanEv ty (kept fw ((l.drop s).take (t - s))) = some (XEv.node ty A.off B.endo) ∧
      (∀ (j : Nat) (E : Entry), b < j → j < t → l[j]? = some E → E.off = E.endo) ∧
      (if fw then (b = s ∨ B.off ≠ B.endo) else b + 1 = t) := by
  obtain ⟨hmn, h2, h3⟩ := slice_ends l hst ht
  cases fw
  · have h1 : t - 1 < t := Nat.sub_one_lt (Nat.ne_zero_of_lt hst)
    obtain ⟨A, hA⟩ : ∃ A, l[s]? = some A := ⟨_, List.getElem?_eq_getElem (Nat.lt_of_lt_of_le hst ht)⟩
    obtain ⟨B, hB⟩ : ∃ B, l[t - 1]? = some B := ⟨_, List.getElem?_eq_getElem (Nat.lt_of_lt_of_le h1 ht)⟩
    refine ⟨t - 1, A, B, Nat.le_sub_one_of_lt hst, h1, hA, hB, ?_,
      fun j E hj1 hj2 => absurd (Nat.le_of_pred_lt hj1) (Nat.not_le_of_lt hj2),
      by rw [if_neg Bool.false_ne_true]; exact Nat.sub_add_cancel (Nat.one_le_of_lt hst)⟩
    simp only [kept, Bool.false_eq_true, if_false, spanEv, h2, h3, hA, hB]
  · obtain ⟨pre, last, rest, hsl, htrim, hemp, hlast⟩ := trimTrailing_spec ((l.drop s).take (t - s)).reverse
      (fun h0 => by rw [List.reverse_eq_nil_iff.1 h0] at hmn; exact absurd hmn (by simp; omega))
    -- the slice front first: what is kept, then the dropped empty entries
    have hM : (l.drop s).take (t - s) = rest.reverse ++ last :: pre.reverse := by
      rw [← List.reverse_reverse ((l.drop s).take (t - s)), hsl]; simp
    have hget : ∀ i, i < t - s → l[s + i]? = (rest.reverse ++ last :: pre.reverse)[i]? := by
      intro i hi
      rw [← hM, List.getElem?_take, if_pos hi, List.getElem?_drop]
    have hn' : t - s = rest.length + 1 + pre.length := by rw [← hmn, hM]; simp; omega
    refine ⟨s + rest.length, (rest.getLast?).getD last, last, Nat.le_add_right .., by omega,
      ?first, ?atB, ?span, ?emptyBehind,
      by rw [if_pos rfl]; exact hlast.imp_left fun h0 => by rw [h0]; rfl⟩
    case first =>
      rw [← Nat.add_zero s, hget 0 (by omega), ← List.head?_eq_getElem?, List.head?_append, List.head?_reverse]
      cases rest.getLast? <;> rfl
    case atB =>
      rw [hget _ (by omega), List.getElem?_append_right (by simp), List.length_reverse, Nat.sub_self]
      rfl
    case span => simp only [kept, if_true, htrim, spanEv_rev]
    case emptyBehind =>
      intro j E hj1 hj2 hE
      obtain ⟨i, rfl⟩ := Nat.exists_eq_add_of_lt hj1
      rw [show s + rest.length + i + 1 = s + (rest.length + (i + 1)) by omega, hget _ (by omega),
        List.getElem?_append_right (by simp), List.length_reverse, Nat.add_sub_cancel_left] at hE
      exact hemp E (List.mem_reverse.1 (List.mem_of_getElem? (l := pre.reverse) (i := i) hE))

/-- The rule's own listener call is that of the report `⟨ty, 0, ln⟩`: `fixTrailingWS` is the trimming of `reportRange`
on the whole right-hand side. -/
theorem spanEv_own (trim : Bool) (ty : Int) {rhs : List Entry} (hne : rhs ≠ []) :
    spanEv ty (kept trim rhs.reverse) = some (XEv.node ty ((rhs.getLast?.map (·.off)).getD 0)
      (if trim then fixTrailingWS ((rhs.getLast?.map (·.off)).getD 0) ((rhs.head?.map (·.endo)).getD 0) rhs
       else (rhs.head?.map (·.endo)).getD 0)) := by
  cases trim
  · obtain ⟨a, l, rfl⟩ := List.exists_cons_of_ne_nil hne
    simp only [kept, spanEv, Bool.false_eq_true, if_false, List.head?_reverse, List.getLast?_reverse, List.head?_cons,
      List.getLast?_cons]
    rfl
  · obtain ⟨pre, last, rest, rfl, htrim, hemp, hlast⟩ := trimTrailing_spec rhs hne
    have hfind : pre.find? (fun e => e.off ≠ e.endo) = none := List.find?_eq_none.2 (by simpa using hemp)
    simp only [kept, if_true, List.reverse_reverse, htrim, spanEv_rev, fixTrailingWS, List.isEmpty_eq_false_iff.2 hne,
      Bool.false_eq_true, if_false, List.find?_append, hfind, Option.none_or, List.getLast?_append, List.getLast?_cons,
      Option.some_or, Option.map_some, Option.getD_some, List.find?_cons]
    -- the first non-empty entry from the top is `last`, unless all entries are empty
    rcases hlast with rfl | hl
    · by_cases hl : last.off = last.endo
      · simp [hl]
      · simp [hl]
    · simp [hl]

theorem repX_some (fw : Bool) {rhsTop : List Entry} {ln : Nat} (htl : rhsTop.length = ln) {r : Report}
    (h1 : r.start ≤ r.stop) (h2 : r.stop ≤ ln) (h3 : r.start = r.stop → r.stop < ln) :
    ∃ e, repX fw rhsTop ln r = some e := by
  rw [repX_eq htl h1]
  by_cases he : r.start = r.stop
  · rw [if_pos he, List.getElem?_eq_getElem (by rw [List.length_reverse, htl]; exact h3 he)]
    exact ⟨_, rfl⟩
  · obtain ⟨_, _, _, _, _, _, _, hev, _⟩ := kept_slice fw r.type (l := rhsTop.reverse)
      (s := r.start) (t := r.stop) (by omega) (by rw [List.length_reverse]; omega)
    rw [if_neg he, if_pos h2, hev]
    exact ⟨_, rfl⟩

/-- the cancellation poll: `shiftCounter+1` is a multiple of 512 and the context is done -/
def pollHit (cancelAt : Nat) (c1 : XCfg) : Prop :=
  (c1.shiftCounter + 1) % 512 = 0 ∧ cancelAt ≠ 0 ∧ c1.nodeCount ≥ cancelAt

instance (k : Nat) (c : XCfg) : Decidable (pollHit k c) :=
  inferInstanceAs (Decidable ((c.shiftCounter + 1) % 512 = 0 ∧ k ≠ 0 ∧ c.nodeCount ≥ k))

def failedShift (x : XTables) (c1 : XCfg) : Bool :=
  x.cancellable && !x.t.optimized &&
      (match geti x.t.action c1.state, c1.next with
       | some a, some tk =>
         if a = -1 then true
         else if a < -2 then lalrLookup x.t a tk.sym == some (-1) else false
       | _, _ => false)

inductive XPre where
  | cont (c : XCfg)
  | done (r : XResult) (c : XCfg)
  | err (c : XCfg)

def XPre.run (f : XCfg → XStep) : XPre → XStep
  | .cont c => .cont c
  | .done r c => .done r c
  | .err c => f c

def XPre.cfg : XPre → XCfg
  | .cont c => c
  | .done _ c => c
  | .err c => c

/-- the part of the reduce branch after the right-hand side range is known -/
def xreduceTail (x : XTables) (c2 : XCfg) (rule : Int) (ln : Nat) (lhs : Int) (off endo : Nat) : XPre :=
  match applyRuleEvents x rule ln off endo c2.stack with
  | none => .done .panic c2
  | some (evs, endo') =>
    match c2.stack.drop ln with
    | [] => .done .panic { c2 with evs := evs.reverse ++ c2.evs }
    | top :: _ =>
      match gotoState x.t top.state lhs with
      | none => .done .panic { c2 with evs := evs.reverse ++ c2.evs }
      | some q =>
        if q = -1 then
          .err { c2 with evs := evs.reverse ++ c2.evs, stack := ⟨lhs, off, endo', q⟩ :: c2.stack.drop ln, state := q }
        else
          .cont { c2 with evs := evs.reverse ++ c2.evs, stack := ⟨lhs, off, endo', q⟩ :: c2.stack.drop ln, state := q }

def xreducePre (x : XTables) (inp : Input) (c1 : XCfg) (rule : Int) : XPre :=
  match geti x.t.ruleLen rule, geti x.t.ruleSymbol rule with
  | some ln, some lhs =>
    if ln.toNat > c1.stack.length then .done .panic c1
    else if ln.toNat = 0 then
      xreduceTail x (c1.fetch inp).1 rule ln.toNat lhs (c1.fetch inp).2.off (c1.fetch inp).2.off
    else
      xreduceTail x c1 rule ln.toNat lhs
        (((c1.stack.take ln.toNat).getLast?.map (·.off)).getD 0)
        (((c1.stack.take ln.toNat).head?.map (·.endo)).getD 0)
  | _, _ => .done .panic c1

def bump (c : XCfg) : XCfg := { c with shiftCounter := c.shiftCounter + 1 }

/-- does an iteration that decodes this action count as a shift attempt (it increments `shiftCounter`
and polls the context)? In the default encoding a shift whose goto is missing has counted already. -/
def polled (x : XTables) (c1 : XCfg) : Act → Bool
  | .reduce _ => false
  | .shift _ => x.cancellable
  | .error => failedShift x c1

/-- the iteration after decoding and polling; `cancelAt` does not occur -/
def preBody (x : XTables) (inp : Input) (c1 : XCfg) : Act → XPre
  | .reduce r => xreducePre x inp c1 r
  | .shift q =>
    match c1.next with
    | none => .done .panic c1
    | some tk =>
      .cont { c1 with stack := ⟨tk.sym, tk.off, tk.endo, q⟩ :: c1.stack, state := q,
                      next := if tk.sym ≠ 0 then none else c1.next,
                      recovering := c1.recovering - 1,
                      shiftCounter := if x.cancellable then c1.shiftCounter + 1 else c1.shiftCounter }
  | .error => .err { c1 with shiftCounter := if failedShift x c1 then c1.shiftCounter + 1 else c1.shiftCounter }

theorem preBody_shift {x : XTables} {inp : Input} {c1 : XCfg} {q : Int} {tk : Tok}
    (h : c1.next = some tk) :
    preBody x inp c1 (.shift q) =
      .cont { c1 with stack := ⟨tk.sym, tk.off, tk.endo, q⟩ :: c1.stack, state := q,
                      next := if tk.sym ≠ 0 then none else c1.next,
                      recovering := c1.recovering - 1,
                      shiftCounter := if x.cancellable then c1.shiftCounter + 1 else c1.shiftCounter } := by
  simp only [preBody, h]

theorem preBody_shift_none {x : XTables} {inp : Input} {c1 : XCfg} {q : Int} (h : c1.next = none) :
    preBody x inp c1 (.shift q) = .done .panic c1 := by
  simp only [preBody, h]

/-- decode, poll (the only place where `cancelAt` occurs), act -/
def xpre (x : XTables) (inp : Input) (cancelAt : Nat) (c : XCfg) : XPre :=
  match xdecode x inp c with
  | none => .done .panic c
  | some (c1, a) =>
    if polled x c1 a = true ∧ pollHit cancelAt c1 then .done .cancelled (bump c1) else preBody x inp c1 a

theorem XPre.run_ite (f : XCfg → XStep) (p : Prop) [Decidable p] (a b : XPre) :
    (if p then a else b).run f = if p then a.run f else b.run f := by
  split <;> rfl

theorem xstep_pre (x : XTables) (inp : Input) (fin : Int) (stop : Bool) (k : Nat) (c : XCfg) :
    xstep x inp fin stop k c = (xpre x inp k c).run (onError x inp fin stop) := by
  unfold xstep xpre
  rcases xdecode x inp c with _ | ⟨c1, rule | q | _⟩
  · rfl
  · dsimp only
    rw [if_neg fun hp => nomatch hp.1]
    show _ = (xreducePre x inp c1 rule).run _
    unfold xreducePre
    cases geti x.t.ruleLen rule with
    | none => rfl
    | some ln =>
      cases geti x.t.ruleSymbol rule with
      | none => rfl
      | some lhs =>
        dsimp only
        by_cases hl : ln.toNat > c1.stack.length
        · simp only [hl, if_true]; rfl
        · simp only [hl, if_false]
          unfold xreduceTail
          -- an empty right-hand side reads its range off the fetched token; from there on the two cases are alike
          by_cases h0 : ln.toNat = 0 <;> simp only [h0, if_true, if_false]
          all_goals
            generalize applyRuleEvents x rule _ _ _ _ = r
            rcases r with _ | ⟨evs, endo'⟩
            · rfl
            · dsimp only
              generalize List.drop _ _ = rest
              rcases rest with _ | ⟨top, _⟩
              · rfl
              · dsimp only
                cases gotoState x.t top.state lhs with
                | none => rfl
                | some q => rw [XPre.run_ite]; rfl
  · dsimp only
    rw [XPre.run_ite]
    by_cases hg : x.cancellable = true ∧ pollHit k c1
    · exact (if_pos hg).trans (if_pos (c := polled x c1 (.shift q) = true ∧ pollHit k c1) hg).symm
    · refine (if_neg hg).trans (Eq.trans ?_ (if_neg (c := polled x c1 (.shift q) = true ∧ pollHit k c1) hg).symm)
      show _ = XPre.run _ (match c1.next with | none => _ | some tk => _)
      cases c1.next <;> rfl
  · show (if failedShift x c1 = true then (if pollHit k c1 then _ else _) else _) =
      XPre.run _ (if failedShift x c1 = true ∧ pollHit k c1 then _
        else XPre.err { c1 with shiftCounter := if failedShift x c1 = true then c1.shiftCounter + 1 else c1.shiftCounter })
    by_cases hf : failedShift x c1 = true
    · by_cases hp : pollHit k c1
      · rw [if_pos hf, if_pos hp, if_pos ⟨hf, hp⟩]; rfl
      · rw [if_pos hf, if_neg hp, if_neg (fun h => hp h.2), if_pos hf]; rfl
    · rw [if_neg hf, if_neg (fun h => hf h.1), if_neg hf]; rfl

end TmVerif.LRX
