/-
C14, arguments of a reference, and the simulation lemma.
* `findArg` in a list that binds no parameter twice is membership, hence invariant under the permutation `sortArgs`
  applies; `resolveRef_callEnv`: the arguments `resolveRef` makes explicit (propagation by name, defaults) and the
  order `sortArgs` puts them in leave the environment of the reference unchanged.
* `SeqRel`, `der_sim`: a simulation between two templated grammars of the same shape, under a relation on
  environments; `Proofs/TemplatesLA.lean` uses it for lookahead propagation.
* `resolveAll_sound`: its first instance, source-level meaning = meaning of the loaded model.
-/
import TmVerif.Proofs.Templates
namespace TmVerif.Templates

theorem nodupNat_nodup : ∀ {l : List Nat}, nodupNat l = true → l.Nodup
  | [], _ => List.nodup_nil
  | a :: l, h => by
    simp [nodupNat] at h
    exact List.nodup_cons.mpr ⟨h.1, nodupNat_nodup h.2⟩

def pars (l : List Arg) : List Nat := l.map (·.param)

theorem findArg_none_iff {l : List Arg} {p : Nat} : findArg l p = none ↔ p ∉ pars l := by
  induction l with
  | nil => simp [findArg, pars]
  | cons a l ih =>
    rw [findArg_cons]
    by_cases h : a.param = p
    · simp [h, pars]
    · simp [h, Ne.symm h, ih, pars]

theorem findArg_append (l₁ l₂ : List Arg) (p : Nat) :
    findArg (l₁ ++ l₂) p = (findArg l₁ p).or (findArg l₂ p) := by
  simp [findArg, List.find?_append, Option.map_or]

theorem findArg_eq_some_iff {l : List Arg} (h : (pars l).Nodup) {p : Nat} {v : ArgV} :
    findArg l p = some v ↔ ⟨p, v⟩ ∈ l := by
  induction l with
  | nil => simp [findArg]
  | cons a l ih =>
    obtain ⟨ha, hl⟩ := List.nodup_cons.1 h
    rw [findArg_cons, List.mem_cons]
    by_cases hp : a.param = p
    · rw [if_pos hp]
      subst hp
      constructor
      · intro hv; cases hv; exact .inl rfl
      · rintro (hv | hv)
        · exact congrArg (fun x => some x.v) hv.symm
        · exact absurd (List.mem_map_of_mem (f := (·.param)) hv) ha
    · rw [if_neg hp, ih hl]
      exact ⟨.inr, fun hv => hv.resolve_left fun e => hp (congrArg Arg.param e).symm⟩

theorem findArg_perm {l l' : List Arg} (hp : l.Perm l') (h : (pars l').Nodup) (p : Nat) :
    findArg l p = findArg l' p := by
  have h' : (pars l).Nodup := (hp.map _).nodup_iff.2 h
  apply Option.ext
  intro v
  rw [findArg_eq_some_iff h', findArg_eq_some_iff h, hp.mem_iff]

theorem insertBy_perm (key : Arg → Nat) (a : Arg) (l : List Arg) : (insertBy key a l).Perm (a :: l) := by
  fun_induction insertBy key a l with
  | case1 => exact .refl _
  | case2 b l h => exact .refl _
  | case3 b l h ih => exact (ih.cons b).trans (.swap a b l)

theorem foldl_insertBy_perm (key : Arg → Nat) : ∀ (l acc : List Arg),
    (l.foldl (fun acc a => insertBy key a acc) acc).Perm (l ++ acc)
  | [], _ => .refl _
  | a :: l, acc =>
    (foldl_insertBy_perm key l _).trans (((insertBy_perm key a acc).append_left l).trans List.perm_middle)

theorem findArg_sortArgs (tp : List Nat) (l : List Arg) (p : Nat) (h : (pars l).Nodup) :
    findArg (sortArgs tp l) p = findArg l p := by
  unfold sortArgs
  split
  · rfl
  · exact findArg_perm ((foldl_insertBy_perm _ l []).trans (.of_eq (List.append_nil l))) h p

/-- what `resolveRef` adds for a missing parameter `p` -/
def fillOne (g : TGrammar) (caller : Nonterm) (p : Nat) : Option Arg :=
  match caller.params.find? (fun q => g.pname q == g.pname p) with
  | some q => some (Arg.mk p (.takeFrom q))
  | none => match g.dflt p with
    | some v => some (Arg.mk p (.value v))
    | none => none

/-- the argument binds `p` to what `srcImp` gives a declared parameter without an argument -/
theorem fillOne_spec {g : TGrammar} {caller : Nonterm} {p : Nat} {a : Arg} (h : fillOne g caller p = some a) :
    a.param = p ∧ ∀ env, a.v.get env =
      match caller.params.find? (fun q => g.pname q == g.pname p) with
      | some q => env q
      | none => (g.dflt p).getD 0 := by
  unfold fillOne at h
  split at h
  · next hq => cases h; exact ⟨rfl, fun _ => rfl⟩
  · split at h
    · next hv => cases h; exact ⟨rfl, fun _ => by rw [hv]; rfl⟩
    · cases h

theorem resolveRef_spec {g : TGrammar} {caller target : Nonterm} {explicit args' : List Arg}
    (h : resolveRef g caller target explicit = some args') :
    (pars explicit).Nodup ∧
    ∃ filled, (target.params.filter fun p => !(explicit.any fun a => a.param == p)).mapM (fillOne g caller) = some filled ∧
      args' = sortArgs target.params (explicit ++ filled) := by
  revert h
  fun_cases resolveRef g caller target explicit <;> intro h
  · cases h
  · cases h
  · next _ hnd _ =>
    -- all arguments valid, no parameter bound twice
    obtain ⟨filled, hf, h⟩ := Option.bind_eq_some_iff.1 h
    exact ⟨nodupNat_nodup (by simpa [pars] using hnd), filled, hf, (Option.some.inj h).symm⟩

theorem resolveRef_callEnv {g : TGrammar} {N k : Nat} {caller target : Nonterm}
    (hc : g.nts[N]? = some caller) (ht : g.nts[k]? = some target)
    (htp : target.params.Nodup) (hla : ∀ p ∈ target.params, g.isLA p = false)
    {explicit args' : List Arg} (h : resolveRef g caller target explicit = some args') (first : Bool) (env : Env) :
    callEnv (srcImp g) N first k env explicit = callEnv (laImp g) N first k env args' := by
  obtain ⟨hnd, filled, hf, rfl⟩ := resolveRef_spec h
  have hfill := mapM_eq_some_iff.1 hf
  -- `filled` binds the declared parameters of the target without an explicit argument, each once
  have hpars : pars filled = _ := (hfill.imp fun _ _ _ h => (fillOne_spec h).1).map_eq
  have hmem : ∀ p, p ∈ pars filled ↔ p ∈ target.params ∧ p ∉ pars explicit := fun p => by
    rw [hpars, List.mem_filter]
    simp [pars]
  have hfnd : (pars filled).Nodup := hpars ▸ htp.sublist List.filter_sublist
  have hall : (pars (explicit ++ filled)).Nodup := by
    rw [pars, List.map_append]
    exact List.nodup_append.2 ⟨hnd, hfnd, fun x hx y hy e => ((hmem y).1 hy).2 (e ▸ hx)⟩
  funext p
  simp only [callEnv]
  rw [findArg_sortArgs _ _ p hall, findArg_append]
  cases he : findArg explicit p with
  | some v => rfl
  | none =>
    rw [Option.none_or]
    by_cases hp : p ∈ target.params
    · obtain ⟨a, ham, ha⟩ := hfill.mem p (hpars ▸ (hmem p).2 ⟨hp, findArg_none_iff.mp he⟩)
      rw [(findArg_eq_some_iff hfnd).2 (show ⟨p, a.v⟩ ∈ filled from (fillOne_spec ha).1 ▸ ham)]
      have hcont : target.params.contains p = true := by simpa using hp
      simp only [srcImp, hla p hp, Bool.false_eq_true, if_false, g.ntParams_eq ht, g.ntParams_eq hc, hcont, if_true]
      exact ((fillOne_spec ha).2 env).symm
    · have hnf : findArg filled p = none := findArg_none_iff.2 fun h => hp ((hmem p).1 h).1
      rw [hnf]
      have hcont : target.params.contains p = false := by simpa using hp
      simp only [srcImp, laImp, g.ntParams_eq ht, hcont]
      cases g.isLA p <;> cases first <;> simp

/-- right-hand sides that agree symbol by symbol, the arguments of each reference up to `Ref`
(whose first argument says whether the reference starts its alternative) -/
inductive SeqRel (Ref : Bool → Nat → List Arg → List Arg → Prop) : Bool → List Sym → List Sym → Prop
  | nil {first : Bool} : SeqRel Ref first [] []
  | t {first : Bool} {a : Nat} {r r' : List Sym} :
      SeqRel Ref false r r' → SeqRel Ref first (.t a :: r) (.t a :: r')
  | n {first : Bool} {k : Nat} {args args' : List Arg} {r r' : List Sym} :
      Ref first k args args' → SeqRel Ref false r r' → SeqRel Ref first (.n k args :: r) (.n k args' :: r')

theorem SeqRel.flip {Ref : Bool → Nat → List Arg → List Arg → Prop} {first : Bool} {s s' : List Sym}
    (h : SeqRel Ref first s s') : SeqRel (fun f k a a' => Ref f k a' a) first s' s := by
  induction h with
  | nil => exact .nil
  | t _ ih => exact .t ih
  | n hr _ ih => exact .n hr ih

/-- Simulation. `R N e e'`: the environments `e`, `e'` describe the same situation inside nonterminal `N` of
`g`, resp. `g'`. If every alternative of `g` has a counterpart in `g'` that is enabled in the same related
environments and whose right-hand side agrees up to `Ref`, and related environments stay related along
references related by `Ref`, then `g'` derives from `N` under `e'` whatever `g` derives under `e`. -/
theorem der_sim {imp imp' : Implicit} {g g' : TGrammar} (hT : g'.nTerms = g.nTerms)
    {R : Nat → Env → Env → Prop} {Ref : Nat → Bool → Nat → List Arg → List Arg → Prop}
    (hAlt : ∀ N e e' nt a, R N e e' → g.nts[N]? = some nt → a ∈ nt.alts →
      ∃ nt' a', g'.nts[N]? = some nt' ∧ a' ∈ nt'.alts ∧ a'.enabled e' = a.enabled e ∧
        SeqRel (Ref N) true a.rhs a'.rhs)
    (hRef : ∀ N first k t args args' e e', g.nts[k]? = some t → Ref N first k args args' → R N e e' →
      R k (callEnv imp N first k e args) (callEnv imp' N first k e' args'))
    {N : Nat} {e : Env} {w : List Nat} (h : Der imp g N e w) : ∀ e', R N e e' → Der imp' g' N e' w := by
  refine @Der.rec imp g (fun N e w _ => ∀ e', R N e e' → Der imp' g' N e' w)
    (fun N e first syms w _ => ∀ e' syms', R N e e' → SeqRel (Ref N) first syms syms' →
      DerSeq imp' g' N e' first syms' w)
    ?alt ?nil ?t ?n N e w h
  case alt =>
    intro N e nt a w hnt ha hen _ ih e' hR
    obtain ⟨nt', a', hnt', ha', hen', hs⟩ := hAlt N e e' nt a hR hnt ha
    exact Der.alt _ _ nt' a' w hnt' ha' (hen'.trans hen) (ih e' a'.rhs hR hs)
  case nil =>
    intro N e first e' syms' _ hs
    cases hs; exact DerSeq.nil _ _ _
  case t =>
    intro N e first a rest v ha _ ih e' syms' hR hs
    cases hs with
    | t hs => exact DerSeq.t _ _ _ a _ v (by rw [hT]; exact ha) (ih e' _ hR hs)
  case n =>
    intro N e first m args rest u v hd _ ih1 ih2 e' syms' hR hs
    cases hs with
    | n hr hs =>
      obtain ⟨t, _, ht, _⟩ := hd.inv
      exact DerSeq.n _ _ _ m _ _ u v (ih1 _ (hRef N first m t args _ e e' ht hr hR)) (ih2 e' _ hR hs)

theorem resolveNt_spec {g : TGrammar} {nt nt' : Nonterm} (h : resolveNt g nt = some nt') :
    nt'.params = nt.params ∧ nt.params.Nodup ∧ (∀ p ∈ nt.params, g.isLA p = false) ∧
    All2 (fun a a' => resolveAlt g nt a = some a') nt.alts nt'.alts := by
  unfold resolveNt at h
  obtain ⟨⟨h1, h2⟩, alts, ha, rfl⟩ :
      ((∀ p ∈ nt.params, p < g.params.length ∧ g.isLA p = false) ∧ nodupNat nt.params = true) ∧
        ∃ alts, nt.alts.mapM (resolveAlt g nt) = some alts ∧ { nt with alts := alts } = nt' := by
    simpa [Option.bind_eq_some_iff] using h
  exact ⟨rfl, nodupNat_nodup h2, fun p hp => (h1 p hp).2, mapM_eq_some_iff.1 ha⟩

theorem resolveAlt_spec {g : TGrammar} {nt : Nonterm} {a a' : Alt} (h : resolveAlt g nt a = some a') :
    a'.pred = a.pred ∧ All2 (fun s s' => resolveSym g nt s = some s') a.rhs a'.rhs := by
  unfold resolveAlt at h
  simp only [Option.pure_def, Option.bind_eq_bind, Option.bind_none, Option.ite_none_left_eq_some,
    Option.bind_eq_some_iff, Option.some.injEq] at h
  obtain ⟨_, rhs, hr, rfl⟩ := h
  exact ⟨rfl, mapM_eq_some_iff.1 hr⟩

theorem resolveAll_spec {src m : TGrammar} (h : resolveAll src = some m) :
    m.nTerms = src.nTerms ∧ m.params = src.params ∧ m.inputs = src.inputs ∧
    All2 (fun nt nt' => resolveNt src nt = some nt') src.nts m.nts := by
  unfold resolveAll at h
  simp only [Option.pure_def, Option.bind_eq_bind, Option.bind_none, Option.ite_none_left_eq_some,
    Option.bind_eq_some_iff, Option.some.injEq] at h
  obtain ⟨_, _, nts, hn, rfl⟩ := h
  exact ⟨rfl, rfl, rfl, mapM_eq_some_iff.1 hn⟩

/-- the arguments of a reference inside nonterminal `N` denote the same environment at source level
and in the loaded model -/
def ArgsRef (src m : TGrammar) (N : Nat) (first : Bool) (k : Nat) (args args' : List Arg) : Prop :=
  ∀ env, callEnv (srcImp src) N first k env args = callEnv (laImp m) N first k env args'

theorem resolveSyms_rel {src m : TGrammar} (h : resolveAll src = some m) {N : Nat} {nt : Nonterm}
    (hN : src.nts[N]? = some nt) {first : Bool} {syms syms' : List Sym}
    (hs : All2 (fun s s' => resolveSym src nt s = some s') syms syms') :
    SeqRel (ArgsRef src m N) first syms syms' := by
  obtain ⟨_, hp, _, hall⟩ := resolveAll_spec h
  have hla : laImp m = laImp src := by unfold laImp TGrammar.isLA; rw [hp]
  induction hs generalizing first with
  | nil => exact .nil
  | @cons s s' _ _ hs _ ih =>
    revert hs
    fun_cases resolveSym src nt s <;> intro hs
    -- a terminal in range, a terminal out of range, a reference (the target exists and `resolveRef` succeeds)
    · cases hs; exact .t ih
    · cases hs
    · next k args =>
      obtain ⟨target, htg, hs⟩ := Option.bind_eq_some_iff.1 hs
      obtain ⟨args', ha, hs⟩ := Option.bind_eq_some_iff.1 hs
      cases hs
      obtain ⟨_, _, htr⟩ := All2.get hall k target htg
      obtain ⟨_, hnd, hnla, _⟩ := resolveNt_spec htr
      exact .n (fun env => hla ▸ resolveRef_callEnv hN htg hnd hnla ha first env) ih

theorem resolveNt_rel {src m : TGrammar} (h : resolveAll src = some m) {N : Nat} {nt nt' : Nonterm}
    (hN : src.nts[N]? = some nt) (hr : resolveNt src nt = some nt') :
    All2 (fun a a' => a'.pred = a.pred ∧ SeqRel (ArgsRef src m N) true a.rhs a'.rhs) nt.alts nt'.alts :=
  (resolveNt_spec hr).2.2.2.imp fun _ _ _ ha =>
    ⟨(resolveAlt_spec ha).1, resolveSyms_rel h hN (resolveAlt_spec ha).2⟩

theorem resolveAll_sound {src m : TGrammar} (h : resolveAll src = some m) (N : Nat) (env : Env) (w : List Nat) :
    Der (srcImp src) src N env w ↔ Der (laImp m) m N env w := by
  obtain ⟨hT, _, _, hall⟩ := resolveAll_spec h
  constructor
  · intro hd
    refine der_sim (R := fun _ e e' => e = e') (Ref := ArgsRef src m) hT ?_ ?_ hd env rfl
    · rintro N e _ nt a rfl hN ha
      obtain ⟨nt', hN', hr⟩ := All2.get hall N nt hN
      obtain ⟨a', ha', hp, hs⟩ := All2.mem (resolveNt_rel h hN hr) a ha
      exact ⟨nt', a', hN', ha', Alt.enabled_congr hp fun _ _ => rfl, hs⟩
    · rintro N first k t args args' e _ _ hr rfl
      exact hr e
  · intro hd
    refine der_sim (R := fun _ e e' => e = e')
      (Ref := fun N f k a' a => ArgsRef src m N f k a a') hT.symm ?_ ?_ hd env rfl
    · rintro N e _ nt' a' rfl hN' ha'
      obtain ⟨nt, hN, hr⟩ := All2.get' hall N nt' hN'
      obtain ⟨a, ha, hp, hs⟩ := forall2_mem' (resolveNt_rel h hN hr) a' ha'
      exact ⟨nt, a, hN, ha, (Alt.enabled_congr hp fun _ _ => rfl).symm, hs.flip⟩
    · rintro N first k t args' args e _ _ hr rfl
      exact (hr e).symm

end TmVerif.Templates
