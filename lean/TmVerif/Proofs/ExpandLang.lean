import TmVerif.Model.Expand
/-!
C13: algebra of languages, `e (s e)*` and `e*` as least solutions of the left- and right-recursive list
rules, the denotation of what `concat`, `multiConcat`, `wrapChoice` build, and `Expr.Equal` as equality.
-/
namespace TmVerif.Expand

theorem Lang.ext {A B : Lang} (h : ∀ w, A w ↔ B w) : A = B :=
  funext fun w => propext (h w)

def Lang.le (A B : Lang) : Prop := ∀ w, A w → B w

theorem Lang.le_antisymm {A B : Lang} (h1 : Lang.le A B) (h2 : Lang.le B A) : A = B :=
  Lang.ext fun w => ⟨h1 w, h2 w⟩

theorem Lang.le_refl (A : Lang) : Lang.le A A := fun _ h => h

theorem Lang.le_trans {A B C : Lang} (h1 : Lang.le A B) (h2 : Lang.le B C) : Lang.le A C :=
  fun w h => h2 w (h1 w h)

theorem Lang.cat_mono {A A' B B' : Lang} (h1 : Lang.le A A') (h2 : Lang.le B B') :
    Lang.le (Lang.cat A B) (Lang.cat A' B') := by
  rintro w ⟨u, v, hu, hv, rfl⟩
  exact ⟨u, v, h1 u hu, h2 v hv, rfl⟩

theorem Lang.union_mono {A A' B B' : Lang} (h1 : Lang.le A A') (h2 : Lang.le B B') :
    Lang.le (Lang.union A B) (Lang.union A' B') := by
  rintro w (h | h)
  · exact Or.inl (h1 w h)
  · exact Or.inr (h2 w h)

theorem Lang.union_le {A B C : Lang} (h1 : Lang.le A C) (h2 : Lang.le B C) :
    Lang.le (Lang.union A B) C :=
  fun w h => h.elim (h1 w) (h2 w)

theorem Lang.star_mono {A A' : Lang} (h : Lang.le A A') : Lang.le (Lang.star A) (Lang.star A') := by
  rintro w ⟨ws, hws, rfl⟩
  exact ⟨ws, fun x hx => h x (hws x hx), rfl⟩

theorem Lang.sepIter_mono {E E' S S' : Lang} (h1 : Lang.le E E') (h2 : Lang.le S S') :
    Lang.le (Lang.sepIter E S) (Lang.sepIter E' S') :=
  Lang.cat_mono h1 (Lang.star_mono (Lang.cat_mono h2 h1))

theorem Lang.cat_eps (A : Lang) : Lang.cat A Lang.eps = A := by
  apply Lang.ext; intro w; constructor
  · rintro ⟨u, v, hu, hv, rfl⟩
    cases hv; simpa using hu
  · intro h; exact ⟨w, [], h, rfl, by simp⟩

theorem Lang.eps_cat (A : Lang) : Lang.cat Lang.eps A = A := by
  apply Lang.ext; intro w; constructor
  · rintro ⟨u, v, hu, hv, rfl⟩
    cases hu; simpa using hv
  · intro h; exact ⟨[], w, rfl, h, by simp⟩

theorem Lang.cat_assoc (A B C : Lang) : Lang.cat (Lang.cat A B) C = Lang.cat A (Lang.cat B C) := by
  apply Lang.ext; intro w; constructor
  · rintro ⟨_, c, ⟨a, b, ha, hb, rfl⟩, hc, rfl⟩
    exact ⟨a, b ++ c, ha, ⟨b, c, hb, hc, rfl⟩, by simp⟩
  · rintro ⟨a, _, ha, ⟨b, c, hb, hc, rfl⟩, rfl⟩
    exact ⟨a ++ b, c, ⟨a, b, ha, hb, rfl⟩, hc, by simp⟩

theorem Lang.cat_none (A : Lang) : Lang.cat A Lang.none = Lang.none :=
  Lang.ext fun _ => ⟨fun ⟨_, _, _, h, _⟩ => h, False.elim⟩

theorem Lang.none_cat (A : Lang) : Lang.cat Lang.none A = Lang.none :=
  Lang.ext fun _ => ⟨fun ⟨_, _, h, _⟩ => h, False.elim⟩

theorem Lang.cat_union (A B C : Lang) :
    Lang.cat A (Lang.union B C) = Lang.union (Lang.cat A B) (Lang.cat A C) :=
  Lang.ext fun w => by simp only [Lang.cat, Lang.union, or_and_right, and_or_left, exists_or]

theorem Lang.union_cat (A B C : Lang) :
    Lang.cat (Lang.union A B) C = Lang.union (Lang.cat A C) (Lang.cat B C) :=
  Lang.ext fun w => by simp only [Lang.cat, Lang.union, or_and_right, exists_or]

theorem Lang.star_nil (A : Lang) : Lang.star A [] := ⟨[], by simp, by simp⟩

theorem Lang.star_cons {A : Lang} {x w : List Nat} (hx : A x) (hw : Lang.star A w) :
    Lang.star A (x ++ w) := by
  obtain ⟨ws, hws, rfl⟩ := hw
  exact ⟨x :: ws, List.forall_mem_cons.2 ⟨hx, hws⟩, by simp⟩

theorem Lang.star_snoc {A : Lang} {x w : List Nat} (hw : Lang.star A w) (hx : A x) :
    Lang.star A (w ++ x) := by
  obtain ⟨ws, hws, rfl⟩ := hw
  exact ⟨ws ++ [x], List.forall_mem_append.2 ⟨hws, List.forall_mem_singleton.2 hx⟩, by simp⟩

/-! `sepIter E S = E (S E)*` is the least solution of `L = L·S·E ∪ E` (left-recursive list rules) and of
`L = E·S·L ∪ E` (right-recursive); `star E` is the least solution of `L = L·E ∪ ε` and `L = E·L ∪ ε`. -/

theorem sepIter_base (E S : Lang) : Lang.le E (Lang.sepIter E S) :=
  fun w h => ⟨w, [], h, Lang.star_nil _, by simp⟩

theorem sepIter_left_closed (E S : Lang) :
    Lang.le (Lang.cat (Lang.cat (Lang.sepIter E S) S) E) (Lang.sepIter E S) := by
  rintro w ⟨_, e', ⟨_, s, ⟨e, r, he, hr, rfl⟩, hs, rfl⟩, he', rfl⟩
  refine ⟨e, r ++ (s ++ e'), he, Lang.star_snoc hr ⟨s, e', hs, he', rfl⟩, by simp⟩

theorem star_left_ind {E L : Lang} (hs : Lang.le (Lang.cat L E) L) :
    Lang.le (Lang.cat L (Lang.star E)) L := by
  rintro w ⟨u, _, hu, ⟨ws, hws, rfl⟩, rfl⟩
  induction ws generalizing u with
  | nil => simpa using hu
  | cons x ws ih =>
    obtain ⟨hx, hws⟩ := List.forall_mem_cons.1 hws
    simpa using ih (u ++ x) (hs _ ⟨u, x, hu, hx, rfl⟩) hws

theorem sepIter_left_least (E S L : Lang) (hb : Lang.le E L)
    (hs : Lang.le (Lang.cat (Lang.cat L S) E) L) : Lang.le (Lang.sepIter E S) L := by
  rw [Lang.cat_assoc] at hs
  exact Lang.le_trans (Lang.cat_mono hb (Lang.le_refl _)) (star_left_ind hs)

theorem sepIter_right_closed (E S : Lang) :
    Lang.le (Lang.cat E (Lang.cat S (Lang.sepIter E S))) (Lang.sepIter E S) := by
  rintro w ⟨e, _, he, ⟨s, _, hs, ⟨e', r, he', hr, rfl⟩, rfl⟩, rfl⟩
  refine ⟨e, (s ++ e') ++ r, he, Lang.star_cons ⟨s, e', hs, he', rfl⟩ hr, by simp⟩

theorem sepIter_right_least (E S L : Lang) (hb : Lang.le E L)
    (hs : Lang.le (Lang.cat E (Lang.cat S L)) L) : Lang.le (Lang.sepIter E S) L := by
  rintro w ⟨e, r, he, ⟨ws, hws, rfl⟩, rfl⟩
  induction ws generalizing e with
  | nil => simpa using hb e he
  | cons x ws ih =>
    obtain ⟨⟨s, e', hs', he', rfl⟩, htl⟩ := List.forall_mem_cons.1 hws
    simpa using hs _ ⟨e, s ++ (e' ++ ws.flatten), he, ⟨s, _, hs', ih e' he' htl, rfl⟩, rfl⟩

theorem star_base (E : Lang) : Lang.le Lang.eps (Lang.star E) := by
  intro w h; cases h; exact Lang.star_nil _

theorem star_left_closed (E : Lang) : Lang.le (Lang.cat (Lang.star E) E) (Lang.star E) := by
  rintro w ⟨u, v, hu, hv, rfl⟩; exact Lang.star_snoc hu hv

theorem star_right_closed (E : Lang) : Lang.le (Lang.cat E (Lang.star E)) (Lang.star E) := by
  rintro w ⟨u, v, hu, hv, rfl⟩; exact Lang.star_cons hu hv

theorem star_left_least (E L : Lang) (hb : Lang.le Lang.eps L) (hs : Lang.le (Lang.cat L E) L) :
    Lang.le (Lang.star E) L := by
  have := Lang.le_trans (Lang.cat_mono hb (Lang.le_refl _)) (star_left_ind hs)
  rwa [Lang.eps_cat] at this

theorem star_right_least (E L : Lang) (hb : Lang.le Lang.eps L) (hs : Lang.le (Lang.cat E L) L) :
    Lang.le (Lang.star E) L := by
  rintro w ⟨ws, hws, rfl⟩
  induction ws with
  | nil => exact hb [] rfl
  | cons x ws ih =>
    obtain ⟨hx, hws⟩ := List.forall_mem_cons.1 hws
    simpa using hs _ ⟨x, ws.flatten, hx, ih hws, rfl⟩

theorem sepIter_eps (E : Lang) : Lang.sepIter E Lang.eps = Lang.cat E (Lang.star E) := by
  unfold Lang.sepIter; rw [Lang.eps_cat]

theorem sepIter_eps_union (E : Lang) :
    Lang.union (Lang.sepIter E Lang.eps) Lang.eps = Lang.star E := by
  rw [sepIter_eps]
  have hle := Lang.union_le (star_right_closed E) (star_base E)
  refine Lang.le_antisymm hle (star_right_least E _ (fun w h => Or.inr h) ?_)
  rintro w ⟨u, v, hu, hv, rfl⟩
  exact Or.inl ⟨u, v, hu, hle v hv, rfl⟩

def listStep (ne rr : Bool) (L E S : Lang) : Lang :=
  Lang.union (if rr then Lang.cat E (Lang.cat S L) else Lang.cat (Lang.cat L S) E)
    (if ne then E else Lang.eps)

def listDen (ne : Bool) (E S : Lang) : Lang :=
  if ne then Lang.sepIter E S else Lang.union (Lang.sepIter E S) Lang.eps

theorem listDen_false_eps (E : Lang) : listDen false E Lang.eps = Lang.star E :=
  sepIter_eps_union E

theorem list_closed (ne rr : Bool) (E S : Lang) (h : ne = true ∨ S = Lang.eps) :
    Lang.le (listStep ne rr (listDen ne E S) E S) (listDen ne E S) := by
  cases ne
  · obtain rfl := h.resolve_left Bool.false_ne_true
    rw [listDen_false_eps]
    cases rr
    · exact Lang.union_le (by rw [Lang.cat_eps]; exact star_left_closed E) (star_base E)
    · exact Lang.union_le (by rw [Lang.eps_cat]; exact star_right_closed E) (star_base E)
  · cases rr
    · exact Lang.union_le (sepIter_left_closed E S) (sepIter_base E S)
    · exact Lang.union_le (sepIter_right_closed E S) (sepIter_base E S)

theorem list_least (ne rr : Bool) (E S L : Lang) (h : ne = true ∨ S = Lang.eps)
    (hL : Lang.le (listStep ne rr L E S) L) : Lang.le (listDen ne E S) L := by
  have hbase : Lang.le (if ne then E else Lang.eps) L := fun w hw => hL w (Or.inr hw)
  have hrec : Lang.le (if rr then Lang.cat E (Lang.cat S L) else Lang.cat (Lang.cat L S) E) L :=
    fun w hw => hL w (Or.inl hw)
  cases ne
  · obtain rfl := h.resolve_left Bool.false_ne_true
    rw [listDen_false_eps]
    cases rr
    · rw [Lang.cat_eps] at hrec; exact star_left_least E L hbase hrec
    · rw [Lang.eps_cat] at hrec; exact star_right_least E L hbase hrec
  · cases rr
    · exact sepIter_left_least E S L hbase hrec
    · exact sepIter_right_least E S L hbase hrec

variable (sets : Nat → List Nat) (ρ : Nat → Lang)

theorem den_list (ne rr : Bool) (elem sep : Expr) :
    den sets ρ (.list ne rr elem sep) = listDen ne (den sets ρ elem) (den sets ρ sep) := rfl

theorem denSeq_cons (e : Expr) (es : List Expr) :
    denSeq sets ρ (e :: es) = Lang.cat (den sets ρ e) (denSeq sets ρ es) := rfl

theorem denAlt_cons (e : Expr) (es : List Expr) :
    denAlt sets ρ (e :: es) = Lang.union (den sets ρ e) (denAlt sets ρ es) := rfl

theorem denSeq_append (a b : List Expr) :
    denSeq sets ρ (a ++ b) = Lang.cat (denSeq sets ρ a) (denSeq sets ρ b) := by
  induction a with
  | nil => exact (Lang.eps_cat _).symm
  | cons x a ih => rw [List.cons_append, denSeq_cons, denSeq_cons, ih, Lang.cat_assoc]

theorem denAlts_nil : denAlts sets ρ [] = Lang.none :=
  Lang.ext fun _ => ⟨fun ⟨_, h, _⟩ => (nomatch h), False.elim⟩

theorem denAlts_singleton (e : Expr) : denAlts sets ρ [e] = den sets ρ e :=
  Lang.ext fun _ =>
    ⟨fun ⟨_, h, hw⟩ => List.mem_singleton.1 h ▸ hw, fun hw => ⟨e, List.mem_singleton_self e, hw⟩⟩

theorem denAlts_append (a b : List Expr) :
    denAlts sets ρ (a ++ b) = Lang.union (denAlts sets ρ a) (denAlts sets ρ b) :=
  Lang.ext fun w => by simp only [denAlts, List.mem_append, Lang.union, or_and_right, exists_or]

theorem denAlts_cons (e : Expr) (a : List Expr) :
    denAlts sets ρ (e :: a) = Lang.union (den sets ρ e) (denAlts sets ρ a) := by
  rw [← denAlts_singleton sets ρ e, ← denAlts_append]; rfl

theorem denAlt_eq_denAlts (es : List Expr) : denAlt sets ρ es = denAlts sets ρ es := by
  induction es with
  | nil => exact (denAlts_nil sets ρ).symm
  | cons e es ih => rw [denAlt_cons, ih, denAlts_cons]

theorem denAlts_map (f : Expr → Expr) (h : ∀ e, den sets ρ (f e) = den sets ρ e) (a : List Expr) :
    denAlts sets ρ (a.map f) = denAlts sets ρ a := by
  apply Lang.ext; intro w
  simp only [denAlts, List.mem_map]
  constructor
  · rintro ⟨_, ⟨x, hx, rfl⟩, hw⟩; exact ⟨x, hx, by rwa [h] at hw⟩
  · rintro ⟨x, hx, hw⟩; exact ⟨f x, ⟨x, hx, rfl⟩, by rwa [h]⟩

theorem den_wrapChoice (alts : List Expr) : den sets ρ (wrapChoice alts) = denAlts sets ρ alts := by
  fun_cases wrapChoice alts
  · exact (denAlts_singleton sets ρ _).symm
  · exact denAlt_eq_denAlts sets ρ _

theorem denSeq_concatPart (e : Expr) : denSeq sets ρ (concatPart e) = den sets ρ e := by
  fun_cases concatPart e
  · rfl
  · rfl
  · exact Lang.cat_eps _

theorem denSeq_flatMap_concatPart (l : List Expr) :
    denSeq sets ρ (l.flatMap concatPart) = denSeq sets ρ l := by
  induction l with
  | nil => rfl
  | cons x l ih => rw [List.flatMap_cons, denSeq_append, ih, denSeq_concatPart]; rfl

theorem den_concat (l : List Expr) : den sets ρ (concat l) = denSeq sets ρ l := by
  rw [← denSeq_flatMap_concatPart, concat]
  generalize l.flatMap concatPart = subs
  cases subs with
  | nil => rfl
  | cons x t =>
    cases t with
    | nil => exact (Lang.cat_eps _).symm
    | cons _ _ => rfl

theorem den_concat_pair (x y : Expr) :
    den sets ρ (concat [x, y]) = Lang.cat (den sets ρ x) (den sets ρ y) := by
  rw [den_concat, denSeq_cons, denSeq_cons]; exact congrArg _ (Lang.cat_eps _)

theorem denAlts_multiConcat (a b : List Expr) :
    denAlts sets ρ (multiConcat a b) = Lang.cat (denAlts sets ρ a) (denAlts sets ρ b) := by
  apply Lang.ext; intro w
  simp only [multiConcat, denAlts, List.mem_flatMap, List.mem_map, Lang.cat]
  constructor
  · rintro ⟨_, ⟨x, hx, y, hy, rfl⟩, hw⟩
    rw [den_concat_pair] at hw
    obtain ⟨u, v, hu, hv, rfl⟩ := hw
    exact ⟨u, v, ⟨x, hx, hu⟩, ⟨y, hy, hv⟩, rfl⟩
  · rintro ⟨u, v, ⟨x, hx, hu⟩, ⟨y, hy, hv⟩, rfl⟩
    exact ⟨concat [x, y], ⟨x, hx, y, hy, rfl⟩, by rw [den_concat_pair]; exact ⟨u, v, hu, hv, rfl⟩⟩

theorem eqPreds_eq (a b : List (Bool × Nat)) (h : eqPreds a b = true) : a = b := by
  fun_induction eqPreds a b with
  | case1 => rfl
  | case2 a x l b y r ih =>
    simp only [Bool.and_eq_true, beq_iff_eq] at h
    rw [h.1.1, h.1.2, ih h.2]
  | case3 => cases h

/- `equal a b` is used through evaluation only (its equation lemmas are slow to derive: the catch-all case
stands for 182 pairs of constructors): off the diagonal it evaluates to `false` and `cases h` closes the case, on the
diagonal `h` is restated in its evaluated form. -/
mutual
theorem equal_eq : ∀ (a b : Expr), equal a b = true → a = b
  | .empty, b, h => by cases b <;> first | rfl | cases h
  | .ref _, b, h | .set _, b, h | .command _, b, h | .marker _, b, h => by
    cases b <;> first | cases h | exact congrArg _ (eq_of_beq h)
  | .opt a, b, h => by
    cases b <;> first | cases h | exact congrArg _ (equal_eq a _ h)
  | .seq a, b, h | .choice a, b, h => by
    cases b <;> first | cases h | exact congrArg _ (equalList_eq a _ h)
  | .lookahead a, b, h => by
    cases b <;> first | cases h | exact congrArg _ (eqPreds_eq a _ h)
  | .list n r e s, b, h => by
    cases b with
    | list n' r' e' s' =>
      have h : (n == n' && r == r' && equal e e' && equal s s') = true := h
      simp only [Bool.and_eq_true, beq_iff_eq] at h
      rw [h.1.1.1, h.1.1.2, equal_eq e _ h.1.2, equal_eq s _ h.2]
    | _ => cases h
  | .arrow n a, b, h | .assign n a, b, h | .append n a, b, h | .prec n a, b, h => by
    cases b <;> first | cases h | skip
    rename_i m b
    have h : (n == m && equal a b) = true := h
    simp only [Bool.and_eq_true, beq_iff_eq] at h
    rw [h.1, equal_eq a _ h.2]
theorem equalList_eq : ∀ (a b : List Expr), equalList a b = true → a = b
  | [], [], _ => rfl
  | [], _ :: _, h | _ :: _, [], h => nomatch h
  | a :: l, b :: r, h => by
    have h : (equal a b && equalList l r) = true := h
    simp only [Bool.and_eq_true] at h
    rw [equal_eq a b h.1, equalList_eq l r h.2]
end

end TmVerif.Expand
