/-
`C01_lr_halts`: under the soundness certificate and the rank certificate
(`LRX.coreRankOk`, Model/LRXSafe.lean) the potential
`W · (tokens left) + weight · (stack height) + rank (next token's symbol) (top state)` decreases
with every iteration of the core loop `LR.runLoop`.
-/
import TmVerif.Proofs.LRXSafe
namespace TmVerif.LRSound
open TmVerif.LR TmVerif.CFG TmVerif.LRX

/-- the core tables as tables of the extended runtime (no recovery, no rule actions) -/
def coreX (t : Tables) : XTables := { t := t, rules := #[] }

theorem xedges_core (t : Tables) : xedges (coreX t) = edges t :=
  List.append_nil _

theorem rankW_core (t : Tables) (rc : XCert) :
    rankW t rc = rankBound (coreX t) + 1 + rc.weight := rankW_eq (coreX t) rc

theorem reachClosed_core {g : Grammar} {t : Tables} {cert : Cert} (hc : CertFacts g t cert) :
    ReachClosed g (coreX t) cert :=
  reachClosed (x := coreX t) hc (fun _ _ _ _ _ hm _ => nomatch hm)

variable {g : Grammar} {t : Tables} {cert : Cert} {rc : XCert} {inp : Input} {i : Nat}

theorem StackOk.toStOk (hc : CertFacts g t cert) (hi : i < g.inputs.size)
    {stk : List Entry} {s : Nat} {syms : List Int} {w : List Nat}
    (h : StackOk g t i stk s syms w) :
    ∃ rest, StOk g (coreX t) cert i (s :: rest) syms ∧
      stk.map (·.state) = (s :: rest).map Int.ofNat := by
  have hcl := reachClosed_core hc
  induction h with
  | base e he => exact ⟨[], .base hi (hcl i hi).1, by simp [he]⟩
  | push e rest p X q syms w y _ _ hq hE _ ih =>
    obtain ⟨rest', h1, h2⟩ := ih
    obtain ⟨q', hq', _, hq2, hq3⟩ := edgeOk_elim (edge_ok hc hE)
    obtain rfl : q' = q := (Int.ofNat.inj hq').symm
    have hedge : (p, X, (q' : Int)) ∈ xedges (coreX t) := by rw [xedges_core]; exact edge_mem hE
    refine ⟨p :: rest', h1.push_closed hcl hedge hq2 hq3, ?_⟩
    simp only [List.map_cons, List.cons.injEq]
    exact ⟨hq, by simpa using h2⟩

def psi (t : Tables) (rc : XCert) (i : Nat) (inp : Input) (c : Cfg) : Nat :=
  rankW t rc * (inp.toks.size - nshift c.evs) + rc.weight * c.stack.length +
    rankOf rc i (symAt inp (nshift c.evs)) c.state.toNat

theorem psi_eq {c : Cfg} {s : Nat} {rest : List Nat}
    (hmap : c.stack.map (·.state) = (s :: rest).map Int.ofNat) (hst : c.state = (s : Int)) :
    psi t rc i inp c = rankW t rc * (inp.toks.size - nshift c.evs) +
      phi rc i (symAt inp (nshift c.evs)) (s :: rest) := by
  unfold psi
  rw [Nat.add_assoc, phi_of_stack _ hmap hst]

theorem pot_eoi_lt {W w h r r' : Nat} (hr : r' + w + 1 ≤ r) :
    W * 0 + w * (h + 1) + r' < W * 0 + w * h + r := by
  rw [Nat.mul_add, Nat.mul_one]; omega

/-- a shift consumes a token, or (EOI) lowers the rank; a reduction keeps the token part and lowers
the potential of the chain -/
theorem step_psi (hc : CertFacts g t cert) (hx : RankFacts g (coreX t) cert rc)
    (htok : TokOk t inp) (hi : i < g.inputs.size) (c c' : Cfg)
    (hinv : Inv g t i inp c) (hne : c.state ≠ finOf (coreX t) i)
    (hs : step t inp c = .cont c') : psi t rc i inp c' < psi t rc i inp c := by
  obtain ⟨s0, syms, hstk, hst, hn⟩ := hinv
  have hm := step_move (justified hc) (decodeOk hc htok) htok hi (stackOk_iff.mp hstk) hst hn
  rw [hs] at hm
  obtain ⟨_, c1, act, p, X, q, hd, hm⟩ := hm
  obtain ⟨rest, hst1, hmap⟩ := hstk.toStOk hc hi
  have hne' : (s0 : Int) ≠ finOf (coreX t) i := by rw [← hst]; exact hne
  have hlt : s0 < t.nStates := hstk.lt hc hi
  have h0 : 0 < t.nTerms := hc.nTermsPos
  obtain ⟨_, act', _, hact, _, _, hd'⟩ := decode_cert hc htok hlt hst hn
  have hact := hact noDeep
  obtain rfl : act' = act := (Prod.mk.inj (Option.some.inj (hd'.symm.trans hd))).2
  have ha := fun j => (symAt_lt_nTerms htok h0 j).1
  cases hm with
  | shift _ _ hE _ _ hstk' hst' hevs =>
    obtain ⟨q', hq', _, hq2, _⟩ := edgeOk_elim (edge_ok hc hE)
    obtain rfl : q = q' := Int.ofNat.inj hq'
    unfold psi
    rw [hstk', hst', hevs, hst, List.length_cons, Int.toNat_natCast, Int.toNat_natCast]
    rcases Nat.lt_or_ge (nshift c.evs) inp.toks.size with hm | hge
    · exact pot_unit_lt (Nat.le_of_eq (rankW_core t rc).symm)
        (Nat.succ_le_of_lt (Nat.sub_lt_sub_left hm (Nat.lt_succ_self _))) (Nat.le_refl _)
        (hx.rankB i _ q hi (ha _) hq2)
    · have hz := symAt_ge inp hge
      have hr := hx.eoi (x := coreX t) hi hlt h0 (hst1.mem_reach _ List.mem_cons_self) hne' (hz ▸ hact)
      rw [hz, symAt_ge inp (Nat.le_succ_of_le hge), Nat.sub_eq_zero_of_le hge,
        Nat.sub_eq_zero_of_le (Nat.le_succ_of_le hge)]
      exact pot_eoi_lt hr
  | @reduce _ _ top _ rest2 p q c' _ hrule hdrop hts hgo _ _ he hstk' hst' hevs =>
    obtain ⟨rule', p', rest', q0, _, hrule', _, _, hdrop', hg, _, hrank⟩ :=
      hst1.reduce (x := coreX t) hc hx (reachClosed_core hc) (ha _) hne' hact
    cases hrule'.symm.trans hrule
    have hd2 : (top :: rest2).map (·.state) = (p' :: rest').map Int.ofNat := by
      rw [← hdrop, List.map_drop, hmap, ← List.map_drop, hdrop']
    obtain rfl : p = p' := Int.ofNat.inj (hts.symm.trans (List.cons.inj hd2).1)
    obtain rfl : q = q0 := Int.ofNat.inj (Option.some.inj (hgo.symm.trans hg))
    have hmap' : c'.stack.map (·.state) = (q :: p :: rest').map Int.ofNat := by
      rw [hstk', List.map_cons, hd2, he]
      rfl
    rw [psi_eq hmap' hst', psi_eq hmap hst, hevs]
    exact Nat.add_lt_add_left (phi_reduce_lt hdrop' hrank) _

theorem runLoop_halts (hc : CertFacts g t cert) (hx : RankFacts g (coreX t) cert rc)
    (htok : TokOk t inp) (hi : i < g.inputs.size) (fin : Int)
    (hfi : fin = finOf (coreX t) i) :
    ∀ (fuel : Nat) (c : Cfg), Inv g t i inp c → psi t rc i inp c < fuel →
      (runLoop t inp fin fuel c).1 ≠ .fuel := by
  intro fuel
  induction fuel with
  | zero => exact fun _ _ h => absurd h (Nat.not_lt_zero _)
  | succ fuel ih =>
    intro c hinv h
    rw [runLoop]
    by_cases hfin : c.state = fin
    · rw [if_pos hfin]; exact fun h => nomatch h
    · rw [if_neg hfin]
      cases hstep : step t inp c with
      | cont c1 =>
        have := step_psi hc hx htok hi c c1 hinv (by rw [← hfi]; exact hfin) hstep
        exact ih c1 (step_inv hc htok hi c c1 hinv hstep) (Nat.lt_of_lt_of_le this (Nat.le_of_lt_succ h))
      | done r c1 =>
        cases r with
        | fuel => exact absurd hstep step_not_fuel
        | _ => exact fun h => nomatch h

theorem psi_init (hc : CertFacts g t cert) (hx : RankFacts g (coreX t) cert rc)
    (htok : TokOk t inp) (hi : i < g.inputs.size) :
    psi t rc i inp (initCfg inp i) < (inp.toks.size + 1) * rankW t rc := by
  have h0 : 0 < t.nTerms := hc.nTermsPos
  have hrb : rankOf rc i (symAt inp 0) i ≤ rankBound (coreX t) :=
    hx.rankB i _ i hi (symAt_lt_nTerms htok h0 0).1 (Nat.lt_of_lt_of_le hi hc.nIn)
  show rankW t rc * (inp.toks.size - 0) + rc.weight * 1 + rankOf rc i (symAt inp 0) (i : Int).toNat < _
  rw [Int.toNat_natCast, Nat.sub_zero, Nat.mul_one, Nat.add_mul, Nat.one_mul,
    Nat.mul_comm (rankW t rc), rankW_core]
  omega

end TmVerif.LRSound
