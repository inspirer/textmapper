import TmVerif.Proofs.LexRunLoop
import TmVerif.Proofs.LexRunSwitch
/-!
`Next` under `TablesWF`: one pass (`nextOnce`) and the restart loop (`nextLoop`) are total, keep the
position invariant, make progress, and report the position of the token's first byte.
-/
namespace TmVerif.LexRun
open TmVerif.LexTables

/-- The class rule's switch (by hash) and its specification (by text) consult the same entry of `classActions`. -/
theorem classSwitch_cases (sp : Spec) (act : Int) (hash : Nat) (text : List UInt8) :
    (classSwitch sp act hash text = act ∧ classSpec sp act text = act) ∨
    ∃ m, (act, m) ∈ sp.classActions ∧
      classSwitch sp act hash text = ((asStringSwitch (genHash sp) m).lookup hash text).getD act ∧
      classSpec sp act text = (mapLookup m text).getD act := by
  unfold classSwitch classSpec
  split
  · exact Or.inl ⟨rfl, rfl⟩
  · rename_i a' m hf
    obtain rfl : a' = act := by simpa using List.find?_some hf
    exact Or.inr ⟨m, List.mem_of_find?_eq_some hf, rfl, rfl⟩

theorem classSwitch_ok (sp : Spec) (w : WFacts sp) (act : Int) (hash : Nat) (text : List UInt8)
    (h : actOk sp [] act = true) : actOk sp [] (classSwitch sp act hash text) = true := by
  rcases classSwitch_cases sp act hash text with ⟨e, -⟩ | ⟨m, hm, e, -⟩
  · rw [e]; exact h
  · rw [e]
    cases hl : (asStringSwitch (genHash sp) m).lookup hash text with
    | none => exact h
    | some x =>
      exact (w.class_ok act m hm).2.2 text x (mapLookup_some_mem m text x (lookup_sound _ m hash text x hl))

theorem classSwitch_invalidAct (sp : Spec) (w : WFacts sp) (hash : Nat) (text : List UInt8) :
    classSwitch sp (invalidAct sp) hash text = invalidAct sp := by
  rcases classSwitch_cases sp (invalidAct sp) hash text with ⟨e, -⟩ | ⟨m, hm, -⟩
  · exact e
  · -- no class rule is the "no match" action
    have := (w.class_ok _ m hm).1
    rw [(isInvalid_iff sp _).mpr rfl] at this
    exact nomatch this

/-- `finish` on "no match" (`handleInvalidToken`): back to the checkpoint if there is one, else the invalid token, which
for the empty text reaches to `scanOffset` and is EOI at the end of the input. -/
theorem finish_invalid (sp : Spec) (w : WFacts sp) (k : Nat) (s : Scan) (l : Lexer) {tok : Int}
    (htok : tokenOf sp (invalidAct sp) = some tok) :
    finish sp (k + 1) (invalidAct sp) s l =
      if s.backup ≥ 0 then
        if !isInvalid sp s.backup then
          finish sp k s.backup { s with hash := s.backupHash } (rewind sp.opts sp.v l s.backupOffset)
        else some (.token tok (rewind sp.opts sp.v l s.backupOffset))
      else if l.offset = l.tokenOffset then
        some (.token (if l.ch = -1 then 0 else tok) (rewind sp.opts sp.v l l.scanOffset))
      else some (.token tok l) := by
  rw [finish]
  simp only [classSwitch_invalidAct sp w, htok, (isInvalid_iff sp _).mpr rfl, if_true]

/-- What one pass of `Next` may return, relative to the lexer `l1` after `beginToken`. -/
def OutSpec (sp : Spec) (l1 : Lexer) : Outcome → Prop
  | .restart l' => PInv sp.opts sp.v l' ∧ Frame l1 l' ∧ l1.tokenOffset < l'.offset
  | .token tok l' => PInv sp.opts sp.v l' ∧ Frame l1 l' ∧
      l'.tokenOffset ≤ l'.offset ∧ (tok ≠ 0 → l'.tokenOffset < l'.offset) ∧
      (tok = 0 → l'.tokenOffset = l'.source.length ∧ l'.offset = l'.source.length)

theorem finish_valid (sp : Spec) (w : WFacts sp) (k : Nat) (act : Int) (s : Scan) (l l1 : Lexer)
    (ha : actOk sp [] act = true) (hp : PInv sp.opts sp.v l) (fr : Frame l1 l)
    (hlt : l.tokenOffset < l.offset) :
    ∃ out, finish sp (k + 1) act s l = some out ∧ OutSpec sp l1 out := by
  have hok := classSwitch_ok sp w act s.hash l.text ha
  obtain ⟨_, hinv, tok, htok, hz⟩ := actOk_facts sp _ hok
  simp only [finish, htok, hinv, Bool.false_eq_true, if_false]
  by_cases hsp : sp.spaceActions.contains (classSwitch sp act s.hash l.text) = true
  · simp only [hsp, if_true]
    exact ⟨_, rfl, hp, fr, by rw [← fr.tokenOffset]; exact hlt⟩
  · simp only [hsp]
    refine ⟨_, rfl, hp, fr, Nat.le_of_lt hlt, fun _ => hlt, ?_⟩
    intro h0
    rcases hz with hz | hz
    · exact absurd h0 hz
    · exact absurd hz hsp

theorem finish_spec (sp : Spec) (w : WFacts sp) (s : Scan) (l l1 : Lexer) (inv : LInv sp s l)
    (hneg : s.state < 0) (fr1 : Frame l1 l) :
    ∃ out, finish sp 2 (actionStart sp.t - s.state) s l = some out ∧ OutSpec sp l1 out := by
  by_cases hno : s.state = invCode sp
  · have hact : actionStart sp.t - s.state = invalidAct sp := (invCode_iff sp _).mpr hno
    obtain ⟨tok, htok, htok0⟩ := w.inv_tok
    rw [hact, finish_invalid sp w 1 s l htok]
    by_cases hb : s.backup ≥ 0
    · simp only [hb, if_true]
      rcases inv.bk with hb' | ⟨b1, b2, b3⟩
      · omega
      · obtain ⟨_, binv, _⟩ := actOk_facts sp _ b1
        simp only [binv, Bool.not_false, if_true]
        obtain ⟨r1, r2, fr⟩ := inv.pinv.rewind s.backupOffset (Nat.le_trans b3 inv.pinv.le)
        exact finish_valid sp w 0 s.backup _ _ l1 b1 r1 (fr1.trans fr) (by rw [fr.tokenOffset, r2]; exact b2)
    · simp only [hb, if_false]
      by_cases heq : l.offset = l.tokenOffset
      · -- the empty text: the token reaches to `scanOffset`, which is the end of the input or lies
        -- behind one character
        simp only [heq, if_true]
        obtain ⟨r1, r2, fr⟩ := inv.pinv.rewind l.scanOffset inv.pinv.scan_le
        refine ⟨_, rfl, r1, fr1.trans fr, ?_⟩
        rw [fr.tokenOffset, r2, fr.source, ← heq]
        rcases inv.pinv.eoi_or_char with ⟨hend, c1, c2⟩ | ⟨-, hch0, p3, -⟩
        · rw [if_pos c1, c2, hend]
          exact ⟨Nat.le_refl _, fun h => absurd rfl h, fun _ => ⟨rfl, rfl⟩⟩
        · have hne : ¬ l.ch = -1 := by omega
          rw [if_neg hne]
          exact ⟨Nat.le_of_lt p3, fun _ => p3, fun h => absurd h htok0⟩
      · simp only [heq, if_false]
        have hlt : l.tokenOffset < l.offset := Nat.lt_of_le_of_ne inv.tok_le (Ne.symm heq)
        exact ⟨_, rfl, inv.pinv, fr1, Nat.le_of_lt hlt, fun _ => hlt, fun h => absurd h htok0⟩
  · -- a usable action: the text is not empty, as before the first character only "no match" is final
    have hlt : l.tokenOffset < l.offset :=
      Nat.lt_of_le_of_ne inv.tok_le fun heq => hno ((inv.fresh heq.symm).2.1 hneg)
    exact finish_valid sp w 1 _ s l l1 ((inv.st_fin hneg).2.resolve_left hno) inv.pinv fr1 hlt

/-- `l.State` indexes `tmStateMap` (it is a public field the user may set). -/
def ValidState (sp : Spec) (l : Lexer) : Prop :=
  sp.multiState = true → 0 ≤ l.state ∧ l.state < (sp.t.stateMap.size : Int)

theorem ValidState.of_state_eq {sp : Spec} {l l' : Lexer} (hv : ValidState sp l) (h : l'.state = l.state) :
    ValidState sp l' := fun hm => h ▸ hv hm

theorem validState_of_single {sp : Spec} (h : sp.multiState = false) (l : Lexer) : ValidState sp l :=
  fun hm => nomatch h.symm.trans hm

theorem startState_ok (sp : Spec) (w : WFacts sp) (l : Lexer) (hv : ValidState sp l) :
    ∃ st, startState sp l = some st ∧ st ∈ startStates sp := by
  unfold startState startStates
  cases hm : sp.multiState with
  | true =>
    simp only [if_true]
    obtain ⟨h0, h1⟩ := hv hm
    obtain ⟨e, he⟩ := getI_some sp.t.stateMap l.state h0 h1
    exact ⟨e, he, Array.mem_toList_iff.mpr (getI_mem he)⟩
  | false =>
    simp only [Bool.false_eq_true, if_false]
    have hne := w.start_ne
    unfold startStates at hne
    simp only [hm, Bool.false_eq_true, if_false] at hne
    cases hl : sp.t.stateMap.toList with
    | nil => rw [hl] at hne; simp at hne
    | cons x xs =>
      exact ⟨x, (getI_natCast _ 0).trans (by rw [← Array.getElem?_toList, hl, List.getElem?_cons_zero]), by simp⟩

theorem rowOk_of_start (sp : Spec) (st : Int) (h : startRowOk sp [] st = true) :
    RowOk sp st ∧ EoiInv sp st := by
  unfold startRowOk at h
  simp only [Bool.and_eq_true, List.all_eq_true, List.mem_range] at h
  obtain ⟨h1, h2⟩ := h
  constructor
  · intro c hc0 hc e he
    have := h1 c.toNat ((Int.toNat_lt_toNat (Int.lt_of_le_of_lt hc0 hc)).mpr hc)
    rw [Int.toNat_of_nonneg hc0, he] at this
    simp only [Bool.or_eq_true, decide_eq_true_eq, beq_iff_eq] at this
    exact this
  · cases hc : eoiChainNC sp.t (numStates sp.t + 1) st with
    | none => rw [hc] at h2; simp at h2
    | some a =>
      rw [hc] at h2
      simp only [List.contains_nil, Bool.or_false, beq_iff_eq] at h2
      exact ⟨_, by rw [hc, h2]⟩

/-- One pass of `Next` on `l` up to the end of its loop: entered in the start state `st`, left with `(s', l')`. -/
structure LoopRun (sp : Spec) (l : Lexer) (st : Int) (s' : Scan) (l' : Lexer) : Prop where
  start : startState sp l = some st
  start_nonneg : 0 ≤ st
  inv₀ : LInv sp ⟨st, 0, -1, 0, 0⟩ (beginToken sp.opts l)
  run : loop sp (loopFuel sp (beginToken sp.opts l)) ⟨st, 0, -1, 0, 0⟩ (beginToken sp.opts l) = some (s', l')
  once : nextOnce sp l = finish sp 2 (actionStart sp.t - s'.state) s' l'
  inv : LInv sp s' l'
  final : s'.state < 0
  stable : Stable (beginToken sp.opts l) l'

theorem nextOnce_loop (sp : Spec) (w : WFacts sp) (l : Lexer) (hp : PInv sp.opts sp.v l)
    (hv : ValidState sp l) : ∃ st s' l', LoopRun sp l st s' l' := by
  obtain ⟨st, hst, hmem⟩ := startState_ok sp w l hv
  obtain ⟨hrow, heoi⟩ := rowOk_of_start sp st (w.start_ok st hmem)
  have hsm : 0 ≤ st ∧ st < (numStates sp.t : Int) := by
    unfold startState at hst
    split at hst <;> exact w.sm_ok _ st hst
  have inv : LInv sp ⟨st, 0, -1, 0, 0⟩ (beginToken sp.opts l) :=
    ⟨⟨hp.le, hp.ch, hp.so, hp.line, hp.lo⟩, Nat.le_refl _, hsm.2, fun h => absurd h (by show ¬ st < 0; omega), Or.inl rfl,
      fun _ => ⟨rfl, fun h => absurd h (by show ¬ st < 0; omega), fun _ => ⟨fun _ => hrow, fun _ => heoi⟩⟩⟩
  obtain ⟨s', l', h1, h2, h3, h4⟩ := loop_total sp w (loopFuel sp (beginToken sp.opts l)) _ _ inv (Nat.le_refl _)
  have hst' : startState sp (beginToken sp.opts l) = some st := hst
  exact ⟨st, s', l', {
    start := hst, start_nonneg := hsm.1, inv₀ := inv, run := h1,
    once := by simp only [nextOnce, hst', h1]
    inv := h2, final := h3, stable := h4 }⟩

theorem nextOnce_spec (sp : Spec) (w : WFacts sp) (l : Lexer) (hp : PInv sp.opts sp.v l)
    (hv : ValidState sp l) :
    ∃ out, nextOnce sp l = some out ∧ OutSpec sp (beginToken sp.opts l) out := by
  obtain ⟨st, s', l', r⟩ := nextOnce_loop sp w l hp hv
  rw [r.once]
  exact finish_spec sp w s' l' _ r.inv r.final r.stable.frame

/-- A chain of restart passes (skipped space-rule matches). -/
inductive Restarts (sp : Spec) : Lexer → Lexer → Prop
  | refl (l : Lexer) : Restarts sp l l
  | step {l l1 l2 : Lexer} : nextOnce sp l = some (.restart l1) → Restarts sp l1 l2 → Restarts sp l l2

structure NextSpec (sp : Spec) (l : Lexer) (tok : Int) (l' : Lexer) : Prop where
  pinv : PInv sp.opts sp.v l'
  source : l'.source = l.source
  state : l'.state = l.state
  after : l.offset ≤ l'.tokenOffset
  le : l'.tokenOffset ≤ l'.offset
  nonempty : tok ≠ 0 → l'.tokenOffset < l'.offset
  eoi : tok = 0 → l'.tokenOffset = l'.source.length ∧ l'.offset = l'.source.length
  line : sp.opts.tokenLine = true → l'.tokenLine = 1 + (countNL (l'.source.take l'.tokenOffset) : Int)
  col : sp.opts.tokenColumn = true → (sp.opts.tokenLine = true ∨ sp.v.colFix = true) →
    if sp.v.colFix then l'.tokenColumn = (l'.tokenOffset : Int) - (lineStart l'.source l'.tokenOffset : Int) + 1
    else l'.tokenColumn = (l'.tokenOffset : Int) - (lineStart l'.source l'.tokenOffset : Int) + 1 ∨
         l'.tokenColumn = (l'.tokenOffset : Int) - (lineStart l'.source l'.tokenOffset : Int) + 2
  gaps : ∃ lm, Restarts sp l lm ∧ lm.offset = l'.tokenOffset ∧ nextOnce sp lm = some (.token tok l')

/-- The positions of the returned token, read against the text `Next` was called on. -/
theorem NextSpec.positions {sp : Spec} {l l' : Lexer} {tok : Int} (h : NextSpec sp l tok l') :
    l.offset ≤ l'.tokenOffset ∧ l'.tokenOffset ≤ l'.offset ∧ l'.offset ≤ l.source.length ∧
    (sp.opts.tokenLine = true → l'.tokenLine = 1 + (countNL (l.source.take l'.tokenOffset) : Int)) :=
  ⟨h.after, h.le, h.source ▸ h.pinv.le, h.source ▸ h.line⟩

theorem nextLoop_spec (sp : Spec) (w : WFacts sp) : ∀ (fuel : Nat) (l : Lexer),
    PInv sp.opts sp.v l → ValidState sp l → (l.source.length - l.offset) + 2 ≤ fuel →
    ∃ tok l', nextLoop sp fuel l = some (tok, l') ∧ NextSpec sp l tok l' := by
  intro fuel
  induction fuel with
  | zero => intro l _ _ h; omega
  | succ fuel ih =>
    intro l hp hv hfuel
    obtain ⟨out, h1, h2⟩ := nextOnce_spec sp w l hp hv
    simp only [nextLoop, h1]
    cases out with
    | restart l1 =>
      obtain ⟨q1, fr, q4⟩ := h2
      have q4' : l.offset < l1.offset := q4
      have hle := q1.le
      have q2 : l1.source = l.source := fr.source
      rw [q2] at hle
      obtain ⟨tok, l', r1, r2⟩ := ih l1 q1 (hv.of_state_eq fr.state) (by rw [q2]; omega)
      refine ⟨tok, l', r1, r2.pinv, r2.source.trans q2, r2.state.trans fr.state, by have := r2.after; omega,
        r2.le, r2.nonempty, r2.eoi, r2.line, r2.col, ?_⟩
      obtain ⟨lm, g1, g2, g3⟩ := r2.gaps
      exact ⟨lm, Restarts.step h1 g1, g2, g3⟩
    | token tok l' =>
      obtain ⟨q1, fr, q7, q8, q9⟩ := h2
      have q2' : l'.source = l.source := fr.source
      have q4' : l'.tokenOffset = l.offset := fr.tokenOffset
      refine ⟨tok, l', rfl, q1, q2', fr.state, by omega, q7, q8, q9, ?_, ?_, ⟨l, Restarts.refl l, q4'.symm, h1⟩⟩
      · intro ht
        have q5' : l'.tokenLine = l.line := by rw [fr.tokenLine]; simp [beginToken, ht]
        rw [q5', q2', q4']; exact hp.line ht
      · intro hc hor
        have q6' : l'.tokenColumn = (l.offset : Int) - l.lineOffset + 1 := by rw [fr.tokenColumn]; simp [beginToken, hc]
        have hlo := hp.lo (by simp [Opts.hasLineOffset, hc]) hor
        rw [q6', q2', q4']
        split
        · rename_i hcf; rw [hlo.eq_of_colFix hcf]
        · rcases lineOffsetOk_iff.mp hlo with hlo | ⟨-, hlo⟩
          · left; rw [hlo]
          · right; omega

theorem next_total (sp : Spec) (w : WFacts sp) (l : Lexer) (hp : PInv sp.opts sp.v l) (hv : ValidState sp l) :
    ∃ tok l', next sp l = some (tok, l') ∧ NextSpec sp l tok l' :=
  nextLoop_spec sp w _ l hp hv (Nat.le_refl _)

theorem next_spec (sp : Spec) (w : WFacts sp) (l : Lexer) (hp : PInv sp.opts sp.v l) (hv : ValidState sp l)
    (tok : Int) (l' : Lexer) (h : next sp l = some (tok, l')) : NextSpec sp l tok l' := by
  obtain ⟨tok', l'', h1, h2⟩ := next_total sp w l hp hv
  cases h1.symm.trans h
  exact h2

end TmVerif.LexRun
