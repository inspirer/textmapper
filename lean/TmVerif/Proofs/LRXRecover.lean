import TmVerif.Proofs.LRXStep
/-!
Error recovery (C19), the part that needs no certificate: the recovery machinery is transparent on runs that
report no error; the reported error offsets are sorted and inside the input (`ErrInv`);
`4 · errCount − recovering` grows by at most one per shift iteration (`xstep_potential`), counted along
segments `XIter` of the loop.
-/
namespace TmVerif.LRX
open TmVerif.LR

theorem xpre_congr {x x' : XTables} (ht : x'.t = x.t) (hr : x'.rules = x.rules)
    (hf : x'.fixWhitespace = x.fixWhitespace) (hc : x'.cancellable = x.cancellable)
    (inp : Input) (k : Nat) (c : XCfg) : xpre x' inp k c = xpre x inp k c := by
  cases x; cases x'
  cases ht; cases hr; cases hf; cases hc
  -- the pre-step reads no other field (`recovering`, `errSym`, `afterErr`)
  rfl

theorem onError_hasErr {x : XTables} (inp : Input) (fin : Int) (stop : Bool) (c : XCfg)
    (hr : x.recovering = true) (hc : RecInv c) : hasErr (onError x inp fin stop c).cfg.evs := by
  refine hasErr_of_suffix (onError_rec_moves inp false fin stop c hr).evs_suffix ?_
  unfold errPrelude
  split
  · exact ⟨_, List.mem_cons_self, rfl⟩
  · next h0 => exact hc.resolve_left h0

theorem xstep_transparent {x x' : XTables} (ht : x'.t = x.t) (hrl : x'.rules = x.rules)
    (hf : x'.fixWhitespace = x.fixWhitespace) (hcn : x'.cancellable = x.cancellable)
    (hr : x.recovering = true) (inp : Input) (fin : Int) (stop stop' : Bool) (k : Nat) (c : XCfg)
    (hc : RecInv c) :
    xstep x' inp fin stop' k c = xstep x inp fin stop k c ∨ hasErr (xstep x inp fin stop k c).cfg.evs := by
  rw [xstep_pre, xstep_pre, xpre_congr ht hrl hf hcn]
  have hm := xpre_moves x inp true k c
  cases hp : xpre x inp k c with
  | cont c1 => exact .inl rfl
  | done r c1 => exact .inl rfl
  | err c1 =>
    right
    rw [hp] at hm
    exact onError_hasErr inp fin stop c1 hr (hm.recInv hc)

theorem xrunLoop_transparent {x x' : XTables} (ht : x'.t = x.t) (hrl : x'.rules = x.rules)
    (hf : x'.fixWhitespace = x.fixWhitespace) (hcn : x'.cancellable = x.cancellable)
    (hr : x.recovering = true) (inp : Input) (fin : Int) (stop stop' : Bool) (k : Nat) (fuel : Nat)
    (c : XCfg) (hc : RecInv c) :
    xrunLoop x' inp fin stop' k fuel c = xrunLoop x inp fin stop k fuel c ∨
      hasErr (xrunLoop x inp fin stop k fuel c).2.evs := by
  induction fuel generalizing c with
  | zero => exact .inl rfl
  | succ n ih =>
    by_cases hfin : c.state = fin
    · left; rw [xrunLoop_succ_fin hfin, xrunLoop_succ_fin hfin]
    · have he := xstep_transparent ht hrl hf hcn hr inp fin stop stop' k c hc
      have hinv := (xstep_moves x inp fin stop k c).recInv hc
      cases hs : xstep x inp fin stop k c with
      | cont c' =>
        rw [hs] at he hinv
        rw [xrunLoop_succ_cont hfin hs]
        rcases he with he | he
        · rw [xrunLoop_succ_cont hfin he]; exact ih c' hinv
        · -- an error reported by this iteration is still among the final events
          exact .inr (hasErr_of_suffix (xrunLoop_moves x inp fin stop k n c').evs_suffix he)
      | done r c' =>
        rw [hs] at he
        rw [xrunLoop_succ_done hfin hs]
        exact he.imp_left (xrunLoop_succ_done hfin)

theorem hasErr_iff (evs : List XEv) : hasErr evs ↔ ∃ o e, XEv.error o e ∈ evs := by
  constructor
  · rintro ⟨e, hm, he⟩
    cases e with
    | node => cases he
    | error o e => exact ⟨o, e, hm⟩
  · rintro ⟨o, e, hm⟩
    exact ⟨_, hm, rfl⟩

/-- offsets of the handler calls, most recent first -/
def errOffs (evs : List XEv) : List Nat :=
  evs.filterMap fun e => match e with | .error o _ => some o | .node _ _ _ => none

theorem errOffs_cons_error (o e : Nat) (evs : List XEv) : errOffs (.error o e :: evs) = o :: errOffs evs := rfl

theorem errOffs_nodes (l evs : List XEv) (h : ∀ e ∈ l, e.isNode = true) : errOffs (l ++ evs) = errOffs evs := by
  unfold errOffs
  rw [List.filterMap_append, List.filterMap_eq_nil_iff.2, List.nil_append]
  intro a ha
  cases a with
  | error => cases h _ ha
  | node => rfl

/-- `next` is the last token fetched; every reported offset is at most its offset, and the reported
offsets are sorted -/
structure ErrInv (inp : Input) (c : XCfg) : Prop where
  next : c.next = none ∨ ∃ j, c.next = some (inp.tok j) ∧ j + 1 = c.pos
  sorted : (errOffs c.evs).Pairwise (· ≥ ·)
  bound : ∀ o ∈ errOffs c.evs, o ≤ (inp.tok (c.pos - 1)).off

theorem Move.errInv {inp b c c'} (hm : MonoToks inp) (h : Move inp b c c') (hc : ErrInv inp c) :
    ErrInv inp c' := by
  obtain ⟨h1, h2, h3⟩ := hc
  cases h with
  | fetch _ _ hn =>
    refine ⟨.inr ⟨c.pos, rfl, rfl⟩, h2, fun o ho => ?_⟩
    exact Nat.le_trans (h3 o ho) (hm _ _ (Nat.sub_le_sub_right (Nat.le_succ c.pos) 1))
  | dropNext => exact ⟨.inl rfl, h2, h3⟩
  | setStack | setRec | bump => exact ⟨h1, h2, h3⟩
  | emitNodes _ _ evs hn =>
    have he : errOffs (evs ++ c.evs) = errOffs c.evs := errOffs_nodes _ _ hn
    exact ⟨h1, he.symm ▸ h2, he.symm ▸ h3⟩
  | emitError _ _ tk hn _ =>
    -- the token handed to the handler is the last one fetched, which bounds the earlier reports
    obtain rfl : tk = inp.tok (c.pos - 1) := by
      rcases h1 with h1 | ⟨j, h1, hj⟩
      · rw [h1] at hn; cases hn
      · obtain rfl : j = c.pos - 1 := Nat.eq_sub_of_add_eq hj
        exact Option.some.inj (hn.symm.trans h1)
    refine ⟨h1, List.Pairwise.cons h3 h2, fun o ho => ?_⟩
    rcases List.mem_cons.1 ho with rfl | ho
    · exact Nat.le_refl _
    · exact h3 o ho
  | shift _ _ tk q sc hn =>
    refine ⟨?_, h2, h3⟩
    show (if tk.sym ≠ 0 then none else c.next) = none ∨ ∃ j, (if tk.sym ≠ 0 then none else c.next) = _ ∧ _
    split
    · exact .inl rfl
    · exact h1

theorem Moves.errInv {inp b c c'} (hm : MonoToks inp) (h : Moves inp b c c') (hc : ErrInv inp c) :
    ErrInv inp c' := by
  induction h with
  | refl => exact hc
  | tail _ hmv ih => exact hmv.errInv hm ih

theorem errInv_xinit (inp : Input) (start : Int) : ErrInv inp (xinit inp start) :=
  ⟨.inr ⟨0, rfl, rfl⟩, List.Pairwise.nil, fun _ h => by cases h⟩

theorem mem_errOffs {o : Nat} {evs : List XEv} : o ∈ errOffs evs ↔ ∃ e, XEv.error o e ∈ evs := by
  unfold errOffs
  rw [List.mem_filterMap]
  constructor
  · rintro ⟨ev, hm, h⟩
    cases ev with
    | node => cases h
    | error o' e => simp only [Option.some.injEq] at h; subst h; exact ⟨e, hm⟩
  · rintro ⟨e, hm⟩
    exact ⟨_, hm, rfl⟩

/-- `l2` is earlier in time -/
theorem errOffs_sorted_elim {evs l1 l2 : List XEv} {o1 e1 o2 e2 : Nat}
    (hs : (errOffs evs).Pairwise (· ≥ ·)) (h : evs = l1 ++ XEv.error o2 e2 :: l2)
    (hm : XEv.error o1 e1 ∈ l2) : o1 ≤ o2 := by
  subst h
  have : errOffs (l1 ++ XEv.error o2 e2 :: l2) = errOffs l1 ++ o2 :: errOffs l2 := by
    unfold errOffs
    rw [List.filterMap_append, List.filterMap_cons]
  rw [this] at hs
  have h2 := (List.pairwise_append.1 hs).2.1
  exact (List.pairwise_cons.1 h2).1 o1 (mem_errOffs.2 ⟨e1, hm⟩)

theorem xrun_errInv {x : XTables} {inp : Input} {input : Nat} {stop : Bool} {k fuel : Nat}
    {r : XResult} {c : XCfg} (hm : MonoToks inp) (h : xrun x inp input stop k fuel = (r, c)) :
    ErrInv inp c := by
  unfold xrun at h
  split at h
  · cases h; exact errInv_xinit inp input
  · next fin _ =>
    have := (xrunLoop_moves x inp fin stop k fuel (xinit inp input)).errInv hm (errInv_xinit inp input)
    rw [h] at this; exact this

/-- decidable form of `MonoToks`: adjacent tokens, up to and including the first EOI -/
def monoToksB (inp : Input) : Bool :=
  (List.range (inp.toks.size + 1)).all fun i => decide ((inp.tok i).off ≤ (inp.tok (i + 1)).off)

theorem monoToks_of_check {inp : Input} (h : monoToksB inp = true) : MonoToks inp := by
  have adj : ∀ i, (inp.tok i).off ≤ (inp.tok (i + 1)).off := by
    intro i
    by_cases hi : i < inp.toks.size + 1
    · exact of_decide_eq_true (List.all_eq_true.1 h i (List.mem_range.2 hi))
    · rw [tok_of_size_le (i := i) (by omega), tok_of_size_le (i := i + 1) (by omega)]
      exact Nat.le_refl _
  intro i j hij
  induction hij with
  | refl => exact Nat.le_refl _
  | step _ ih => exact Nat.le_trans ih (adj _)

def errCount (c : XCfg) : Nat := (errOffs c.evs).length

def isShiftIter (x : XTables) (inp : Input) (c : XCfg) : Bool :=
  match xdecode x inp c with
  | some (_, .shift _) => true
  | _ => false

theorem Move.errOffs_eq {inp b c c'} (h : Move inp (b, false) c c') : errOffs c'.evs = errOffs c.evs := by
  cases h with
  | emitNodes _ _ evs hn => exact errOffs_nodes _ _ hn
  | _ => rfl

theorem Moves.errOffs_eq {inp b c c'} (h : Moves inp (b, false) c c') : errOffs c'.evs = errOffs c.evs := by
  induction h with
  | refl => rfl
  | tail _ hm ih => rw [hm.errOffs_eq, ih]

theorem Moves.errCount_eq {inp b c c'} (h : Moves inp (b, false) c c') : errCount c' = errCount c :=
  congrArg List.length h.errOffs_eq

theorem Move.recovering_eq {inp c c'} (h : Move inp (false, false) c c') : c'.recovering = c.recovering := by
  cases h <;> rfl

theorem Moves.recovering_eq {inp c c'} (h : Moves inp (false, false) c c') :
    c'.recovering = c.recovering := by
  induction h with
  | refl => rfl
  | tail _ hm ih => rw [hm.recovering_eq, ih]

/-- only an iteration that decodes a shift moves the counter, down by one (a panic may leave it) -/
theorem xpre_recovering (x : XTables) (inp : Input) (k : Nat) (c : XCfg) :
    (xpre x inp k c).cfg.recovering = c.recovering ∨
      (isShiftIter x inp c = true ∧ (xpre x inp k c).cfg.recovering = c.recovering - 1) := by
  unfold xpre isShiftIter
  cases hd : xdecode x inp c with
  | none => exact .inl rfl
  | some p =>
    obtain ⟨c1, a⟩ := p
    rw [← (xdecode_moves (false, false) hd).recovering_eq]
    dsimp only
    split
    · exact .inl rfl
    · cases a with
      | reduce r => exact .inl (xreducePre_moves x inp (false, false) c1 r).1.recovering_eq
      | shift q =>
        cases hn : c1.next with
        | none => rw [preBody_shift_none hn]; exact .inl rfl
        | some tk => rw [preBody_shift hn]; exact .inr ⟨rfl, rfl⟩
      | error => exact .inl rfl

theorem errPrelude_errCount (inp : Input) (c : XCfg) :
    errCount (errPrelude inp c) = errCount c + (if c.recovering = 0 then 1 else 0) := by
  unfold errPrelude errCount
  split
  · show (errOffs (XEv.error _ _ :: (c.fetch inp).1.evs)).length = _
    rw [errOffs_cons_error, fetch_evs]; rfl
  · rfl

theorem onError_cont {x : XTables} {inp : Input} {fin : Int} {stop : Bool} {c c3 : XCfg}
    (h : onError x inp fin stop c = .cont c3) (h4 : c.recovering ≤ 4) :
    c3.recovering = 4 ∧ 4 * errCount c3 + c.recovering ≤ 4 * errCount c + 4 := by
  cases hr : x.recovering
  · rw [onError_eq_norec inp fin stop c hr] at h; cases h
  · rw [onError_eq_rec inp fin stop c hr] at h
    split at h
    · cases h
    · split at h
      · cases h
      · cases h
      · next c3' hrf =>
        cases h
        have hm := recoverFromError_moves (false, false) _ _ hrf
        refine ⟨hm.recovering_eq, ?_⟩
        -- the handler is called (one more error) only when the counter was 0
        rw [show errCount c3 = errCount (errPrelude inp c) from hm.errCount_eq, errPrelude_errCount]
        split <;> omega

/-- Bookkeeping of `xstep_potential` in numbers: `e` handler calls so far, `r` the `recovering`
counter before the iteration, `r1` after its pre-step, `sh` "the iteration decodes a shift": only
then is the counter decremented. -/
theorem counter_step {e r r1 : Nat} {sh : Prop} [Decidable sh] (h4 : r ≤ 4)
    (hr : r1 = r ∨ (sh ∧ r1 = r - 1)) :
    r1 ≤ 4 ∧ 4 * e + r ≤ 4 * e + r1 + (if sh then 1 else 0) := by
  rcases hr with rfl | ⟨h1, rfl⟩
  · exact ⟨h4, Nat.le_add_right _ _⟩
  · rw [if_pos h1]; omega

theorem xstep_potential {x : XTables} {inp : Input} {fin : Int} {stop : Bool} {k : Nat} {c c' : XCfg}
    (h4 : c.recovering ≤ 4) (h : xstep x inp fin stop k c = .cont c') :
    c'.recovering ≤ 4 ∧
      4 * errCount c' + c.recovering ≤
        4 * errCount c + c'.recovering + (if isShiftIter x inp c = true then 1 else 0) := by
  rw [xstep_pre] at h
  have he := (xpre_moves x inp false k c).errCount_eq
  have hr := xpre_recovering x inp k c
  cases hp : xpre x inp k c with
  | cont c1 =>
    rw [hp] at h he hr
    obtain rfl : c1 = c' := XStep.cont.inj h
    rw [show errCount c1 = errCount c from he]
    exact counter_step h4 hr
  | done r c1 => rw [hp] at h; cases h
  | err c1 =>
    rw [hp] at h he hr
    -- the pre-step as above, then the error branch, which does not raise `4 · errCount − recovering`
    obtain ⟨h1, h2⟩ := counter_step (e := errCount c) (r1 := c1.recovering) h4 hr
    obtain ⟨h3, h5⟩ := onError_cont (show onError x inp fin stop c1 = .cont c' from h) h1
    rw [show errCount c1 = errCount c from he] at h5
    rw [h3]
    exact ⟨Nat.le_refl _, by omega⟩

/-- `XIter … c c' m`: the loop gets from `c` to `c'` by some iterations, `m` of which decode a shift -/
inductive XIter (x : XTables) (inp : Input) (fin : Int) (stop : Bool) (k : Nat) : XCfg → XCfg → Nat → Prop
  | refl (c : XCfg) : XIter x inp fin stop k c c 0
  | step {c c' c'' : XCfg} {m : Nat} : c.state ≠ fin → xstep x inp fin stop k c = .cont c' →
      XIter x inp fin stop k c' c'' m →
      XIter x inp fin stop k c c'' (m + (if isShiftIter x inp c = true then 1 else 0))

theorem XIter.potential {x : XTables} {inp : Input} {fin : Int} {stop : Bool} {k : Nat} {c c' : XCfg}
    {m : Nat} (h : XIter x inp fin stop k c c' m) (h4 : c.recovering ≤ 4) :
    c'.recovering ≤ 4 ∧ 4 * errCount c' + c.recovering ≤ 4 * errCount c + c'.recovering + m := by
  induction h with
  | refl => exact ⟨h4, Nat.le_refl _⟩
  | step _ hs _ ih =>
    obtain ⟨h1, h2⟩ := xstep_potential h4 hs
    obtain ⟨h3, h5⟩ := ih h1
    exact ⟨h3, by omega⟩

theorem XIter.xrunLoop {x : XTables} {inp : Input} {fin : Int} {stop : Bool} {k : Nat} {c c' : XCfg}
    {m : Nat} (h : XIter x inp fin stop k c c' m) :
    ∃ n, ∀ fuel, xrunLoop x inp fin stop k (n + fuel) c = xrunLoop x inp fin stop k fuel c' := by
  induction h with
  | refl => exact ⟨0, fun fuel => by rw [Nat.zero_add]⟩
  | step hfin hs _ ih =>
    obtain ⟨n, hn⟩ := ih
    refine ⟨n + 1, fun fuel => ?_⟩
    rw [Nat.add_right_comm, xrunLoop_succ_cont hfin hs, hn]

theorem xrunLoop_iter (x : XTables) (inp : Input) (fin : Int) (stop : Bool) (k : Nat) (fuel : Nat)
    (c : XCfg) :
    ∃ c' m, XIter x inp fin stop k c c' m ∧
      (xrunLoop x inp fin stop k fuel c = (.fuel, c') ∨
       (c'.state = fin ∧ xrunLoop x inp fin stop k fuel c = (.accept, c')) ∨
       ∃ r cf, c'.state ≠ fin ∧ xstep x inp fin stop k c' = .done r cf ∧
         xrunLoop x inp fin stop k fuel c = (r, cf)) := by
  induction fuel generalizing c with
  | zero => exact ⟨c, 0, .refl c, .inl rfl⟩
  | succ n ih =>
    by_cases hfin : c.state = fin
    · exact ⟨c, 0, .refl c, .inr (.inl ⟨hfin, xrunLoop_succ_fin hfin⟩)⟩
    · cases hs : xstep x inp fin stop k c with
      | cont c1 =>
        obtain ⟨c', m, hi, hres⟩ := ih c1
        refine ⟨c', _, .step hfin hs hi, ?_⟩
        rw [xrunLoop_succ_cont hfin hs]
        exact hres
      | done r cf =>
        exact ⟨c, 0, .refl c, .inr (.inr ⟨r, cf, hfin, hs, xrunLoop_succ_done hfin hs⟩)⟩

theorem xrunLoop_accept_iter {x : XTables} {inp : Input} {fin : Int} {stop : Bool} {k fuel : Nat}
    {c cf : XCfg} (h : xrunLoop x inp fin stop k fuel c = (.accept, cf)) :
    ∃ m, XIter x inp fin stop k c cf m ∧ cf.state = fin := by
  obtain ⟨c', m, hi, hres⟩ := xrunLoop_iter x inp fin stop k fuel c
  rcases hres with h' | ⟨hf, h'⟩ | ⟨r, cf', _, hs, h'⟩
  · rw [h] at h'; cases h'
  · rw [h] at h'; cases h'; exact ⟨m, hi, hf⟩
  · rw [h] at h'; cases h'; exact absurd hs xstep_done_ne_accept

end TmVerif.LRX
