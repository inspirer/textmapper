import TmVerif.Proofs.Ident
/-!
For C28: the resolver's `ids` map tracks exactly the IDs of `Syms`, and a `dup` error is in the status iff two entries
of `Syms` share an ID.
-/
namespace TmVerif.Ident

def hasDup (errs : List Err) : Bool := errs.any Err.isDup

def idsOf (syms : List Sym) : List Str := syms.map (·.id)

structure RInv (st : RState) : Prop where
  ids_iff : ∀ i, (st.ids.lookup i).isSome = true ↔ i ∈ idsOf st.syms
  dup_iff : hasDup st.errs = true ↔ ¬ (idsOf st.syms).Nodup

theorem idsOf_snoc (syms : List Sym) (n i : Str) : idsOf (syms ++ [⟨n, i⟩]) = idsOf syms ++ [i] :=
  List.map_append

theorem rinv_empty : RInv {} := by
  constructor
  · intro i; simp [idsOf, List.lookup]
  · simp [hasDup, idsOf]

theorem rinv_add (st st' : RState) (n i : Str) (h : RInv st)
    (hs : st'.syms = st.syms ++ [⟨n, i⟩]) (hi : st'.ids = (i, n) :: st.ids)
    (he : hasDup st'.errs = (hasDup st.errs || (st.ids.lookup i).isSome)) : RInv st' := by
  have hids : idsOf st'.syms = idsOf st.syms ++ [i] := hs ▸ idsOf_snoc st.syms n i
  constructor
  · intro j
    rw [hi, hids, List.lookup_cons, List.mem_append, List.mem_singleton, ← h.ids_iff]
    by_cases hj : j = i
    · rw [hj, beq_self_eq_true]; exact ⟨fun _ => Or.inr rfl, fun _ => rfl⟩
    · rw [beq_false_of_ne hj]; exact (or_iff_left hj).symm
  · -- the new ID may stand in front: a list with a duplicate is one whatever its order
    rw [he, hids, (List.perm_append_singleton _ _).nodup_iff, List.nodup_cons, Bool.or_eq_true, h.dup_iff,
      h.ids_iff, Classical.not_and_iff_not_or_not, Classical.not_not, or_comm]

theorem hasDup_append (a b : List Err) : hasDup (a ++ b) = (hasDup a || hasDup b) := by
  simp [hasDup, List.any_append]

theorem hasDup_snoc (a : List Err) {e : Err} (he : e.isDup = false) : hasDup (a ++ [e]) = hasDup a := by
  simp [hasDup, he]

theorem hasDup_ite (c : Prop) [Decidable c] (a : List Err) (e : Err) (he : e.isDup = false) :
    hasDup (if c then a ++ [e] else a) = hasDup a := by
  split
  · exact hasDup_snoc a he
  · rfl

theorem hasDup_lookup (a : List Err) (o : Option Str) (n : Str) :
    hasDup (match o with | some prev => a ++ [.dup n prev] | none => a) = (hasDup a || o.isSome) := by
  cases o with
  | none => simp
  | some prev => rw [hasDup_append]; simp [hasDup, Err.isDup]

theorem RInv.of_hasDup_eq {st : RState} (h : RInv st) {errs : List Err} (he : hasDup errs = hasDup st.errs) :
    RInv { st with errs := errs } :=
  ⟨h.ids_iff, by rw [he]; exact h.dup_iff⟩

theorem addToken_inv (st : RState) (name id : Str) (space : Bool) (h : RInv st) :
    RInv (addToken st name id space) := by
  have h1 := hasDup_ite ((st.spaces.lookup name).getD false != space) st.errs (.spaceMix name) rfl
  fun_cases addToken st name id space
  -- a known name (with another ID, with the same): errors that are no `dup`
  case case1 => exact h.of_hasDup_eq ((hasDup_snoc _ rfl).trans h1)
  case case2 => exact h.of_hasDup_eq h1
  case case3 _ id' => exact rinv_add st _ name id' h rfl rfl (hasDup_lookup ..)

theorem addNonterm_inv (st : RState) (name : Str) (h : RInv st) : RInv (addNonterm st name) := by
  apply rinv_add st _ name (produce name .camelCase) h rfl rfl
  exact (hasDup_lookup ..).trans (congrArg (· || _) (hasDup_ite (hasName st name) st.errs (.dupName name) rfl))

theorem addNonterm_syms (st : RState) (name : Str) :
    (addNonterm st name).syms = st.syms ++ [⟨name, produce name .camelCase⟩] := rfl

theorem foldl_addNonterm (acc : List Str) (st : RState) (h : RInv st) :
    RInv (acc.foldl addNonterm st) ∧
      idsOf (acc.foldl addNonterm st).syms = idsOf st.syms ++ acc.map (fun n => produce n .camelCase) := by
  induction acc generalizing st with
  | nil => simp [h]
  | cons n acc ih =>
    obtain ⟨h1, h2⟩ := ih (addNonterm st n) (addNonterm_inv st n h)
    refine ⟨h1, ?_⟩
    rw [List.foldl_cons, h2, addNonterm_syms, idsOf_snoc, List.append_assoc]
    rfl

theorem addFlexToken_inv (st : RState) (t : Str × Str × Bool) (h : RInv st) : RInv (addFlexToken st t) := by
  unfold addFlexToken
  split
  · exact h.of_hasDup_eq (hasDup_snoc _ rfl)
  · exact addToken_inv _ _ _ _ h

theorem tokenPhase_inv (d : Decls) : RInv (tokenPhase d) := by
  unfold tokenPhase
  split
  · exact List.foldlRecOn (motive := RInv) _ _
      (addToken_inv _ _ _ _ (addToken_inv _ _ _ _ (addToken_inv _ _ _ _ rinv_empty)))
      fun st h t _ => addFlexToken_inv st t h
  · exact List.foldlRecOn (motive := RInv) _ _ (addToken_inv _ _ _ _ (addToken_inv _ _ _ _ rinv_empty))
      fun st h t _ => addToken_inv st t.1 (lexemeId t.2.1) t.2.2 h

theorem collect_facts (st : RState) (nts acc0 : List Str) (errs0 : List Err) :
    ∃ new more, collectNonterms st nts acc0 errs0 = (acc0 ++ new, errs0 ++ more) ∧
      hasDup more = new.any fun n => (st.ids.lookup (produce n .camelCase)).isSome := by
  fun_induction collectNonterms st nts acc0 errs0
  case case1 => exact ⟨[], [], by simp, rfl⟩
  -- a redeclared name is skipped; `redecl` is not a `dup` error
  case case2 name _ _ _ _ ih | case3 name _ _ _ _ _ ih =>
    obtain ⟨new, more, e, hm⟩ := ih
    exact ⟨new, .redecl name :: more, by rw [e]; simp, hm⟩
  -- an accepted name, with and without an earlier owner of its ID
  case case4 name _ _ _ _ _ id errs ih =>
    obtain ⟨new, more, e, hm⟩ := ih
    cases hl : st.ids.lookup id with
    | none => exact ⟨name :: new, more, by rw [e]; simp [errs, hl], by rw [List.any_cons, hl]; exact hm⟩
    | some prev =>
      exact ⟨name :: new, .dup name prev :: more, by rw [e]; simp [errs, hl], by rw [List.any_cons, hl]; rfl⟩

/-- When nothing was reported before `addNonterms` runs, a `dup` error is reported exactly when two registered symbols
share an ID. -/
theorem hasDup_compileSyms (d : Decls)
    (hemp : (collectNonterms (tokenPhase d) d.nonterms [] (tokenPhase d).errs).2.isEmpty = true) :
    hasDup (compileSyms d).errs = true ↔ ¬ (finalIds d).Nodup := by
  unfold finalIds compileSyms
  simp only [hemp, if_true]
  obtain ⟨hf, hids⟩ := foldl_addNonterm
    (finalNts d (collectNonterms (tokenPhase d) d.nonterms [] (tokenPhase d).errs).1) (tokenPhase d) (tokenPhase_inv d)
  rw [hf.dup_iff, hids]
  rfl

theorem compileSyms_stopped (d : Decls)
    (hemp : ¬ (collectNonterms (tokenPhase d) d.nonterms [] (tokenPhase d).errs).2.isEmpty = true) :
    compileSyms d = ⟨(tokenPhase d).syms, (collectNonterms (tokenPhase d) d.nonterms [] (tokenPhase d).errs).2,
      (collectNonterms (tokenPhase d) d.nonterms [] (tokenPhase d).errs).1⟩ := by
  unfold compileSyms
  simp only [hemp, Bool.false_eq_true, if_false]

end TmVerif.Ident
