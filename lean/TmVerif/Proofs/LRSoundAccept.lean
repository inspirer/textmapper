/-
Tables that pass `certOk` (one token of lookahead; stacks `StackOk` along `Edge`, invariant `Inv`) as
an instance of the general invariant (`justified`, `decodeOk`): every configuration a run reaches has
the invariant (`reach_inv`) and no run panics (`runLoop_no_panic`). What an accepting run has
consumed is said in LRSoundInv (`run_accept_sentence`).
-/
import TmVerif.Proofs.LRSoundInv
namespace TmVerif.LRSound
open TmVerif.LR TmVerif.CFG

theorem justified {g : Grammar} {t : Tables} {cert : Cert} (hc : CertFacts g t cert) :
    Justified g t cert (Edge t) where
  wf := hc.wf
  nTerms := hc.nTerms
  nSyms := hc.nSyms
  nIn := hc.nIn
  pastEntry := hc.pastEntry
  edge := edge_ok hc
  goto s X hs h1 h2 := by
    obtain ⟨q, hq, h⟩ := nt_goto (hc.gotos s hs) hs h1 h2
    exact ⟨q, hq, h.imp_right fun h => Or.inr h.1⟩

/-- `StackOk g t i stk s syms w`: `stk` (top first) was built from the entry state `i` along
edges of the automaton; `s` is the top state, `syms` the symbols (top first), `w` the
concatenated yields (bottom first), each symbol deriving its yield. -/
inductive StackOk (g : Grammar) (t : Tables) (i : Nat) :
    List Entry → Nat → List Int → List Nat → Prop
  | base (e : Entry) : e.state = (i : Int) → StackOk g t i [e] i [] []
  | push (e : Entry) (rest : List Entry) (p X q : Nat) (syms : List Int) (w y : List Nat) :
      StackOk g t i rest p syms w → e.sym = (X : Int) → e.state = (q : Int) →
      Edge t p X (q : Int) → Derives g X y →
      StackOk g t i (e :: rest) q ((X : Int) :: syms) (w ++ y)

theorem stackOk_iff {g : Grammar} {t : Tables} {i : Nat} {stk : List Entry} {s : Nat}
    {syms : List Int} {w : List Nat} :
    StackOk g t i stk s syms w ↔ Stack g (Edge t) i stk s syms w := by
  constructor
  · intro h
    induction h with
    | base e he => exact .base he
    | push e rest p X q syms w y _ hX hq hE hD ih => exact .push ih hX hq hE hD
  · intro h
    induction h with
    | base he => exact .base _ he
    | push _ hX hq hE hD ih => exact .push _ _ _ _ _ _ _ _ ih hX hq hE hD

theorem StackOk.length {g : Grammar} {t : Tables} {i : Nat} {stk : List Entry} {s : Nat}
    {syms : List Int} {w : List Nat} (h : StackOk g t i stk s syms w) :
    stk.length = syms.length + 1 :=
  (stackOk_iff.mp h).length

theorem StackOk.lt {g : Grammar} {t : Tables} {cert : Cert} {i : Nat} (hc : CertFacts g t cert)
    (hi : i < g.inputs.size) {stk : List Entry} {s : Nat}
    {syms : List Int} {w : List Nat} (h : StackOk g t i stk s syms w) : s < t.nStates :=
  (stackOk_iff.mp h).lt (justified hc) hi

def Inv (g : Grammar) (t : Tables) (i : Nat) (inp : Input) (c : Cfg) : Prop :=
  ∃ s syms, StackOk g t i c.stack s syms (consumed inp (nshift c.evs)) ∧ c.state = (s : Int) ∧
    NextOk inp c (nshift c.evs)

theorem inv_iff {g : Grammar} {t : Tables} {i : Nat} {inp : Input} {c : Cfg} :
    Inv g t i inp c ↔ StackInv g (Edge t) i inp c :=
  ⟨fun ⟨s, syms, h, r⟩ => ⟨s, syms, stackOk_iff.mp h, r⟩,
   fun ⟨s, syms, h, r⟩ => ⟨s, syms, stackOk_iff.mpr h, r⟩⟩

theorem inv_init (g : Grammar) (t : Tables) (i : Nat) (inp : Input) :
    Inv g t i inp (initCfg inp i) :=
  inv_iff.mpr stackInv_init

theorem decodeOk {g : Grammar} {t : Tables} {cert : Cert} {inp : Input}
    (hc : CertFacts g t cert) (htok : TokOk t inp) : DecodeOk g t cert (Edge t) inp := by
  intro c c1 act s m hs hst hn hd
  obtain ⟨b, act', hb, hact, _, hok, hd'⟩ := decode_cert hc htok hs hst hn
  obtain ⟨rfl, rfl⟩ := Prod.mk.inj (Option.some.inj (hd'.symm.trans hd))
  cases act' with
  | error => trivial
  | reduce r => cases b <;> exact hok
  | shift q =>
    cases b with
    | false => cases hok
    | true =>
      exact ⟨(fetch_spec inp c m hn).2.1,
        Or.inl ⟨hs, (symAt_lt_nTerms htok hc.nTermsPos m).1, hb, hact _⟩⟩

theorem step_inv {g : Grammar} {t : Tables} {cert : Cert} {inp : Input} {i : Nat}
    (hc : CertFacts g t cert) (htok : TokOk t inp) (hi : i < g.inputs.size)
    (c c' : Cfg) (h : Inv g t i inp c) (hs : step t inp c = .cont c') : Inv g t i inp c' :=
  inv_iff.mpr (step_stackInv (justified hc) (decodeOk hc htok) htok hi c c' (inv_iff.mp h) hs)

inductive Reach (t : Tables) (inp : Input) (i : Nat) : Cfg → Prop
  | init : Reach t inp i (initCfg inp i)
  | step (c c' : Cfg) : Reach t inp i c → step t inp c = .cont c' → Reach t inp i c'

theorem reach_inv {g : Grammar} {t : Tables} {cert : Cert} {inp : Input} {i : Nat}
    (hc : CertFacts g t cert) (htok : TokOk t inp) (hi : i < g.inputs.size) {c : Cfg}
    (h : Reach t inp i c) : Inv g t i inp c := by
  induction h with
  | init => exact inv_init g t i inp
  | step c c' _ hs ih => exact step_inv hc htok hi c c' ih hs

theorem runLoop_no_panic {g : Grammar} {t : Tables} {cert : Cert} {inp : Input} {i : Nat}
    (hc : CertFacts g t cert) (htok : TokOk t inp) (hi : i < g.inputs.size) (fin : Int)
    (fuel : Nat) (c c' : Cfg) (hinv : Inv g t i inp c) : runLoop t inp fin fuel c ≠ (.panic, c') := by
  intro h
  have hJ := justified hc
  have hD := decodeOk hc htok
  have hp := runLoop_inv hJ id (step_stackInv hJ hD htok hi) hD htok hi fin fuel c (inv_iff.mp hinv)
  rw [h] at hp
  -- `decode` answers in every state of certified tables
  obtain ⟨c0, ⟨s, syms, hstk, hst, hn⟩, hd⟩ := hp
  obtain ⟨_, _, _, _, _, _, hd'⟩ := decode_cert hc htok (hstk.lt hJ hi) hst hn
  cases hd'.symm.trans hd

end TmVerif.LRSound
