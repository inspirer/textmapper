/-
C14, lookahead flags: when the propagation certificate `propCertB g F g'` holds, the meaning of `g`
with IMPLICIT lookahead flags (`laImp g`: a flag flows through the first symbol of an alternative,
is `false` elsewhere) is the meaning of `g'` where every parameter is passed explicitly (`noImp`).
-/
import TmVerif.Proofs.TemplatesArgs
namespace TmVerif.Templates
open TmVerif.CFG

mutual
theorem Pred.beq_eq : ∀ (a b : Pred), a.beq b = true → a = b
  | .eq p v, .eq p' v', h => by simp [Pred.beq] at h; simp [h.1, h.2]
  | .not a, .not b, h => congrArg Pred.not (Pred.beq_eq a b h)
  | .and l, .and l', h => congrArg Pred.and (Pred.beqL_eq l l' h)
  | .or l, .or l', h => congrArg Pred.or (Pred.beqL_eq l l' h)
  | .eq _ _, .not _, h | .eq _ _, .and _, h | .eq _ _, .or _, h
  | .not _, .eq _ _, h | .not _, .and _, h | .not _, .or _, h
  | .and _, .eq _ _, h | .and _, .not _, h | .and _, .or _, h
  | .or _, .eq _ _, h | .or _, .not _, h | .or _, .and _, h => by simp [Pred.beq] at h
theorem Pred.beqL_eq : ∀ (l l' : List Pred), Pred.beqL l l' = true → l = l'
  | [], [], _ => rfl
  | a :: l, b :: l', h => by
    simp only [Pred.beqL, Bool.and_eq_true] at h
    rw [Pred.beq_eq a b h.1, Pred.beqL_eq l l' h.2]
  | [], _ :: _, h | _ :: _, [], h => by simp [Pred.beqL] at h
end

theorem optPredBeq_eq {a b : Option Pred} (h : optPredBeq a b = true) : a = b := by
  cases a <;> cases b <;> simp [optPredBeq] at h ⊢
  exact Pred.beq_eq _ _ h

mutual
theorem Pred.eval_congr (e e' : Env) : ∀ (p : Pred), (∀ q ∈ p.params, e q = e' q) → p.eval e = p.eval e'
  | .eq p v, h => congrArg (· == v) (h p (List.mem_singleton_self p))
  | .not a, h => congrArg (!·) (Pred.eval_congr e e' a h)
  | .and l, h => Pred.evalAll_congr e e' l h
  | .or l, h => Pred.evalAny_congr e e' l h
theorem Pred.evalAll_congr (e e' : Env) : ∀ (l : List Pred), (∀ q ∈ Pred.paramsL l, e q = e' q) →
    Pred.evalAll e l = Pred.evalAll e' l
  | [], _ => rfl
  | a :: l, h => by
    rw [Pred.evalAll, Pred.evalAll, Pred.eval_congr e e' a (fun q hq => h q (List.mem_append_left _ hq)),
      Pred.evalAll_congr e e' l (fun q hq => h q (List.mem_append_right _ hq))]
theorem Pred.evalAny_congr (e e' : Env) : ∀ (l : List Pred), (∀ q ∈ Pred.paramsL l, e q = e' q) →
    Pred.evalAny e l = Pred.evalAny e' l
  | [], _ => rfl
  | a :: l, h => by
    rw [Pred.evalAny, Pred.evalAny, Pred.eval_congr e e' a (fun q hq => h q (List.mem_append_left _ hq)),
      Pred.evalAny_congr e e' l (fun q hq => h q (List.mem_append_right _ hq))]
end

/-- Hypothesis of `C14_propagate_args_sound_partial`. `e` is an environment of `g` (lookahead flags implicit),
`e'` one of `g'` inside a nonterminal with parameters `P'` (everything explicit); `FN` is the certificate's set of
flags the nonterminal can accept. Two inputs are related with both environments `env0`. -/
def EnvRel (g : TGrammar) (FN P' : List Nat) (e e' : Env) : Prop :=
  ∀ p, (p ∈ P' → e p = e' p) ∧ (p ∉ P' → e' p = 0 ∧ (g.isLA p = true → p ∈ FN → e p = 0))

structure ParamsCert (g : TGrammar) (FN : List Nat) (nt nt' : Nonterm) : Prop where
  sub : ∀ p ∈ nt.params, g.isLA p = false ∧ p ∈ nt'.params
  ext : ∀ p ∈ nt'.params, p ∈ nt.params ∨ (g.isLA p = true ∧ p ∈ FN)

theorem paramsCert_of {g : TGrammar} {FN : List Nat} {nt nt' : Nonterm} (h : paramsCertB g FN nt nt' = true) :
    ParamsCert g FN nt nt' := by
  simp only [paramsCertB, Bool.and_eq_true, List.all_eq_true, Bool.not_eq_true', Bool.or_eq_true,
    List.contains_iff_mem] at h
  exact ⟨fun p hp => h.1 p hp, fun p hp => h.2 p hp⟩

theorem relevant_eq {g : TGrammar} {FN : List Nat} {nt nt' : Nonterm} {e e' : Env}
    (hc : ParamsCert g FN nt nt') (hR : EnvRel g FN nt'.params e e') {q : Nat}
    (hq : relevantB g nt.params FN q = true) : e q = e' q := by
  by_cases hm : q ∈ nt'.params
  · exact (hR q).1 hm
  · obtain ⟨h0, hla⟩ := (hR q).2 hm
    simp only [relevantB, Bool.or_eq_true, Bool.and_eq_true, List.contains_iff_mem] at hq
    rcases hq with hq | ⟨hl, hf⟩
    · exact absurd (hc.sub q hq).2 hm
    · rw [h0, hla hl hf]

theorem refCert_point {g : TGrammar} {FN FT ntp ntp' tp' : List Nat} {first : Bool} {args args' : List Arg}
    (h : refCertB g FN FT ntp ntp' tp' first args args' = true) (p : Nat) :
    match findArg args p, findArg args' p with
    | some x, some y => x = y ∧ (match x with
        | .takeFrom q => relevantB g ntp FN q = true
        | .value _ => True)
    | none, some y => g.isLA p = true ∧ ((first = true ∧ y = .takeFrom p) ∨ (y = .value 0 ∧ (first = false ∨ p ∉ ntp')))
    | some _, none => False
    | none, none => True := by
  simp only [refCertB, Bool.and_eq_true, List.all_eq_true] at h
  obtain ⟨⟨_, hall⟩, _⟩ := h
  by_cases hp : p ∈ args.map (·.param) ++ args'.map (·.param)
  · have := hall p hp
    cases h1 : findArg args p <;> cases h2 : findArg args' p <;> simp only [h1, h2] at this ⊢
    -- left: an argument in `args'` only, in `args` only, in both
    · simpa using this
    · exact absurd this (by simp)
    · rename_i x y
      simp only [Bool.and_eq_true, beq_iff_eq] at this
      refine ⟨this.1, ?_⟩
      cases x with
      | value v => trivial
      | takeFrom q => simpa using this.2
  · have h1 : findArg args p = none := findArg_none_iff.mpr (fun hm => hp (List.mem_append_left _ hm))
    have h2 : findArg args' p = none := findArg_none_iff.mpr (fun hm => hp (List.mem_append_right _ hm))
    simp [h1, h2]

theorem refCert_pars {g : TGrammar} {FN FT ntp ntp' tp' : List Nat} {first : Bool} {args args' : List Arg}
    (h : refCertB g FN FT ntp ntp' tp' first args args' = true) : pars args' = tp' := by
  simp only [refCertB, Bool.and_eq_true, beq_iff_eq] at h
  exact h.1.1

theorem refCert_entry {g : TGrammar} {FN FT ntp ntp' tp' : List Nat} {args args' : List Arg}
    (h : refCertB g FN FT ntp ntp' tp' true args args' = true) (p : Nat) (hF : p ∈ FT) (hla : g.isLA p = true)
    (hn : findArg args p = none) : p ∈ FN ∧ (p ∈ ntp' → p ∈ tp') := by
  simp only [refCertB, Bool.and_eq_true, Bool.not_true, Bool.false_or, List.all_eq_true] at h
  have hnp : p ∉ args.map (·.param) := findArg_none_iff.mp hn
  have hp : p ∈ args.map (·.param) ∨ (p ∈ FN ∧ (p ∉ ntp' ∨ p ∈ tp')) := by
    simpa only [hla, Bool.not_true, Bool.false_or, Bool.or_eq_true, List.contains_iff_mem, Bool.and_eq_true,
      Bool.not_eq_true', Bool.eq_false_iff, ne_eq] using h.2 p hF
  obtain ⟨hFN, himp⟩ := hp.resolve_left hnp
  exact ⟨hFN, fun hm => himp.resolve_left (not_not_intro hm)⟩

theorem ref_preserve {g : TGrammar} {FN FT : List Nat} {nt nt' t t' : Nonterm} {first : Bool}
    {args args' : List Arg} (N k : Nat)
    (hcN : ParamsCert g FN nt nt') (hcT : ParamsCert g FT t t')
    (href : refCertB g FN FT nt.params nt'.params t'.params first args args' = true)
    {e e' : Env} (hR : EnvRel g FN nt'.params e e') :
    EnvRel g FT t'.params (callEnv (laImp g) N first k e args) (callEnv noImp N first k e' args') := by
  intro p
  have hpt := refCert_point href p
  have hpars := refCert_pars href
  -- an implicit flag is `false` on the left unless the reference is first and the caller has it as a parameter on the right
  have hzero : findArg args p = none → g.isLA p = true → p ∈ FT → (first = true → p ∉ nt'.params) →
      laImp g N first k e p = 0 := fun h1 hla hFT hn => by
    simp only [laImp, hla, Bool.and_true]
    cases first with
    | false => rfl
    | true => exact ((hR p).2 (hn rfl)).2 hla (refCert_entry href p hFT hla h1).1
  constructor
  · -- a parameter of the target: it has an argument on the right
    intro hp
    simp only [callEnv]
    cases h2 : findArg args' p with
    | none => exact absurd hp (hpars ▸ findArg_none_iff.1 h2)
    | some y =>
      cases h1 : findArg args p with
      | some x =>
        simp only [h1, h2] at hpt
        obtain ⟨rfl, hx⟩ := hpt
        cases x with
        | value v => rfl
        | takeFrom q => exact relevant_eq hcN hR hx
      | none =>
        simp only [h1, h2] at hpt
        obtain ⟨hla, hcase⟩ := hpt
        -- p is a lookahead parameter of the target, hence in FT
        have hFT : p ∈ FT := ((hcT.ext p hp).resolve_left fun h => by simp [(hcT.sub p h).1] at hla).2
        rcases hcase with ⟨hf, rfl⟩ | ⟨rfl, hcase⟩
        · subst hf
          have hFN := (refCert_entry href p hFT hla h1).1
          simp only [laImp, hla, Bool.and_self, if_true, ArgV.get]
          exact relevant_eq hcN hR (by simp [relevantB, hla, hFN])
        · exact hzero h1 hla hFT fun hf => hcase.resolve_left (by simp [hf])
  · intro hp
    have hnone : findArg args' p = none := findArg_none_iff.2 (hpars ▸ hp)
    refine ⟨by simp [callEnv, hnone, noImp], ?_⟩
    intro hla hFT
    cases h1 : findArg args p with
    | some x => simp only [h1, hnone] at hpt
    | none =>
      simp only [callEnv, h1]
      exact hzero h1 hla hFT fun hf hm => by subst hf; exact hp ((refCert_entry href p hFT hla h1).2 hm)

theorem ntsCert_all2 {g : TGrammar} {F : List (List Nat)} {g' : TGrammar} {l l' : List Nonterm} {k : Nat}
    (h : ntsCertB g F g' k l l' = true) :
    All2 (fun (x : Nonterm × Nat) nt' => ntCertB g F g' x.2 x.1 nt' = true) (l.zipIdx k) l' := by
  fun_induction ntsCertB g F g' k l l' with
  | case1 => exact .nil
  | case2 k nt l nt' l' ih => rw [Bool.and_eq_true] at h; exact .cons h.1 (ih h.2)
  | case3 => cases h

theorem altsCert_all2 {g : TGrammar} {F : List (List Nat)} {g' : TGrammar} {FN ntp ntp' : List Nat}
    {l l' : List Alt} (h : altsCertB g F g' FN ntp ntp' l l' = true) :
    All2 (fun a a' => altCertB g F g' FN ntp ntp' a a' = true) l l' := by
  fun_induction altsCertB g F g' FN ntp ntp' l l' with
  | case1 => exact .nil
  | case2 a l a' l' ih => rw [Bool.and_eq_true] at h; exact .cons h.1 (ih h.2)
  | case3 => cases h

section
variable {g : TGrammar} {F : List (List Nat)} {g' : TGrammar}

theorem cert_nt (h : propCertB g F g' = true) :
    g'.nTerms = g.nTerms ∧
    (∀ N nt, g.nts[N]? = some nt → ∃ nt', g'.nts[N]? = some nt' ∧ ntCertB g F g' N nt nt' = true) ∧
    (∀ N nt', g'.nts[N]? = some nt' → ∃ nt, g.nts[N]? = some nt ∧ ntCertB g F g' N nt nt' = true) := by
  simp only [propCertB, Bool.and_eq_true, beq_iff_eq] at h
  have hall := ntsCert_all2 h.2
  refine ⟨h.1, fun N nt hN => ?_, fun N nt' hN' => ?_⟩
  · exact hall.get N (nt, N) (by simp [List.getElem?_zipIdx, hN])
  · obtain ⟨⟨x, M⟩, hx, hc⟩ := hall.get' N nt' hN'
    obtain ⟨nt, hN, rfl, rfl⟩ : ∃ nt, g.nts[N]? = some nt ∧ nt = x ∧ N = M := by simpa [List.getElem?_zipIdx] using hx
    exact ⟨nt, hN, hc⟩

theorem ntCert_parts {N : Nat} {nt nt' : Nonterm} (h : ntCertB g F g' N nt nt' = true) :
    ParamsCert g (Fof F N) nt nt' ∧ altsCertB g F g' (Fof F N) nt.params nt'.params nt.alts nt'.alts = true := by
  simp only [ntCertB, Bool.and_eq_true] at h
  exact ⟨paramsCert_of h.1, h.2⟩

def RefCert (g : TGrammar) (F : List (List Nat)) (g' : TGrammar) (N : Nat) (first : Bool) (k : Nat)
    (args args' : List Arg) : Prop :=
  ∃ nt nt', g'.nts[N]? = some nt' ∧ ParamsCert g (Fof F N) nt nt' ∧
    refCertB g (Fof F N) (Fof F k) nt.params nt'.params (g'.ntParams k) first args args' = true

def CertRel (g : TGrammar) (F : List (List Nat)) (g' : TGrammar) (N : Nat) (e e' : Env) : Prop :=
  ∃ nt', g'.nts[N]? = some nt' ∧ EnvRel g (Fof F N) nt'.params e e'

theorem seqCert_rel {N : Nat} {nt nt' : Nonterm} (hnt' : g'.nts[N]? = some nt')
    (hpc : ParamsCert g (Fof F N) nt nt') {first : Bool} {syms syms' : List Sym}
    (h : seqCertB g F g' (Fof F N) nt.params nt'.params first syms syms' = true) :
      SeqRel (RefCert g F g' N) first syms syms' := by
  fun_induction seqCertB g F g' (Fof F N) nt.params nt'.params first syms syms' with
  | case1 => exact .nil
  | case2 _ a r b r' ih =>
    simp only [Bool.and_eq_true, beq_iff_eq] at h
    obtain ⟨rfl, h⟩ := h
    exact .t (ih h)
  | case3 first k args r k' args' r' ih =>
    simp only [Bool.and_eq_true, beq_iff_eq] at h
    obtain ⟨⟨rfl, href⟩, h⟩ := h
    exact .n ⟨nt, nt', hnt', hpc, href⟩ (ih h)
  | case4 => cases h

theorem ntCert_rel {N : Nat} {nt nt' : Nonterm} (hnt' : g'.nts[N]? = some nt')
    (hc : ntCertB g F g' N nt nt' = true) {e e' : Env} (hR : EnvRel g (Fof F N) nt'.params e e') :
    All2 (fun a a' => a.enabled e = a'.enabled e' ∧ SeqRel (RefCert g F g' N) true a.rhs a'.rhs)
      nt.alts nt'.alts := by
  obtain ⟨hpc, hcs⟩ := ntCert_parts hc
  refine (altsCert_all2 hcs).imp fun a _ a' h => ?_
  simp only [altCertB, Bool.and_eq_true] at h
  refine ⟨Alt.enabled_congr (optPredBeq_eq h.1.1) fun p hpa => ?_, seqCert_rel hnt' hpc h.2⟩
  have hrel := h.1.2
  simp only [hpa, List.all_eq_true] at hrel
  exact Pred.eval_congr e e' p fun q hq => relevant_eq hpc hR (hrel q hq)

theorem refCert_preserve {N k : Nat} {first : Bool} {args args' : List Arg} {e e' : Env}
    (href : RefCert g F g' N first k args args') (hR : CertRel g F g' N e e') {t t' : Nonterm}
    (ht' : g'.nts[k]? = some t') (hct : ntCertB g F g' k t t' = true) :
    CertRel g F g' k (callEnv (laImp g) N first k e args) (callEnv noImp N first k e' args') := by
  obtain ⟨nt, nt', hnt', hpc, href⟩ := href
  obtain ⟨nt'', hnt'', hR⟩ := hR
  cases hnt'.symm.trans hnt''
  rw [g'.ntParams_eq ht'] at href
  exact ⟨t', ht', ref_preserve N k hpc (ntCert_parts hct).1 href hR⟩

theorem propagate_forward (hcert : propCertB g F g' = true) {N : Nat} {e e' : Env} {w : List Nat}
    (hR : CertRel g F g' N e e') (hder : Der (laImp g) g N e w) : Der noImp g' N e' w := by
  obtain ⟨hT, hfw, _⟩ := cert_nt hcert
  refine der_sim (R := CertRel g F g') (Ref := RefCert g F g') hT ?_ ?_ hder e' hR
  · rintro N e e' nt a ⟨nt', hnt', hR⟩ hnt ha
    obtain ⟨nt'', hnt'', hc⟩ := hfw N nt hnt
    cases hnt'.symm.trans hnt''
    obtain ⟨a', ha', hen, hs⟩ := (ntCert_rel hnt' hc hR).mem a ha
    exact ⟨nt', a', hnt', ha', hen.symm, hs⟩
  · intro N first k t args args' e e' ht href hR
    obtain ⟨t', ht', hct⟩ := hfw k t ht
    exact refCert_preserve href hR ht' hct

theorem propagate_backward (hcert : propCertB g F g' = true) {N : Nat} {e e' : Env} {w : List Nat}
    (hR : CertRel g F g' N e e') (hder : Der noImp g' N e' w) : Der (laImp g) g N e w := by
  obtain ⟨hT, _, hbw⟩ := cert_nt hcert
  refine der_sim (R := fun N e' e => CertRel g F g' N e e')
    (Ref := fun N f k a' a => RefCert g F g' N f k a a') hT.symm ?_ ?_ hder e hR
  · rintro N e' e nt' a' ⟨nt'', hnt'', hR⟩ hnt' ha'
    cases hnt'.symm.trans hnt''
    obtain ⟨nt, hnt, hc⟩ := hbw N nt' hnt'
    obtain ⟨a, ha, hen, hs⟩ := forall2_mem' (ntCert_rel hnt' hc hR) a' ha'
    exact ⟨nt, a, hnt, ha, hen, hs.flip⟩
  · intro N first k t' args' args e' e ht' href hR
    obtain ⟨t, _, hct⟩ := hbw k t' ht'
    exact refCert_preserve href hR ht' hct

theorem envRel_env0 (FN : List Nat) : EnvRel g FN [] env0 env0 := by
  intro p
  simp [env0]

end

theorem propagate_ok_spec {q : Quirks} {g g' : TGrammar} (h : propagate q g = (.ok, g')) :
    g'.inputs = g.inputs ∧ checkModel g' = true := by
  unfold propagate at h
  extract_lets flags compat s0 s s' req missing nts1 nts2 g2 at h
  -- `.ok` is the last of four outcomes
  by_cases h1 : (!checkModelLA g) = true
  · rw [if_pos h1] at h; cases h
  · rw [if_neg h1] at h
    by_cases h2 : (s'.err || missing) = true
    · rw [if_pos h2] at h; cases h
    · rw [if_neg h2] at h
      by_cases h3 : (!checkModel g2) = true
      · rw [if_pos h3] at h; cases h
      · rw [if_neg h3] at h
        rw [← (Prod.mk.inj h).2]
        exact ⟨rfl, by simpa using h3⟩

theorem checkModel_inputs {g : TGrammar} (h : checkModel g = true) {i : Nat × Bool} (hi : i ∈ g.inputs) :
    ∃ nt, g.nts[i.1]? = some nt ∧ nt.params = [] := by
  simp only [checkModel, Bool.and_eq_true, List.all_eq_true] at h
  have := h.1 i hi
  split at this
  · next nt hnt => exact ⟨nt, hnt, List.isEmpty_iff.1 this⟩
  · cases this

theorem compile_ok {q : Quirks} {src : TGrammar} {fuel : Nat} {r : List Inst × Grammar} {c : Bool}
    (h : compile q src fuel = (.ok, some r, c)) :
    ∃ m m', resolveAll src = some m ∧ propagate q m = (.ok, m') ∧ instantiate m' fuel = some r ∧
      propCertB m (laFlowFlags m) m' = c := by
  revert h
  -- the rows of `compile`: loading fails; all three stages succeed; instantiation fails; propagation is not `ok`
  fun_cases compile q src fuel <;> intro h
  · cases h
  · next m hr m' hp _ hi => cases h; exact ⟨m, m', hr, hp, hi, rfl⟩
  · cases h
  · cases h

end TmVerif.Templates
