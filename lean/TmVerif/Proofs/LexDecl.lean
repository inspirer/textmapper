import TmVerif.Proofs.LexDeriv
/-!
C09: the executable `scanSpec` (derivative vectors) computes the relation `ScanResult`, which states the
property with languages only.
-/
namespace TmVerif.LexSpec
open TmVerif.Regex

def Cand (rs : List Rule) (ds : List Regex) (k : Nat) (r : Rule) : Prop :=
  rs[k]? = some r ∧ ∃ d, ds[k]? = some d ∧ nullable d = true

theorem not_cand_nil_left {ds : List Regex} {k : Nat} {r : Rule} : ¬ Cand [] ds k r := by simp [Cand]

theorem not_cand_nil_right {rs : List Rule} {k : Nat} {r : Rule} : ¬ Cand rs [] k r := by simp [Cand]

theorem cand_zero {r r' : Rule} {rs : List Rule} {d : Regex} {ds : List Regex} :
    Cand (r :: rs) (d :: ds) 0 r' ↔ r = r' ∧ nullable d = true := by simp [Cand]

theorem cand_succ {r r' : Rule} {rs : List Rule} {d : Regex} {ds : List Regex} {k : Nat} :
    Cand (r :: rs) (d :: ds) (k + 1) r' ↔ Cand rs ds k r' := by simp [Cand]

/-- `(p, a)` is the accumulator, which no candidate beats, or belongs to the first candidate of greatest
precedence, which beats the accumulator. -/
def Wins (acc : Option (Int × Int)) (rs : List Rule) (ds : List Regex) (p a : Int) : Prop :=
  (acc = some (p, a) ∧ ∀ k r, Cand rs ds k r → r.prec ≤ p) ∨
  ∃ k r, Cand rs ds k r ∧ r.prec = p ∧ r.action = a ∧ (∀ p0 a0, acc = some (p0, a0) → p0 < p) ∧
    ∀ j rj, Cand rs ds j rj → rj.prec < p ∨ (rj.prec = p ∧ k ≤ j)

theorem forall_cand_cons {r : Rule} {rs : List Rule} {d : Regex} {ds : List Regex} {P : Nat → Rule → Prop} :
    (∀ k r', Cand (r :: rs) (d :: ds) k r' → P k r') ↔
      (nullable d = true → P 0 r) ∧ ∀ k r', Cand rs ds k r' → P (k + 1) r' :=
  ⟨fun h => ⟨fun hd => h 0 r (cand_zero.2 ⟨rfl, hd⟩), fun k r' hc => h (k + 1) r' (cand_succ.2 hc)⟩,
    fun h k r' hc => by
      cases k with
      | zero => obtain ⟨rfl, hd⟩ := cand_zero.1 hc; exact h.1 hd
      | succ k => exact h.2 k r' (cand_succ.1 hc)⟩

theorem Wins.skip {acc : Option (Int × Int)} {rs : List Rule} {ds : List Regex} {p a : Int} (r : Rule) {d : Regex}
    (hd : nullable d = false) (h : Wins acc rs ds p a) : Wins acc (r :: rs) (d :: ds) p a := by
  have h0 : ∀ {Q : Prop}, nullable d = true → Q := fun hd' => by rw [hd] at hd'; cases hd'
  rcases h with ⟨h1, h2⟩ | ⟨k, rk, hk, h1, h2, h3, h4⟩
  · exact Or.inl ⟨h1, forall_cand_cons.2 ⟨h0, h2⟩⟩
  · exact Or.inr ⟨k + 1, rk, cand_succ.2 hk, h1, h2, h3, forall_cand_cons.2 ⟨h0, fun j rj hc => by
      simpa only [Nat.add_le_add_iff_right] using h4 j rj hc⟩⟩

theorem bestUpd_spec (acc : Option (Int × Int)) (r : Rule) :
    ∃ p' a', bestUpd acc r = some (p', a') ∧ r.prec ≤ p' ∧ (∀ p0 a0, acc = some (p0, a0) → p0 ≤ p') ∧
      ((p' = r.prec ∧ a' = r.action ∧ ∀ p0 a0, acc = some (p0, a0) → p0 < r.prec) ∨ acc = some (p', a')) := by
  fun_cases bestUpd acc r
  case case1 => exact ⟨_, _, rfl, Int.le_refl _, nofun, Or.inl ⟨rfl, rfl, nofun⟩⟩
  case case2 p0 a0 hlt =>
    exact ⟨_, _, rfl, Int.le_refl _, fun p1 a1 h1 => by cases h1; exact Int.le_of_lt hlt,
      Or.inl ⟨rfl, rfl, fun p1 a1 h1 => by cases h1; exact hlt⟩⟩
  case case3 p0 a0 hlt =>
    exact ⟨_, _, rfl, Int.not_lt.1 hlt, fun p1 a1 h1 => by cases h1; exact Int.le_refl _, Or.inr rfl⟩

theorem Wins.take {acc : Option (Int × Int)} {rs : List Rule} {ds : List Regex} {p a : Int} (r : Rule) {d : Regex}
    (hd : nullable d = true) (h : Wins (bestUpd acc r) rs ds p a) : Wins acc (r :: rs) (d :: ds) p a := by
  obtain ⟨p', a', hu, hr, hacc, hcase⟩ := bestUpd_spec acc r
  rw [hu] at h
  rcases h with ⟨h1, h2⟩ | ⟨k, rk, hk, h1, h2, h3, h4⟩
  · -- nothing behind this rule beats the new accumulator
    cases h1
    rcases hcase with ⟨rfl, rfl, hlt⟩ | hsame
    · exact Or.inr ⟨0, r, cand_zero.2 ⟨rfl, hd⟩, rfl, rfl, hlt, forall_cand_cons.2
        ⟨fun _ => Or.inr ⟨rfl, Nat.le_refl 0⟩,
          fun j rj hc => (Int.lt_or_eq_of_le (h2 j rj hc)).imp_right fun e => ⟨e, Nat.zero_le _⟩⟩⟩
    · exact Or.inl ⟨hsame, forall_cand_cons.2 ⟨fun _ => hr, h2⟩⟩
  · -- a later rule beats the new accumulator, hence this rule and the old accumulator
    have hlt := h3 p' a' rfl
    exact Or.inr ⟨k + 1, rk, cand_succ.2 hk, h1, h2, fun p0 a0 h0 => Int.lt_of_le_of_lt (hacc p0 a0 h0) hlt,
      forall_cand_cons.2 ⟨fun _ => Or.inl (Int.lt_of_le_of_lt hr hlt), fun j rj hc => by
        simpa only [Nat.add_le_add_iff_right] using h4 j rj hc⟩⟩

theorem bestFrom_wins : ∀ (rs : List Rule) (ds : List Regex) (acc : Option (Int × Int)) (p a : Int),
    bestFrom acc rs ds = some (p, a) → Wins acc rs ds p a
  | [], _, acc, p, a, h => Or.inl ⟨h, fun _ _ hc => (not_cand_nil_left hc).elim⟩
  | _ :: _, [], acc, p, a, h => Or.inl ⟨h, fun _ _ hc => (not_cand_nil_right hc).elim⟩
  | r :: rs, d :: ds, acc, p, a, h => by
    simp only [bestFrom] at h
    cases hd : nullable d with
    | false => rw [hd] at h; exact (bestFrom_wins rs ds acc p a h).skip r hd
    | true => rw [hd] at h; exact (bestFrom_wins rs ds _ p a h).take r hd

theorem bestFrom_none : ∀ (rs : List Rule) (ds : List Regex) (acc : Option (Int × Int)),
    bestFrom acc rs ds = none ↔ acc = none ∧ ∀ k r, ¬ Cand rs ds k r
  | [], _, acc => by simp [bestFrom, not_cand_nil_left]
  | _ :: _, [], acc => by simp [bestFrom, not_cand_nil_right]
  | r :: rs, d :: ds, acc => by
    simp only [bestFrom]
    rw [bestFrom_none rs ds, forall_cand_cons (P := fun _ _ => False)]
    cases hd : nullable d with
    | false => simp
    | true =>
      have : bestUpd acc r ≠ none := by fun_cases bestUpd acc r <;> exact nofun
      simp [this]

theorem accept_some {rules : List Rule} {D : List Regex} {a : Int} (h : accept rules D = some a) :
    ∃ k r, Cand rules D k r ∧ r.action = a ∧
      ∀ j rj, Cand rules D j rj → rj.prec < r.prec ∨ (rj.prec = r.prec ∧ k ≤ j) := by
  unfold accept at h
  rw [Option.map_eq_some_iff] at h
  obtain ⟨⟨p, a'⟩, hb, rfl⟩ := h
  -- the accumulator starts empty, so the winner is a candidate
  rcases bestFrom_wins rules D none p a' hb with ⟨h, _⟩ | ⟨k, r, hk, rfl, h2, _, h4⟩
  · cases h
  · exact ⟨k, r, hk, h2, h4⟩

def vecAt (rules : List Rule) (sc : Int) (u : List Int) : List Regex :=
  (initVec rules sc).map fun d => derivsN d u

section
variable (rules : List Rule) (sc : Int)

theorem vecAt_nil : vecAt rules sc [] = initVec rules sc := by
  unfold vecAt derivsN
  simp

theorem stepVec_vecAt (u : List Int) (s : Int) :
    stepVec s (vecAt rules sc u) = vecAt rules sc (u ++ [s]) := by
  unfold stepVec vecAt derivsN
  simp [List.foldl_append]

theorem L_vecAt (u : List Int) (k : Nat) (v : List Int) :
    (∃ d, (vecAt rules sc u)[k]? = some d ∧ L d v) ↔ RuleMatches rules sc k (u ++ v) := by
  simp only [vecAt, initVec, List.map_map, List.getElem?_map, Option.map_eq_some_iff, RuleMatches,
    Function.comp]
  constructor
  · rintro ⟨d, ⟨r, hr, rfl⟩, hl⟩
    rw [derivsN_correct] at hl
    split at hl
    · rename_i hc
      exact ⟨r, hr, by simpa using hc, hl⟩
    · exact ((L_empty _).1 hl).elim
  · rintro ⟨r, hr, hsc, hl⟩
    refine ⟨_, ⟨r, hr, rfl⟩, ?_⟩
    rw [derivsN_correct, if_pos (by simpa using hsc)]
    exact hl

theorem cand_vecAt (u : List Int) (k : Nat) (r : Rule) :
    Cand rules (vecAt rules sc u) k r ↔ rules[k]? = some r ∧ RuleMatches rules sc k u := by
  have := L_vecAt rules sc u k []
  rw [List.append_nil] at this
  simp only [Cand, nullable_iff, this]

theorem dead_vecAt (u : List Int) :
    dead (vecAt rules sc u) = true ↔ ¬ Viable rules sc u := by
  unfold dead Viable
  simp only [List.all_eq_true, emptyB_iff, List.mem_iff_getElem?, ← L_vecAt]
  constructor
  · rintro hall ⟨i, v, d, hd, hl⟩
    exact hall d ⟨i, hd⟩ v hl
  · rintro hnv d ⟨k, hk⟩ v hl
    exact hnv ⟨k, v, d, hk, hl⟩

theorem accept_vecAt_none (u : List Int) :
    accept rules (vecAt rules sc u) = none ↔ ¬ ∃ i, RuleMatches rules sc i u := by
  unfold accept
  simp only [Option.map_eq_none_iff, bestFrom_none, cand_vecAt, true_and, not_and, not_exists]
  exact ⟨fun h i hm => hm.elim fun r hr => h i r hr.1 hm, fun h k r _ => h k⟩

theorem accept_vecAt_some (u : List Int) (a : Int)
    (h : accept rules (vecAt rules sc u) = some a) :
    ∃ i r, IsBest rules sc i u ∧ rules[i]? = some r ∧ a = r.action := by
  obtain ⟨k, r, hk, h2, h4⟩ := accept_some h
  rw [cand_vecAt] at hk
  refine ⟨k, r, ⟨hk.2, fun j hj ri rj hri hrj => ?_⟩, hk.1, h2.symm⟩
  cases Option.some.inj (hri.symm.trans hk.1)
  exact h4 j rj ((cand_vecAt rules sc u j rj).2 ⟨hrj, hj⟩)

variable {rules sc}

theorem viable_prefix {u x : List Int} (h : Viable rules sc (u ++ x)) :
    Viable rules sc u := by
  obtain ⟨i, v, hm⟩ := h
  exact ⟨i, x ++ v, by rw [← List.append_assoc]; exact hm⟩

theorem viable_of_matches {i : Nat} {u : List Int}
    (h : RuleMatches rules sc i u) : Viable rules sc u := ⟨i, [], by rw [List.append_nil]; exact h⟩

def MatchAt (rules : List Rule) (sc : Int) (stream : List (Int × Nat)) (n : Nat) : Prop :=
  0 < n ∧ n ≤ stream.length ∧ ∃ i, RuleMatches rules sc i (symsOf (stream.take n))

def ViableAt (rules : List Rule) (sc : Int) (stream : List (Int × Nat)) (n : Nat) : Prop :=
  n ≤ stream.length ∧ (n = 0 ∨ Viable rules sc (symsOf (stream.take n)))

/-- The body of `ScanResult` for a given stream. -/
def ResultOf (rules : List Rule) (sc : Int) (stream : List (Int × Nat)) (res : Nat × Int) : Prop :=
  (∃ n, MatchAt rules sc stream n ∧ (∀ m, MatchAt rules sc stream m → m ≤ n) ∧
      ∃ i r, IsBest rules sc i (symsOf (stream.take n)) ∧ rules[i]? = some r ∧
        res = (bytesOf (stream.take n), r.action)) ∨
  ((¬ ∃ n, MatchAt rules sc stream n) ∧
    ∃ n, ViableAt rules sc stream n ∧ (∀ m, ViableAt rules sc stream m → m ≤ n) ∧ res = (bytesOf (stream.take n), 0))

theorem scanResult_iff (rules : List Rule) (sc : Int) (chars : List (Int × Nat)) (res : Nat × Int) :
    ScanResult rules sc chars res ↔ ResultOf rules sc (chars ++ [(eoiSym, 0)]) res := Iff.rfl

/-- `last` holds the longest match among the first `n` characters. -/
def LastOk (rules : List Rule) (sc : Int) (stream : List (Int × Nat)) (n : Nat) (last : Option (Nat × Int)) : Prop :=
  (last = none ∧ ∀ m, m ≤ n → ¬ MatchAt rules sc stream m) ∨
  (∃ k, MatchAt rules sc stream k ∧ (∀ m, m ≤ n → MatchAt rules sc stream m → m ≤ k) ∧
    ∃ i r, IsBest rules sc i (symsOf (stream.take k)) ∧ rules[i]? = some r ∧
      last = some (bytesOf (stream.take k), r.action))

theorem LastOk.succ {stream : List (Int × Nat)} {n : Nat} {last : Option (Nat × Int)}
    (h : LastOk rules sc stream n last) (hnm : ¬ MatchAt rules sc stream (n + 1)) :
    LastOk rules sc stream (n + 1) last := by
  have hle : ∀ m, m ≤ n + 1 → MatchAt rules sc stream m → m ≤ n := fun m hm hmm =>
    Nat.le_of_lt_succ (Nat.lt_of_le_of_ne hm fun e : m = n + 1 => hnm (e ▸ hmm))
  rcases h with ⟨h1, h2⟩ | ⟨k, hmk, hmax, hrest⟩
  · exact Or.inl ⟨h1, fun m hm hmm => h2 m (hle m hm hmm) hmm⟩
  · exact Or.inr ⟨k, hmk, fun m hm hmm => hmax m (hle m hm hmm) hmm, hrest⟩

/-- nothing longer is viable, so nothing longer matches -/
theorem resultOf_of_stop {stream : List (Int × Nat)} {n : Nat} {last : Option (Nat × Int)}
    (hv : ViableAt rules sc stream n) (hlast : LastOk rules sc stream n last)
    (hmv : ∀ m, ViableAt rules sc stream m → m ≤ n) :
    ResultOf rules sc stream (last.getD (bytesOf (stream.take n), 0)) := by
  have hmm : ∀ m, MatchAt rules sc stream m → m ≤ n := fun m ⟨_, hle, i, hi⟩ =>
    hmv m ⟨hle, Or.inr (viable_of_matches hi)⟩
  rcases hlast with ⟨h1, h2⟩ | ⟨k, hmk, hmax, i, r, hb, hr, hl⟩
  · subst h1
    exact Or.inr ⟨fun ⟨m, hm⟩ => h2 m (hmm m hm) hm, n, hv, hmv, rfl⟩
  · subst hl
    exact Or.inl ⟨k, hmk, fun m hm => hmax m (hmm m hm) hm, i, r, hb, hr, rfl⟩

/-- The loop after `n` characters, `k` more to come. -/
theorem specLoop_result (rules : List Rule) (sc : Int) (stream : List (Int × Nat)) :
    ∀ (k n : Nat), n + k = stream.length → ∀ (last : Option (Nat × Int)),
      ViableAt rules sc stream n → LastOk rules sc stream n last →
      ResultOf rules sc stream
        (specLoop rules (vecAt rules sc (symsOf (stream.take n))) (bytesOf (stream.take n)) last (stream.drop n)) := by
  intro k
  induction k with
  | zero =>
    intro n hn last hv hlast
    rw [List.drop_of_length_le (by omega)]
    exact resultOf_of_stop hv hlast fun m hm => by have := hm.1; omega
  | succ k ih =>
    intro n hn last hv hlast
    have hlt : n < stream.length := by omega
    have htake := List.take_succ_eq_append_getElem hlt
    rw [List.drop_eq_getElem_cons hlt]
    generalize stream[n] = x at htake
    obtain ⟨s, w⟩ := x
    have hsyms : symsOf (stream.take (n + 1)) = symsOf (stream.take n) ++ [s] := by simp [htake, symsOf]
    have hbytes : bytesOf (stream.take (n + 1)) = bytesOf (stream.take n) + w := by simp [htake, bytesOf]
    simp only [specLoop, stepVec_vecAt]
    rw [← hsyms, ← hbytes]
    by_cases hd : dead (vecAt rules sc (symsOf (stream.take (n + 1)))) = true
    · rw [if_pos hd]
      rw [dead_vecAt] at hd
      refine resultOf_of_stop hv hlast fun m hm => Nat.le_of_not_lt fun hlt' => ?_
      -- a viable longer prefix would make the first `n + 1` characters viable
      rcases hm.2 with h | h
      · omega
      · obtain ⟨x, hx⟩ := List.take_prefix_take_left (l := stream) hlt'
        rw [← hx, symsOf, List.map_append] at h
        exact hd (viable_prefix h)
    · rw [if_neg hd]
      have hviable : Viable rules sc (symsOf (stream.take (n + 1))) :=
        Classical.byContradiction fun hnv => hd ((dead_vecAt rules sc _).2 hnv)
      apply ih (n + 1) (by omega) _ ⟨hlt, Or.inr hviable⟩
      cases hacc : accept rules (vecAt rules sc (symsOf (stream.take (n + 1)))) with
      | some a =>
        obtain ⟨i, r, hb, hr, ha⟩ := accept_vecAt_some rules sc _ a hacc
        exact Or.inr ⟨n + 1, ⟨Nat.succ_pos n, hlt, i, hb.1⟩, fun m hm _ => hm, i, r, hb, hr, by rw [ha]⟩
      | none => exact hlast.succ fun ⟨_, _, i, hi⟩ => (accept_vecAt_none rules sc _).1 hacc ⟨i, hi⟩

end

theorem scanSpec_meets (rules : List Rule) (sc : Int) (chars : List (Int × Nat)) :
    ScanResult rules sc chars (scanSpec rules sc chars) := by
  rw [scanResult_iff]
  unfold scanSpec
  have := specLoop_result rules sc (chars ++ [(eoiSym, 0)]) _ 0 (Nat.zero_add _) none ⟨Nat.zero_le _, Or.inl rfl⟩
    (Or.inl ⟨rfl, fun m hm hmm => by have := hmm.1; omega⟩)
  simpa [symsOf, bytesOf, vecAt_nil] using this

theorem resultOf_unique (rules : List Rule) (sc : Int) (stream : List (Int × Nat)) (r1 r2 : Nat × Int)
    (h1 : ResultOf rules sc stream r1) (h2 : ResultOf rules sc stream r2) : r1 = r2 := by
  rcases h1 with ⟨n1, hm1, hmax1, i1, ru1, hb1, hr1, e1⟩ | ⟨hno1, n1, hv1, hmax1, e1⟩ <;>
  rcases h2 with ⟨n2, hm2, hmax2, i2, ru2, hb2, hr2, e2⟩ | ⟨hno2, n2, hv2, hmax2, e2⟩
  · have hn : n1 = n2 := Nat.le_antisymm (hmax2 n1 hm1) (hmax1 n2 hm2)
    subst hn
    have hi : i1 = i2 := by
      have a := hb1.2 i2 hb2.1 ru1 ru2 hr1 hr2
      have b := hb2.2 i1 hb1.1 ru2 ru1 hr2 hr1
      omega
    subst hi
    rw [hr1] at hr2
    simp only [Option.some.injEq] at hr2
    subst hr2
    rw [e1, e2]
  · exact absurd ⟨n1, hm1⟩ hno2
  · exact absurd ⟨n2, hm2⟩ hno1
  · have hn : n1 = n2 := Nat.le_antisymm (hmax2 n1 hv1) (hmax1 n2 hv2)
    subst hn
    rw [e1, e2]

end TmVerif.LexSpec
