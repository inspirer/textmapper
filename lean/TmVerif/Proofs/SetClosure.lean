import TmVerif.Model.SetClosure
import TmVerif.Proofs.IntSet
import TmVerif.Proofs.GraphScc
/-!
Specification of set-equation systems and the basic facts about the mirror of util/set/closure.go.
`EqAt sys a v` — node `v` satisfies its equation under `a`:
    union node         `a v = init v ∪ ⋃ a w`   over its edges `w`
    intersection node  `a v = ⋂ a w`            (everything when it has no edge: what `slowClosure` computes)
    complement node    `a v = ℤ \ a w`          for its single edge `w`
-/
namespace TmVerif.SetClosure
open TmVerif.IntSet TmVerif.Graph

abbrev Asg := Nat → Int → Prop

def St.asg (s : St) : Asg := fun v x => (s.get v).Mem x

theorem St.asg_congr {s t : St} {v : Nat} (h : t.get v = s.get v) (x : Int) : t.asg v x ↔ s.asg v x := by
  unfold St.asg; rw [h]

def EqAt (sys : Sys) (a : Asg) (v : Nat) : Prop :=
  match opOf sys v with
  | .union => ∀ x, a v x ↔ (x ∈ initOf sys v ∨ ∃ w ∈ edgesOf sys v, a w x)
  | .inter => ∀ x, a v x ↔ ∀ w ∈ edgesOf sys v, a w x
  | .compl => ∃ w, edgesOf sys v = [w] ∧ ∀ x, a v x ↔ ¬ a w x

def Sol (sys : Sys) (a : Asg) : Prop := ∀ v, v < sys.length → EqAt sys a v

theorem eqAt_union {sys : Sys} {a : Asg} {v : Nat} (h : opOf sys v = .union) :
    EqAt sys a v ↔ ∀ x, a v x ↔ (x ∈ initOf sys v ∨ ∃ w ∈ edgesOf sys v, a w x) := by
  unfold EqAt; rw [h]

theorem eqAt_inter {sys : Sys} {a : Asg} {v : Nat} (h : opOf sys v = .inter) :
    EqAt sys a v ↔ ∀ x, a v x ↔ ∀ w ∈ edgesOf sys v, a w x := by
  unfold EqAt; rw [h]

theorem eqAt_compl {sys : Sys} {a : Asg} {v : Nat} (h : opOf sys v = .compl) :
    EqAt sys a v ↔ ∃ w, edgesOf sys v = [w] ∧ ∀ x, a v x ↔ ¬ a w x := by
  unfold EqAt; rw [h]

theorem eqAt_congr {sys : Sys} {a b : Asg} {v : Nat} (hv : ∀ x, a v x ↔ b v x)
    (hw : ∀ w ∈ edgesOf sys v, ∀ x, a w x ↔ b w x) : EqAt sys a v ↔ EqAt sys b v := by
  unfold EqAt
  split
  · exact forall_congr' fun x => iff_congr (hv x)
      (or_congr_right (exists_congr fun w => and_congr_right fun hm => hw w hm x))
  · exact forall_congr' fun x => iff_congr (hv x)
      (forall_congr' fun w => forall_congr' fun hm => hw w hm x)
  · exact exists_congr fun w => and_congr_right fun he =>
      forall_congr' fun x => iff_congr (hv x) (not_congr (hw w (he ▸ List.mem_singleton_self w) x))

structure Wf (sys : Sys) : Prop where
  edges : ∀ v w, w ∈ edgesOf sys v → w < sys.length
  sorted : ∀ v, Sorted (initOf sys v)
  initE : ∀ v, opOf sys v ≠ .union → initOf sys v = []
  compl1 : ∀ v, v < sys.length → opOf sys v = .compl → ∃ w, edgesOf sys v = [w]

theorem Wf.union_of_mem_init {sys : Sys} (h : Wf sys) {v : Nat} {x : Int} (hx : x ∈ initOf sys v) :
    opOf sys v = .union := by
  apply Decidable.byContradiction
  intro hop
  rw [h.initE v hop] at hx
  cases hx

theorem edgesOf_eq (sys : Sys) (v : Nat) : edgesOf sys v = (sys[v]?.map (·.edges)).getD [] := by
  simp [edgesOf, succs, graphOf]

theorem wf_of_wfB {sys : Sys} (h : wfB sys = true) : Wf sys := by
  unfold wfB at h
  simp only [List.all_eq_true, Bool.and_eq_true, Bool.or_eq_true, decide_eq_true_eq, beq_iff_eq,
    bne_iff_ne, ne_eq, List.isEmpty_iff] at h
  -- node `v` is a member of `sys`, of which `h` speaks, or all three projections are the defaults
  have key : ∀ v, (∀ w ∈ edgesOf sys v, w < sys.length) ∧ Sorted (initOf sys v) ∧
      (opOf sys v ≠ .union → initOf sys v = []) ∧ (opOf sys v = .compl → ∃ w, edgesOf sys v = [w]) := by
    intro v
    unfold opOf initOf
    rw [edgesOf_eq]
    cases hn : sys[v]? with
    | none => exact ⟨nofun, trivial, fun _ => rfl, nofun⟩
    | some n =>
      obtain ⟨⟨⟨h1, h2⟩, h3⟩, h4⟩ := h n (List.mem_of_getElem? hn)
      exact ⟨h1, (sortedB_iff _).1 h2, h3.resolve_left,
        fun hop => List.length_eq_one_iff.1 (h4.resolve_left (not_not_intro hop))⟩
  exact ⟨fun v => (key v).1, fun v => (key v).2.1, fun v => (key v).2.2.1, fun v _ => (key v).2.2.2⟩

theorem graphOf_length (sys : Sys) : (graphOf sys).length = sys.length := by simp [graphOf]

theorem Wf.graph {sys : Sys} (h : Wf sys) : Graph.Wf (graphOf sys) :=
  fun a b e => graphOf_length sys ▸ h.edges a b e

theorem get_set (s : St) (v u : Nat) (r : IntSet) :
    ({ s with sets := s.sets.set v r } : St).get u = if u = v ∧ v < s.sets.length then r else s.get u :=
  getD_set _ _ _ _ _

theorem assignAll_length (sets : List IntSet) (comp : List Nat) (res : IntSet) :
    (assignAll sets comp res).length = sets.length :=
  List.foldlRecOn (motive := fun l : List IntSet => l.length = sets.length) comp _ rfl fun _ hb _ _ => List.length_set.trans hb

theorem assignAll_getD (sets : List IntSet) (comp : List Nat) (res : IntSet) (u : Nat) (d : IntSet)
    (h : ∀ v ∈ comp, v < sets.length) :
    (assignAll sets comp res)[u]?.getD d = if u ∈ comp then res else sets[u]?.getD d := by
  unfold assignAll
  induction comp generalizing sets with
  | nil => simp
  | cons v comp ih =>
    have hv := h v List.mem_cons_self
    rw [List.foldl_cons, ih _ fun w hw => by rw [List.length_set]; exact h w (List.mem_cons_of_mem _ hw), getD_set]
    by_cases h1 : u ∈ comp
    · rw [if_pos h1, if_pos (List.mem_cons_of_mem _ h1)]
    · simp only [hv, and_true, List.mem_cons, h1, or_false, if_false]

/-- every element some `Add` mentions: with one more point for "all other integers" it is the finite
universe in which `slowClosure`'s sets are measured (`IntSet.mu`, `pot`) -/
def mlist (sys : Sys) : List Int := sys.flatMap (·.init)

theorem mlist_length (sys : Sys) : (mlist sys).length = mentioned sys :=
  List.length_flatMap

theorem initOf_sub (sys : Sys) (v : Nat) : ∀ e ∈ initOf sys v, e ∈ mlist sys := by
  unfold initOf
  cases h : sys[v]? with
  | none => exact fun _ he => absurd he List.not_mem_nil
  | some n => exact fun e he => List.mem_flatMap.2 ⟨n, List.mem_of_getElem? h, he⟩

/-- no stored set lists an element outside `mlist`: what makes the measure see every change -/
def Bounded (sys : Sys) (x : St) : Prop := ∀ v, ∀ e ∈ (x.get v).set, e ∈ mlist sys

theorem scc_edge_or_single {g : Graph} {comp : List Nat}
    (hscc : ∀ u ∈ comp, ∀ w, w ∈ comp ↔ SC g u w) {v : Nat} (hv : v ∈ comp) {u : Nat} (hu : u ∈ comp) :
    u = v ∨ ∃ w, Edge g v w ∧ w ∈ comp := by
  have hsc := (hscc v hv u).1 hu
  -- a path from `v` to another member starts with an edge, whose end reaches `u` and so `v` again
  refine hsc.1.imp Eq.symm fun p => ?_
  obtain ⟨w, hvw, hwu⟩ := transGen_head_iff.1 p
  exact ⟨w, hvw, (hscc v hv w).2 ⟨Reach.edge hvw, Reach.trans hwu hsc.2⟩⟩

/-- Inside a component whose members with an inner edge all pass their successors' elements up
(`hup`), every member contains every other member. -/
theorem scc_flow {g : Graph} {comp : List Nat} (hscc : ∀ u ∈ comp, ∀ w, w ∈ comp ↔ SC g u w)
    (b : Asg) (hup : ∀ z ∈ comp, ∀ w, Edge g z w → w ∈ comp → ∀ x, b w x → b z x)
    {v u : Nat} (hv : v ∈ comp) (hu : u ∈ comp) (x : Int) (hx : b u x) : b v x := by
  rcases ((hscc v hv u).1 hu).1 with rfl | p
  · exact hx
  · -- along the path from `v`: the last but one vertex lies in `comp` with the last, and gets `x` from it
    induction p with
    | single e => exact hup v hv _ e hu x hx
    | tail q e ih =>
      have hz := (hscc v hv _).2 ⟨.inr q, (Reach.edge e).trans ((hscc v hv _).1 hu).2⟩
      exact ih hz (hup _ hz _ e hu x hx)

end TmVerif.SetClosure
