import TmVerif.Model.LRXPending
import TmVerif.Proofs.EventNesting
/-!
C20 — the listener stream WITH reported skipped tokens (layer `Model/LRXPending.lean`) is well nested
for parsers without error recovery that trim trailing whitespace.

On top of the invariant `Core` of Proofs/EventNesting.lean: with `L` = end of the last shifted token and `N` = offset
of the next real token, every stack entry and every reported event ends at or before `L` or starts at or after `N`
(`gfE`, `gfP`: nothing reaches into the gap between two real tokens — this is what trimming buys), and the pending
tokens lie inside that gap. A flush at the shift of the next token therefore reports ranges that are disjoint from
everything reported so far and from every stack entry; later nodes contain them or not by the `Core` argument.
The projection onto the underlying run (`prun_proj`, any tables) needs `layer_erase` only.
-/
namespace TmVerif.LRXPending
open TmVerif.LR TmVerif.LRX TmVerif.TreeBuilder TmVerif.EventNesting

def outNodes : List PEv → List TreeBuilder.Ev
  | [] => []
  | .x (.node t o e) :: r => ⟨t, o, e⟩ :: outNodes r
  | .x (.error _ _) :: r => outNodes r
  | .ign t o e :: r => ⟨t, o, e⟩ :: outNodes r

theorem outNodes_append (a b : List PEv) : outNodes (a ++ b) = outNodes a ++ outNodes b := by
  induction a with
  | nil => rfl
  | cons e a ih =>
    cases e with
    | x e => cases e <;> simp [outNodes, ih]
    | ign t o e => simp [outNodes, ih]

theorem outNodes_reverse (a : List PEv) : outNodes a.reverse = (outNodes a).reverse := by
  induction a with
  | nil => rfl
  | cons e a ih =>
    cases e with
    | x e => cases e <;> simp [outNodes, outNodes_append, ih]
    | ign t o e => simp [outNodes, outNodes_append, ih]

theorem outNodes_mapx (l : List XEv) : outNodes (l.map PEv.x) = nodeEvs l := by
  induction l with
  | nil => rfl
  | cons e l ih => cases e <;> simp [outNodes, nodeEvs, ih]

def tokEv (t : Tok) : TreeBuilder.Ev := ⟨t.sym, t.off, t.endo⟩

theorem outNodes_ign (ts : List Tok) :
    outNodes (ts.map fun t => PEv.ign t.sym t.off t.endo) = ts.map tokEv := by
  induction ts with
  | nil => rfl
  | cons t ts ih => simp [outNodes, tokEv, ih]

theorem eraseIgn_append (a b : List PEv) : eraseIgn (a ++ b) = eraseIgn a ++ eraseIgn b := by
  induction a with
  | nil => rfl
  | cons e a ih => cases e <;> simp [eraseIgn, ih]

theorem eraseIgn_mapx (l : List XEv) : eraseIgn (l.map PEv.x) = l := by
  induction l with
  | nil => rfl
  | cons e l ih => simp [eraseIgn, ih]

theorem eraseIgn_ign (ts : List Tok) : eraseIgn (ts.map fun t => PEv.ign t.sym t.off t.endo) = [] := by
  induction ts with
  | nil => rfl
  | cons t ts ih => simp [eraseIgn, ih]

/-- A trimmed report over entries that stay out of the gap between `L` and `N` stays out of it:
its range ends with a non-empty entry, which cannot start at `N`, or is a single entry. -/
theorem RepSpec.noGap {N L : Nat} {l : List Entry} {r : Report} {f : TreeBuilder.Ev}
    (hl : ∀ e ∈ l, (e.off ≤ e.endo ∧ e.endo ≤ N) ∧ (e.endo ≤ L ∨ N ≤ e.off))
    (h : RepSpec true l r f) : f.endo ≤ L ∨ N ≤ f.off := by
  rcases h with ⟨_, A, hA, o, n⟩ | ⟨_, _, b, A, B, hA, hB, _, _, o, n, _, md⟩
  · have := hl A (List.mem_of_getElem? hA)
    rw [o, n]
    exact this.2.imp_left (Nat.le_trans this.1.1)
  · have hB' := hl B (List.mem_of_getElem? hB)
    rw [o, n]
    rcases (show b = r.start ∨ B.off ≠ B.endo from md) with rfl | hne
    · obtain rfl : A = B := Option.some.inj (hA.symm.trans hB)
      exact hB'.2
    · exact .inl (hB'.2.resolve_right fun hN => hne (Nat.le_antisymm hB'.1.1 (Nat.le_trans hB'.1.2 hN)))

theorem reduce_noGap {x : XTables} (hx : XWF x) (ht : TrimAll x) {N L : Nat} {st : List Entry}
    {evsN : List TreeBuilder.Ev} (hc : Core N st evsN)
    (hgf : ∀ e ∈ st, e.endo ≤ L ∨ N ≤ e.off)
    {rule : Int} {ln off endo : Nat} {fs : List XEv} {endo' : Nat}
    (hln : ln ≤ st.length)
    (htrim : 0 < ln → (ruleOf x rule).fixWS = true)
    (hoff : RhsRange st ln N off endo)
    (h : applyRuleEvents x rule ln off endo st = some (fs, endo')) :
    (endo' ≤ L ∨ N ≤ off) ∧ ∀ f ∈ nodeEvs fs, f.endo ≤ L ∨ N ≤ f.off := by
  obtain ⟨hendo, es, hes, hfs⟩ := applyRuleEvents_spec hx hln h
  have hl : ∀ e ∈ (st.take ln).reverse, (e.off ≤ e.endo ∧ e.endo ≤ N) ∧ (e.endo ≤ L ∨ N ≤ e.off) := by
    intro e he
    have hm := List.mem_of_mem_take (List.mem_reverse.1 he)
    exact ⟨hc.ent e hm, hgf e hm⟩
  -- the new entry: at `N` if the right-hand side is empty, else the range of the rule's own node
  have hentry : endo' ≤ L ∨ N ≤ off := by
    rcases Nat.eq_zero_or_pos ln with rfl | hpos
    · exact .inr (Nat.le_of_eq hoff.eq_of_zero.1.symm)
    · have hg := hoff.node hpos hln (ruleOf x rule).fixWS 0
      rw [← hendo, htrim hpos] at hg
      exact RepSpec.noGap hl hg
  refine ⟨hentry, fun f hf => ?_⟩
  rw [hfs] at hf
  rcases List.mem_append.1 hf with hf | hf
  · obtain ⟨r, _, hr⟩ := hes.exists_left f hf
    rw [ht.1] at hr
    exact RepSpec.noGap hl hr
  · split at hf
    · cases List.mem_singleton.1 hf
      exact hentry
    · cases hf

structure PInv (p : PInput) (c : PCfg) (L : Nat) : Prop where
  next_ok : ∀ t, c.x.next = some t → 1 ≤ c.x.pos ∧ t = p.inp.tok (c.x.pos - 1)
  core : Core (NOff p.inp c.x) c.x.stack (outNodes c.out)
  lN : L ≤ NOff p.inp c.x
  gfE : ∀ e ∈ c.x.stack, e.endo ≤ L ∨ NOff p.inp c.x ≤ e.off
  gfP : ∀ q ∈ outNodes c.out, q.endo ≤ L ∨ NOff p.inp c.x ≤ q.off
  pend : ∀ t ∈ c.pending, L ≤ t.off ∧ t.off ≤ t.endo ∧ t.endo ≤ NOff p.inp c.x
  pendOrd : c.pending.Pairwise (fun a b => a.endo ≤ b.off)
  noneEmpty : c.x.next = none → c.pending = [] ∧ ∀ t ∈ p.ignAt c.x.pos, L ≤ t.off
  evsEq : eraseIgn c.out = c.x.evs

/-- events only (configurations of finished runs) -/
def PEInv (p : PInput) (c : PCfg) : Prop :=
  (∃ N, N ≤ p.inp.endOff ∧ EvsOK N (outNodes c.out)) ∧ eraseIgn c.out = c.x.evs

theorem PInv.peinv {p : PInput} (hw : InputWF p.inp) {c : PCfg} {L : Nat} (h : PInv p c L) : PEInv p c :=
  ⟨⟨_, tok_off_le_endOff (tok_off_mono hw) _, h.core.evsOK⟩, h.evsEq⟩

theorem ignAt_facts {p : PInput} (hi : IgnWF p) (i : Nat) :
    (p.ignAt i).Pairwise (fun a b => a.endo ≤ b.off) ∧
    ∀ t ∈ p.ignAt i, t.off ≤ t.endo ∧ t.endo ≤ (p.inp.tok i).off ∧
      (0 < i → (p.inp.tok (i - 1)).endo ≤ t.off) := by
  rcases Nat.lt_or_ge i (p.inp.toks.size + 1) with h | h
  · exact hi i h
  · have : p.ignAt i = [] := by unfold PInput.ignAt; rw [if_neg (by omega)]
    rw [this]; simp

theorem pinv_init {p : PInput} (hi : IgnWF p) (start : Int) : PInv p (pinit p start) 0 := by
  have hf := ignAt_facts hi 0
  have hN : NOff p.inp (xinit p.inp start) = (p.inp.tok 0).off := NOff_some (sinv_init p.inp start).next_ok rfl
  refine {
    next_ok := (sinv_init p.inp start).next_ok
    core := (sinv_init p.inp start).core
    lN := Nat.zero_le _
    gfE := ?gfE
    gfP := by simp [pinit, outNodes]
    pend := ?pend
    pendOrd := hf.1
    noneEmpty := ?noneEmpty
    evsEq := rfl }
  case gfE =>
    intro e he
    simp only [pinit, xinit, List.mem_singleton] at he
    subst he; exact .inl (Nat.le_refl _)
  case pend =>
    intro t ht
    have := hf.2 t ht
    show 0 ≤ t.off ∧ t.off ≤ t.endo ∧ t.endo ≤ NOff p.inp (xinit p.inp start)
    rw [hN]
    exact ⟨Nat.zero_le _, this.1, this.2.1⟩
  case noneEmpty => intro hn; simp [pinit, xinit] at hn

theorem fetched_self (p : PInput) (a : Nat) : fetched p a a = [] := by simp [fetched]

theorem fetched_succ (p : PInput) (a : Nat) : fetched p a (a + 1) = p.ignAt a := by
  simp [fetched]

theorem pinv_fetch {p : PInput} (hi : IgnWF p) {c : PCfg} {L : Nat} (h : PInv p c L) :
    PInv p ⟨(c.x.fetch p.inp).1, c.pending ++ fetched p c.x.pos (c.x.fetch p.inp).1.pos, c.out⟩ L := by
  have hN := NOff_fetch h.next_ok
  cases hn : c.x.next with
  | some tk =>
    rw [LRX.fetch_some hn, fetched_self, List.append_nil]
    exact h
  | none =>
    -- the skipped tokens in front of the fetched token become pending
    obtain ⟨hpe, hL⟩ := h.noneEmpty hn
    have hf := ignAt_facts hi c.x.pos
    have hpos : (c.x.fetch p.inp).1.pos = c.x.pos + 1 := by rw [LRX.fetch_none hn]
    rw [hpos, fetched_succ, hpe, List.nil_append]
    refine {
      next_ok := XNextOk.fetch h.next_ok
      core := ?core
      lN := ?lN
      gfE := ?gfE
      gfP := ?gfP
      pend := fun t ht => ?pend
      pendOrd := hf.1
      noneEmpty := fun hn' => ?noneEmpty
      evsEq := (LRX.fetch_evs ..).symm ▸ h.evsEq }
    case core => rw [hN, LRX.fetch_stack]; exact h.core
    case lN => rw [hN]; exact h.lN
    case gfE => rw [hN, LRX.fetch_stack]; exact h.gfE
    case gfP => rw [hN]; exact h.gfP
    case pend =>
      have := hf.2 t ht
      rw [hN, NOff_none hn]
      exact ⟨hL t ht, this.1, this.2.1⟩
    case noneEmpty => rw [LRX.fetch_next] at hn'; cases hn'

theorem fetch_idem (inp : Input) (c : XCfg) : ((c.fetch inp).1.fetch inp).1 = (c.fetch inp).1 := by
  have h := LRX.fetch_next inp c
  generalize (c.fetch inp).1 = c1 at h ⊢
  unfold XCfg.fetch
  rw [h]

theorem core_addGap {N L : Nat} {st : List Entry} {evs : List TreeBuilder.Ev} (hc : Core N st evs)
    (gfE : ∀ e ∈ st, e.endo ≤ L ∨ N ≤ e.off) (gfP : ∀ q ∈ evs, q.endo ≤ L ∨ N ≤ q.off)
    (ts : List Tok) (hts : ∀ t ∈ ts, L ≤ t.off ∧ t.off ≤ t.endo ∧ t.endo ≤ N)
    (hord : ts.Pairwise (fun a b => a.endo ≤ b.off)) :
    Core N st ((ts.map tokEv).reverse ++ evs) := by
  have hmem : ∀ f ∈ ts.map tokEv, L ≤ f.off ∧ f.off ≤ f.endo ∧ f.endo ≤ N := by
    intro f hf
    obtain ⟨t, ht, rfl⟩ := List.mem_map.1 hf
    exact hts t ht
  -- a token in the gap lies behind what ends by `L` and before what starts at `N`
  have hev := hc.evsOK.append (ts.map tokEv) (fun f hf => (hmem f hf).2)
    (fun f hf q hq => by
      have := hmem f hf
      rcases gfP q hq with h1 | h1
      · exact .inl (Nat.le_trans h1 this.1)
      · exact .inr (.inl (Nat.le_trans this.2.2 h1)))
    (List.pairwise_map.2 (hord.imp .inl))
  refine ⟨hc.chain, hc.ent, hev.evb, fun q hq e he => ?_, hev.pw⟩
  rcases List.mem_append.1 hq with hq | hq
  · have := hmem q (List.mem_reverse.1 hq)
    rcases gfE e he with h1 | h1
    · exact .inr (.inl (Nat.le_trans h1 this.1))
    · exact .inl (Nat.le_trans this.2.2 h1)
  · exact hc.evc q hq e he

theorem flush_all (ts : List Tok) (endo : Nat) (h : ∀ t ∈ ts, t.endo ≤ endo) :
    flushSplit ts endo = (ts, []) := by
  have hp : ∀ t ∈ ts, decide (t.endo ≤ endo) = true := fun t ht => decide_eq_true (h t ht)
  have h1 := List.takeWhile_append_of_pos (l₂ := []) hp
  have h2 := List.dropWhile_append_of_pos (l₂ := []) hp
  simp only [List.append_nil, List.takeWhile_nil, List.dropWhile_nil] at h1 h2
  unfold flushSplit
  rw [h1, h2]

/-- `flush` reports the pending tokens, which lie in the gap, then the token in `next` is shifted -/
theorem pinv_shift {p : PInput} (hw : InputWF p.inp) (hi : IgnWF p) {c : PCfg} {L : Nat} (h : PInv p c L)
    {tk : Tok} (ht : c.x.next = some tk) {c' : XCfg} (hpos : c'.pos = c.x.pos)
    (hnext : c'.next = if tk.sym ≠ 0 then none else c.x.next) {q : Int}
    (hst : c'.stack = ⟨tk.sym, tk.off, tk.endo, q⟩ :: c.x.stack) (hev : c'.evs = c.x.evs) :
    PInv p ⟨c', [], (c.pending.reverse.map fun t => PEv.ign t.sym t.off t.endo) ++ c.out⟩ tk.endo := by
  obtain ⟨ho, hle, _, _⟩ := next_facts hw h.next_ok ht
  have hcore1 := core_addGap h.core h.gfE h.gfP c.pending h.pend h.pendOrd
  have hout : outNodes ((c.pending.reverse.map fun t => PEv.ign t.sym t.off t.endo) ++ c.out) =
      (c.pending.map tokEv).reverse ++ outNodes c.out := by
    rw [outNodes_append, outNodes_ign, List.map_reverse]
  obtain ⟨hn', hcore', hlN'⟩ := core_shift hw h.next_ok hcore1 ht hpos hnext hst
  -- stack and events end by the end of the shifted token
  refine {
    next_ok := hn'
    core := by rw [hout]; exact hcore'
    lN := hlN'
    gfE := fun e he => .inl ?gfE
    gfP := fun f hf => .inl ?gfP
    pend := by simp
    pendOrd := by simp
    noneEmpty := fun hn => ⟨rfl, fun t ht' => ?noneEmpty⟩
    evsEq := ?evsEq }
  case gfE =>
    rcases List.mem_cons.1 (hst ▸ he) with rfl | he
    · exact Nat.le_refl _
    · exact Nat.le_trans (h.core.ent e he).2 (ho ▸ hle)
  case gfP =>
    rw [hout] at hf
    exact Nat.le_trans (hcore1.evb f hf).2 (ho ▸ hle)
  case noneEmpty =>
    -- nothing is in `next`: the token was consumed, and what is skipped next lies behind it
    have := ((ignAt_facts hi c.x.pos).2 t (hpos ▸ ht')).2.2 (h.next_ok tk ht).1
    rw [← (h.next_ok tk ht).2] at this
    exact this
  case evsEq => rw [eraseIgn_append, eraseIgn_ign, List.nil_append, hev]; exact h.evsEq

theorem ruleOf_trim {x : XTables} (ht : TrimAll x) {rule lnI : Int} (hg : geti x.t.ruleLen rule = some lnI)
    (hpos : 0 < lnI.toNat) : (ruleOf x rule).fixWS = true := by
  obtain ⟨h0, hg⟩ := geti_some hg
  have := ht.2.2 rule.toNat (Array.getElem?_eq_some_iff.1 hg).1 (by rw [hg]; exact Int.lt_toNat.1 hpos)
  rw [ruleOf_of_nonneg h0, Array.getElem?_eq_getElem this]
  exact ht.2.1 _ (Array.mem_toList_iff.2 (Array.getElem_mem this))

def PStepOK (p : PInput) : PStep → Prop
  | .cont c => ∃ L, PInv p c L
  | .done _ c => PEInv p c

def shiftEnd (dec : Option (XCfg × Act)) (c' : XCfg) : Option Nat :=
  match dec with
  | some (_, .shift _) => (c'.stack.head?).map (·.endo)
  | _ => none

/-- the layered configuration after an iteration of the underlying run from `c.x` to `c'`, followed
by `flush` up to `endo` if `shifted = some endo` -/
def layer (p : PInput) (c : PCfg) (c' : XCfg) (shifted : Option Nat) : PCfg :=
  let newX := c'.evs.take (c'.evs.length - c.x.evs.length)
  let pend1 := c.pending ++ fetched p c.x.pos c'.pos
  let fl := match shifted with
    | some endo => flushSplit pend1 endo
    | none => ([], pend1)
  ⟨c', fl.2, (fl.1.reverse.map fun t => PEv.ign t.sym t.off t.endo) ++ newX.map PEv.x ++ c.out⟩

/-- only an iteration that goes on after a shift flushes -/
theorem pstep_eq (x : XTables) (p : PInput) (fin : Int) (stop : Bool) (c : PCfg) :
    pstep x p fin stop c =
      match xstep x p.inp fin stop 0 c.x with
      | .cont c' => .cont (layer p c c' (shiftEnd (xdecode x p.inp c.x) c'))
      | .done res c' => .done res (layer p c c' none) := by
  unfold pstep
  cases xstep x p.inp fin stop 0 c.x with
  | cont c' => rcases xdecode x p.inp c.x with _ | ⟨_, _ | _ | _⟩ <;> rfl
  | done res c' => rcases xdecode x p.inp c.x with _ | ⟨_, _ | _ | _⟩ <;> rfl

theorem take_new {α : Type} (new l : List α) : (new ++ l).take ((new ++ l).length - l.length) = new := by
  simp

theorem layer_none (p : PInput) (c : PCfg) {c' : XCfg} {new : List XEv} (hnew : c'.evs = new ++ c.x.evs) :
    layer p c c' none = ⟨c', c.pending ++ fetched p c.x.pos c'.pos, new.map PEv.x ++ c.out⟩ := by
  unfold layer
  rw [hnew, take_new]
  rfl

theorem layer_flush_all (p : PInput) (c : PCfg) {c' : XCfg} {endo : Nat} (hev : c'.evs = c.x.evs)
    (hall : ∀ t ∈ c.pending ++ fetched p c.x.pos c'.pos, t.endo ≤ endo) :
    layer p c c' (some endo) = ⟨c', [],
      ((c.pending ++ fetched p c.x.pos c'.pos).reverse.map fun t => PEv.ign t.sym t.off t.endo) ++ c.out⟩ := by
  unfold layer
  simp only [hev, Nat.sub_self, List.take_zero, List.map_nil, List.append_nil, flush_all _ _ hall]

theorem peinv_layer {p : PInput} {c : PCfg} {c' : XCfg} {new : List XEv} (hnew : c'.evs = new ++ c.x.evs)
    (h : PEInv p ⟨c', c.pending, new.map PEv.x ++ c.out⟩) : PEInv p (layer p c c' none) := by
  rw [layer_none p c hnew]
  exact h

theorem peinv_stop {p : PInput} (hw : InputWF p.inp) {c : PCfg} {L : Nat} (h : PInv p c L) {c' : XCfg}
    (hev : c'.evs = c.x.evs) : PEInv p (layer p c c' none) :=
  peinv_layer (new := []) hev ⟨(h.peinv hw).1, (h.peinv hw).2.trans hev.symm⟩

theorem peinv_fetch {p : PInput} {c : PCfg} {c' : XCfg} (h : PEInv p (layer p c c' none)) :
    PEInv p (layer p c (c'.fetch p.inp).1 none) := by
  simp only [PEInv, layer, LRX.fetch_evs] at h ⊢
  exact h

/-- what the layer needs of the pre-step from `c.x`, decoded as `dec`: `PInv` where the iteration goes
on, `PEInv` where it stops — also in the error branch, which ends the run of a parser without recovery -/
def PPreOK (p : PInput) (c : PCfg) (dec : Option (XCfg × Act)) : XPre → Prop
  | .cont c' => ∃ L, PInv p (layer p c c' (shiftEnd dec c')) L
  | .done _ c' => PEInv p (layer p c c' none)
  | .err c' => PEInv p (layer p c c' none)

/-- the reduce branch from `c2`, the configuration after all `fetchNext` calls of the iteration -/
theorem reduceTail_pok {x : XTables} (hx : XWF x) (ht : TrimAll x) {p : PInput} (hw : InputWF p.inp)
    {c : PCfg} {c2 : XCfg} {L : Nat} (hev : c2.evs = c.x.evs)
    (h : PInv p ⟨c2, c.pending ++ fetched p c.x.pos c2.pos, c.out⟩ L)
    {dec : Option (XCfg × Act)} (hdec : ∀ c', shiftEnd dec c' = none)
    {rule : Int} {ln : Nat} {lhs : Int} {off endo : Nat} (hln : ln ≤ c2.stack.length)
    (htrim : 0 < ln → (ruleOf x rule).fixWS = true)
    (hoff : RhsRange c2.stack ln (NOff p.inp c2) off endo) :
    PPreOK p c dec (xreduceTail x c2 rule ln lhs off endo) := by
  unfold xreduceTail
  split
  · exact peinv_layer (new := []) hev (h.peinv hw)
  · next evs endo' happ =>
    have hcore := fun q => reduce_core hx h.core hln hoff happ lhs q
    have hgf := reduce_noGap hx ht h.core h.gfE hln htrim hoff happ
    have hnew : evs.reverse ++ c2.evs = evs.reverse ++ c.x.evs := by rw [hev]
    have hout : outNodes (evs.reverse.map PEv.x ++ c.out) = (nodeEvs evs).reverse ++ outNodes c.out := by
      rw [outNodes_append, outNodes_mapx, nodeEvs_reverse]
    have herase : eraseIgn (evs.reverse.map PEv.x ++ c.out) = evs.reverse ++ c2.evs := by
      rw [eraseIgn_append, eraseIgn_mapx]
      exact congrArg _ h.evsEq
    have hpe : ∀ c3 : XCfg, c3.evs = evs.reverse ++ c2.evs → PEInv p (layer p c c3 none) := fun c3 h3 =>
      peinv_layer (h3.trans hnew)
        ⟨⟨_, tok_off_le_endOff (tok_off_mono hw) _, by rw [hout]; exact (hcore 0).evsOK⟩, herase.trans h3.symm⟩
    split
    · exact hpe _ rfl
    · split
      · exact hpe _ rfl
      · next q _ =>
        split
        · exact hpe _ rfl
        · refine ⟨L, ?_⟩
          rw [hdec, layer_none p c (new := evs.reverse)]
          · refine { h with core := ?core, gfE := ?gfE, gfP := ?gfP, evsEq := herase }
            case core =>
              show Core (NOff p.inp c2) _ (outNodes (evs.reverse.map PEv.x ++ c.out))
              rw [hout]; exact hcore q
            case gfE =>
              intro e he
              rcases List.mem_cons.1 he with rfl | he
              · exact hgf.1
              · exact h.gfE e (List.mem_of_mem_drop he)
            case gfP =>
              show ∀ f ∈ outNodes (evs.reverse.map PEv.x ++ c.out), _
              rw [hout]
              intro f hf
              rcases List.mem_append.1 hf with hf | hf
              · exact hgf.2 f (List.mem_reverse.1 hf)
              · exact h.gfP f hf
          · exact hnew

theorem pinv_fetched {p : PInput} (hi : IgnWF p) {c : PCfg} {L : Nat} (h : PInv p c L) {cF : XCfg}
    (hcF : cF = c.x ∨ cF = (c.x.fetch p.inp).1) :
    PInv p ⟨cF, c.pending ++ fetched p c.x.pos cF.pos, c.out⟩ L := by
  rcases hcF with rfl | rfl
  · simp only [fetched_self, List.append_nil]; exact h
  · exact pinv_fetch hi h

theorem xpre_pok {x : XTables} (hx : XWF x) (ht : TrimAll x) {p : PInput} (hw : InputWF p.inp) (hi : IgnWF p)
    {c : PCfg} {L : Nat} (h : PInv p c L) : PPreOK p c (xdecode x p.inp c.x) (xpre x p.inp 0 c.x) := by
  rw [xpre_zero]
  cases hd : xdecode x p.inp c.x with
  | none => exact peinv_stop hw h rfl
  | some pr =>
    obtain ⟨c1, a⟩ := pr
    have hc1 := xdecode_cases hd
    have hev1 : c1.evs = c.x.evs := xdecode_evs hd
    have hp1 := pinv_fetched hi h hc1
    cases a with
    | error => exact peinv_stop hw h hev1
    | shift q =>
      cases htk : c1.next with
      | none => simp only [preBody_shift_none htk]; exact peinv_stop hw h hev1
      | some tk =>
        have he := preBody_shift (x := x) (inp := p.inp) (q := q) htk
        have hf := next_facts hw hp1.next_ok htk
        have hall : ∀ t ∈ c.pending ++ fetched p c.x.pos c1.pos, t.endo ≤ tk.endo :=
          fun t ht' => Nat.le_trans (hp1.pend t ht').2.2 (hf.1 ▸ hf.2.1)
        simp only [he]
        refine ⟨tk.endo, ?_⟩
        -- `flush(tk)` reports everything that is pending
        show PInv p (layer p c _ (some tk.endo)) tk.endo
        rw [layer_flush_all p c]
        · exact pinv_shift hw hi hp1 htk rfl rfl rfl rfl
        · exact hev1
        · exact hall
    | reduce rule =>
      simp only [preBody]
      fun_cases xreducePre x p.inp c1 rule
      -- an empty rule: one more `fetchNext`, whose skipped tokens become pending too
      case case2 lnI lhs _ hg1 _ h0 =>
        have hc2 : (c1.fetch p.inp).1 = c.x ∨ (c1.fetch p.inp).1 = (c.x.fetch p.inp).1 := by
          rcases hc1 with rfl | rfl
          · exact .inr rfl
          · exact .inr (fetch_idem _ _)
        refine reduceTail_pok hx ht hw ((LRX.fetch_evs _ _).trans hev1) (pinv_fetched hi h hc2) (fun _ => rfl)
          (by rw [h0]; exact Nat.zero_le _) (fun hpos => ruleOf_trim ht hg1 hpos) ?_
        rw [fetch_tok hp1.next_ok]
        exact .empty h0 _
      -- a rule with a right-hand side
      case case3 lnI lhs _ hg1 hle h0 =>
        refine reduceTail_pok hx ht hw hev1 hp1 (fun _ => rfl) (Nat.le_of_not_lt hle) (ruleOf_trim ht hg1) ?_
        exact .popped h0 _
      all_goals exact peinv_stop hw h hev1

theorem pstep_ok {x : XTables} (hx : XWF x) (ht : TrimAll x) {p : PInput} (hw : InputWF p.inp) (hi : IgnWF p)
    (hr : x.recovering = false) (fin : Int) (stop : Bool) {c : PCfg} {L : Nat} (h : PInv p c L) :
    PStepOK p (pstep x p fin stop c) := by
  have h1 := xpre_pok hx ht hw hi h
  rw [pstep_eq, xstep_pre]
  cases hp : xpre x p.inp 0 c.x with
  | cont c' => rw [hp] at h1; exact h1
  | done r c' => rw [hp] at h1; exact h1
  | err c' =>
    rw [hp] at h1
    -- without recovery: the syntax error at the next token, which is fetched for it
    rw [XPre.run, onError_eq_norec p.inp fin stop c' hr]
    exact peinv_fetch h1

def pstream (c : PCfg) : List TreeBuilder.Ev := outNodes c.out.reverse

theorem prunLoop_ok {x : XTables} (hx : XWF x) (ht : TrimAll x) {p : PInput} (hw : InputWF p.inp) (hi : IgnWF p)
    (hr : x.recovering = false) (fin : Int) (stop : Bool) :
    ∀ (fuel : Nat) (c : PCfg) (L : Nat), PInv p c L →
      PEInv p (prunLoop x p fin stop fuel c).2 := by
  intro fuel
  induction fuel with
  | zero => intro c L h; exact h.peinv hw
  | succ n ih =>
    intro c L h
    unfold prunLoop
    split
    · exact h.peinv hw
    · have := pstep_ok hx ht hw hi hr fin stop h
      split
      · next c' hc' =>
        rw [hc'] at this
        obtain ⟨L', h'⟩ := this
        exact ih c' L' h'
      · next r c' hc' => rw [hc'] at this; exact this

theorem peinv_wellNested {p : PInput} {c : PCfg} (h : PEInv p c) :
    WellNested p.inp.endOff (pstream c) := by
  obtain ⟨⟨N, hN, hev⟩, _⟩ := h
  unfold pstream
  rw [outNodes_reverse]
  exact hev.wellNested hN

theorem prun_wellNested {x : XTables} (hx : XWF x) (ht : TrimAll x) {p : PInput} (hw : InputWF p.inp)
    (hi : IgnWF p) (hr : x.recovering = false) (input : Nat) (stop : Bool) (fuel : Nat) :
    WellNested p.inp.endOff (pstream (prun x p input stop fuel).2) := by
  unfold prun
  split
  · exact peinv_wellNested ((pinv_init hi _).peinv hw)
  · exact peinv_wellNested (prunLoop_ok hx ht hw hi hr _ stop fuel _ 0 (pinv_init hi _))

theorem layer_erase (p : PInput) (c : PCfg) {c' : XCfg} (s : Option Nat) (hs : c.x.evs <:+ c'.evs)
    (he : eraseIgn c.out = c.x.evs) : eraseIgn (layer p c c' s).out = c'.evs := by
  obtain ⟨t, ht⟩ := hs
  unfold layer
  simp only [← ht, take_new, eraseIgn_append, eraseIgn_ign, eraseIgn_mapx, he, List.nil_append]

theorem prunLoop_proj (x : XTables) (p : PInput) (fin : Int) (stop : Bool) :
    ∀ (fuel : Nat) (c : PCfg), eraseIgn c.out = c.x.evs →
      (prunLoop x p fin stop fuel c).1 = (xrunLoop x p.inp fin stop 0 fuel c.x).1 ∧
      (prunLoop x p fin stop fuel c).2.x = (xrunLoop x p.inp fin stop 0 fuel c.x).2 ∧
      eraseIgn (prunLoop x p fin stop fuel c).2.out = (xrunLoop x p.inp fin stop 0 fuel c.x).2.evs := by
  intro fuel
  induction fuel with
  | zero => intro c he; exact ⟨rfl, rfl, he⟩
  | succ n ih =>
    intro c he
    unfold prunLoop xrunLoop
    split
    · exact ⟨rfl, rfl, he⟩
    · have hs := (xstep_moves x p.inp fin stop 0 c.x).evs_suffix
      rw [pstep_eq]
      cases hr : xstep x p.inp fin stop 0 c.x with
      | cont c' => rw [hr] at hs; exact ih _ (layer_erase p c _ hs he)
      | done res c' => rw [hr] at hs; exact ⟨rfl, rfl, layer_erase p c _ hs he⟩

theorem prun_proj (x : XTables) (p : PInput) (input : Nat) (stop : Bool) (fuel : Nat) :
    (prun x p input stop fuel).1 = (xrun x p.inp input stop 0 fuel).1 ∧
    (prun x p input stop fuel).2.x = (xrun x p.inp input stop 0 fuel).2 ∧
    eraseIgn (prun x p input stop fuel).2.out = (xrun x p.inp input stop 0 fuel).2.evs := by
  unfold prun xrun
  cases hfin : x.t.finalStates[input]? with
  | none => exact ⟨rfl, rfl, rfl⟩
  | some fin => exact prunLoop_proj x p fin stop fuel (pinit p input) rfl

end TmVerif.LRXPending
