/-
C02, one reduction: the listener calls of `LRX.applyRuleEvents` (computed
from stack entries) coincide with the report / own-node events that `Events.layout` computes from
the children's ranges.
-/
import TmVerif.Model.EventsWF
import TmVerif.Proofs.LRX
namespace TmVerif.Events
open TmVerif.LR TmVerif.LRX

def rng (e : Entry) : Nat × Nat := (e.off, e.endo)

theorem reportsWF_ruleOf {x : XTables} (h : reportsWF x = true) (rule : Int) {r : Report}
    (hr : r ∈ (ruleOf x rule).reports) : r.start ≤ r.stop := by
  rcases ruleOf_cases x rule with h0 | ⟨_, hi⟩
  · rw [h0] at hr; cases hr
  · unfold reportsWF at h
    rw [List.all_eq_true] at h
    have := h _ (mem_toList_of_getElem? hi)
    rw [List.all_eq_true] at this
    simpa using this r hr

theorem trim_map : ∀ l : List Entry,
    reportEvent.trim (l.map rng) = (trimTrailing l).map rng
  | [] => by simp [reportEvent.trim, trimTrailing]
  | [e] => by simp [reportEvent.trim, trimTrailing]
  | e :: e' :: rest => by
    have ih := trim_map (e' :: rest)
    simp only [List.map_cons] at ih ⊢
    rw [reportEvent.trim, trimTrailing]
    by_cases h : e.off = e.endo
    · simpa [rng, h] using ih
    · simp [rng, h]

/-- `reportEvent` keeps of a slice of ranges what `LRX.kept` keeps of the slice of entries -/
theorem kept_map (fw : Bool) (S : List Entry) :
    (if fw then (reportEvent.trim (S.map rng).reverse).reverse else S.map rng) = (kept fw S).map rng := by
  unfold kept
  cases fw
  · rfl
  · simp only [if_true, ← List.map_reverse, trim_map]

theorem repX_reportEvent (fw : Bool) (rhsTop : List Entry) (ln after : Nat) (r : Report) (ev : XEv)
    (hlen : rhsTop.length = ln) (hr : r.start ≤ r.stop)
    (h : repX fw rhsTop ln r = some ev) :
    reportEvent fw (rhsTop.reverse.map rng) after r = some ev := by
  rw [repX_eq hlen hr] at h
  have hl : rhsTop.reverse.length = ln := by rw [List.length_reverse, hlen]
  generalize rhsTop.reverse = R at h hl
  unfold reportEvent
  by_cases hse : r.start = r.stop
  · rw [if_pos hse] at h ⊢
    obtain ⟨e, he, rfl⟩ := Option.map_eq_some_iff.1 h
    rw [List.getElem?_map, he]; rfl
  · rw [if_neg hse] at h ⊢
    by_cases ht : r.stop ≤ ln
    · rw [if_pos ht] at h
      have hS := (slice_ends (R.map rng) (Nat.lt_of_le_of_ne hr hse) (by rw [List.length_map, hl]; exact ht)).1
      rw [if_neg (· hS), ← List.map_drop, ← List.map_take, kept_map]
      simp only [List.head?_map, List.getLast?_map]
      unfold spanEv at h
      generalize kept fw _ = K at h ⊢
      rw [← h]
      cases K.head? <;> cases K.getLast? <;> rfl
    · rw [if_neg ht] at h; cases h

/-- `fixTrailingWS` on ranges -/
def fixEnd (items : List (Nat × Nat)) (off endo : Nat) : Nat :=
  match items.reverse.find? (fun p => p.1 ≠ p.2) with
  | some p => p.2
  | none => if items.isEmpty then endo else off

theorem fixTrailingWS_eq (off endo : Nat) (rhsTop : List Entry) :
    fixTrailingWS off endo rhsTop = fixEnd (rhsTop.reverse.map rng) off endo := by
  unfold fixTrailingWS fixEnd
  rw [← List.map_reverse, List.reverse_reverse, List.find?_map]
  cases rhsTop with
  | nil => simp
  | cons e es =>
    simp only [List.isEmpty_cons, Bool.false_eq_true, if_false]
    have : ((fun p : Nat × Nat => decide (p.1 ≠ p.2)) ∘ rng) = fun e : Entry => decide (e.off ≠ e.endo) := by
      funext e; rfl
    rw [this]
    cases List.find? (fun e : Entry => decide (e.off ≠ e.endo)) (e :: es) <;> simp [rng]

def headOff (items : List (Nat × Nat)) (after : Nat) : Nat :=
  match items.head? with | some (o, _) => o | none => after

def lastEnd (items : List (Nat × Nat)) (after : Nat) : Nat :=
  match items.getLast? with | some (_, e) => e | none => after

/-- The range `applyRule` computes from the popped entries (`stack.take ln`, top first; the next
token's offset `after` for an empty right-hand side) is the range of the children's ranges. -/
theorem popped_offsets (stack : List Entry) (ln after : Nat) (hln : ln ≤ stack.length) :
    (if ln = 0 then after else ((stack.take ln).getLast?.map (·.off)).getD 0) =
        headOff ((stack.take ln).reverse.map rng) after ∧
    (if ln = 0 then after else ((stack.take ln).head?.map (·.endo)).getD 0) =
        lastEnd ((stack.take ln).reverse.map rng) after := by
  unfold headOff lastEnd
  rw [List.head?_map, List.head?_reverse, List.getLast?_map, List.getLast?_reverse]
  by_cases h0 : ln = 0
  · subst h0; exact ⟨rfl, rfl⟩
  · rw [if_neg h0, if_neg h0]
    cases hT : stack.take ln with
    | nil =>
      exact absurd ((List.length_take_of_le hln).symm.trans (congrArg List.length hT)) h0
    | cons a l =>
      rw [List.getLast?_cons, List.head?_cons]
      exact ⟨rfl, rfl⟩

theorem layout_tok (x : XTables) (t : Tok) (after : Nat) :
    layout x (.tok t) after = some ⟨t.off, t.endo, []⟩ := by rw [layout]

theorem layout_node (x : XTables) (rule : Nat) (children : List PTree) (after : Nat) (ll : LaidList)
    (h : layoutList x children after = some ll) {info : RuleInfo} (hi : (x.rules[rule]?).getD {} = info) :
    layout x (.node rule children) after =
      (info.reports.mapM (reportEvent x.fixWhitespace ll.items after)).map fun reps =>
        ⟨headOff ll.items after,
         if info.fixWS then fixEnd ll.items (headOff ll.items after) (lastEnd ll.items after) else lastEnd ll.items after,
         ll.evs ++ reps ++ ownNode info (headOff ll.items after)
           (if info.fixWS then fixEnd ll.items (headOff ll.items after) (lastEnd ll.items after)
            else lastEnd ll.items after)⟩ := by
  subst hi
  rw [layout, h]
  simp only
  cases List.mapM (reportEvent x.fixWhitespace ll.items after) ((x.rules[rule]?).getD {}).reports <;> rfl

theorem layout_node_none (x : XTables) (rule : Nat) (children : List PTree) (after : Nat)
    (h : layoutList x children after = none) : layout x (.node rule children) after = none := by
  rw [layout, h]

theorem layoutList_nil (x : XTables) (after : Nat) : layoutList x [] after = some ⟨[], []⟩ := by
  rw [layoutList]

theorem layoutList_cons (x : XTables) (c : PTree) (rest : List PTree) (after : Nat) :
    layoutList x (c :: rest) after =
      (layoutList x rest after).bind fun lr =>
        (layout x c (headOff lr.items after)).map fun lc => ⟨(lc.off, lc.endo) :: lr.items, lc.evs ++ lr.evs⟩ := by
  rw [layoutList]
  cases layoutList x rest after with
  | none => rfl
  | some lr =>
    show (match layout x c (headOff lr.items after) with | none => none | some lc => some _) =
      (layout x c (headOff lr.items after)).map _
    cases layout x c (headOff lr.items after) <;> rfl

theorem headOff_snoc (items : List (Nat × Nat)) (p : Nat × Nat) (after : Nat) :
    headOff (items ++ [p]) after = headOff items p.1 := by
  unfold headOff; cases items <;> rfl

theorem layoutList_snoc (x : XTables) (c : PTree) (after : Nat) : ∀ cs : List PTree,
    layoutList x (cs ++ [c]) after =
      (layout x c after).bind fun lc =>
        (layoutList x cs lc.off).map fun lr => ⟨lr.items ++ [(lc.off, lc.endo)], lr.evs ++ lc.evs⟩
  | [] => by
    rw [List.nil_append, layoutList_cons, layoutList_nil]
    show (layout x c after).map _ = _
    cases layout x c after <;> simp [layoutList_nil]
  | d :: cs => by
    rw [List.cons_append, layoutList_cons, layoutList_snoc x c after cs]
    cases layout x c after with
    | none => rfl
    | some lc =>
      simp only [Option.bind_some, layoutList_cons]
      cases layoutList x cs lc.off with
      | none => rfl
      | some lr =>
        simp only [Option.map_some, Option.bind_some, headOff_snoc]
        cases layout x d (headOff lr.items lc.off) <;> simp

/-- If the children `kids` are laid out with the ranges of the popped stack entries, the listener
calls of `applyRuleEvents` are the report events and the own node of `layout` for the new tree, and the new
stack entry's range `(off, endo')` is the tree's range. -/
theorem applyRule_layout (x : XTables) (rule : Int) (hrule : 0 ≤ rule) (stack : List Entry) (ln : Nat)
    (hln : ln ≤ stack.length) (kids : List PTree) (after : Nat) (ll : LaidList)
    (hll : layoutList x kids after = some ll)
    (hitems : ll.items = (stack.take ln).reverse.map rng)
    (hwf : reportsWF x = true) (off endo endo' : Nat) (evs : List XEv)
    (hoff : off = if ln = 0 then after else ((stack.take ln).getLast?.map (·.off)).getD 0)
    (hendo : endo = if ln = 0 then after else ((stack.take ln).head?.map (·.endo)).getD 0)
    (h : applyRuleEvents x rule ln off endo stack = some (evs, endo')) :
    layout x (.node rule.toNat kids) after = some ⟨off, endo', ll.evs ++ evs⟩ := by
  obtain ⟨p1, p2⟩ := popped_offsets stack ln after hln
  rw [← hitems, ← hoff] at p1
  rw [← hitems, ← hendo] at p2
  have hlen := List.length_take_of_le hln
  have hinfo : (x.rules[rule.toNat]?).getD {} = ruleOf x rule := (ruleOf_of_nonneg hrule).symm
  rw [applyRuleEvents_eq] at h
  obtain ⟨reps, hm, h⟩ := Option.map_eq_some_iff.1 h
  cases h
  have hreps : (ruleOf x rule).reports.mapM
      (reportEvent x.fixWhitespace ((stack.take ln).reverse.map rng) after) = some reps :=
    mapM_eq_some_iff.2 ((mapM_eq_some_iff.1 hm).imp fun r hr ev =>
      repX_reportEvent x.fixWhitespace (stack.take ln) ln after r ev hlen (reportsWF_ruleOf hwf rule hr))
  rw [layout_node x _ _ _ ll hll hinfo, ← p1, ← p2, hitems, hreps,
    Option.map_some, ← fixTrailingWS_eq, List.append_assoc]

end TmVerif.Events
