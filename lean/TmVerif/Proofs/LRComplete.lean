/-
Completeness of the LR runtime model for tables that pass `complOk` (LR(1)-style items with
lookahead masks): closed `nullable`/`first` over-approximate the true nullable/FIRST of the grammar;
the items are an instance of the walk along a derivation.
-/
import TmVerif.Model.LRComplete
import TmVerif.Proofs.LRCompleteStep
import TmVerif.Proofs.LRRef
namespace TmVerif.LRComplete
open TmVerif.LR TmVerif.CFG TmVerif.LRSound TmVerif.LRRef

def Sub (a b : Nat) : Prop := ∀ i, a.testBit i = true → b.testBit i = true

theorem Sub.refl (a : Nat) : Sub a a := fun _ h => h

theorem Sub.trans {a b c : Nat} (h1 : Sub a b) (h2 : Sub b c) : Sub a c :=
  fun i h => h2 i (h1 i h)

theorem hasItem_elim {cc : CCert} {s r d L : Nat} (h : hasItem cc s r d L = true) :
    ∃ it ∈ itemsOf cc s, it.rule = r ∧ it.dot = d ∧ Sub L it.la := by
  unfold hasItem at h
  rw [List.any_eq_true] at h
  obtain ⟨it, hm, h⟩ := h
  simp only [Bool.and_eq_true, beq_iff_eq] at h
  exact ⟨it, hm, h.1.1, h.1.2, subMask_msub h.2⟩

structure ComplFacts (g : Grammar) (t : Tables) (cc : CCert) : Prop where
  wf : g.wf = true
  nTerms : t.nTerms = g.nTerms
  nullC : ∀ r ∈ g.rules.toList, seqNullable cc.nullable r.rhs = true →
    cc.nullable.contains r.lhs = true
  firstC : ∀ r ∈ g.rules.toList,
    Sub (firstOfSeq g cc.nullable cc.first r.rhs) (cc.first.getD r.lhs 0)
  start : ∀ i inp, g.inputs[i]? = some inp →
    ∃ it ∈ itemsOf cc i, it.rule = g.rules.size + i ∧ it.dot = 0 ∧
      Sub (if inp.eoi then 0 else allTerms g) it.la
  item : ∀ s it, it ∈ itemsOf cc s → itemOk g t cc s it = true

theorem complFacts {g : Grammar} {t : Tables} {cc : CCert} (h : complOk g t cc = true) :
    ComplFacts g t cc := by
  unfold complOk at h
  simp only [Bool.and_eq_true, decide_eq_true_eq, List.all_eq_true, List.mem_range] at h
  obtain ⟨⟨⟨⟨⟨⟨h1, h2⟩, h3⟩, h4⟩, h5⟩, _⟩, h7⟩ := h
  refine ⟨h1, h2, ?_, ?_, ?_, fun s it hm => h7 s (lt_of_mem_getD hm) it hm⟩
  · intro r hr hn
    have := List.all_eq_true.mp h3 r hr
    rw [hn] at this
    exact this
  · intro r hr
    exact subMask_msub (List.all_eq_true.mp h4 r hr)
  · intro i inp hi
    obtain ⟨hlt, _⟩ := Array.getElem_of_getElem? hi
    have := List.all_eq_true.mp h5 i (List.mem_range.mpr hlt)
    rw [hi] at this
    exact hasItem_elim this

theorem ComplFacts.nTermsPos {g : Grammar} {t : Tables} {cc : CCert} (hf : ComplFacts g t cc) :
    0 < t.nTerms :=
  nTerms_pos_of_wf hf.wf hf.nTerms

/-- `Items.Adv` of `walk` (below) unfolded, so that `item_goto` and `shift_item` fill its fields as
they stand -/
def Adv (cc : CCert) (q : Nat) (it : CItem) (k : Nat) (it' : CItem) : Prop :=
  it' ∈ itemsOf cc q ∧ it'.rule = it.rule ∧ it'.dot = it.dot + k ∧ Sub it.la it'.la

theorem hasItem_adv {cc : CCert} {it : CItem} {q : Int}
    (h : (decide (0 ≤ q) && hasItem cc q.toNat it.rule (it.dot + 1) it.la) = true) :
    ∃ n : Nat, q = (n : Int) ∧ ∃ it', Adv cc n it 1 it' := by
  rw [Bool.and_eq_true, decide_eq_true_eq] at h
  exact ⟨q.toNat, (Int.toNat_of_nonneg h.1).symm, hasItem_elim h.2⟩

section facts
variable {g : Grammar} {t : Tables} {cc : CCert} (hf : ComplFacts g t cc)
include hf

theorem item_parts {s : Nat} {it : CItem} (hm : it ∈ itemsOf cc s) :
    closOk g cc s it = true ∧ moveOk g t cc s it = true ∧ redOk g t s it = true ∧
      finOk g t s it = true := by
  have h := hf.item s it hm
  unfold itemOk at h
  simp only [Bool.and_eq_true, and_assoc] at h
  exact h

theorem item_goto {s x : Nat} {it : CItem} (hm : it ∈ itemsOf cc s)
    (hx : (rhsOf g it.rule)[it.dot]? = some x) (hge : g.nTerms ≤ x) :
    ∃ q : Nat, gotoState t s x = some (q : Int) ∧ ∃ it', Adv cc q it 1 it' := by
  have h := (item_parts hf hm).2.1
  unfold moveOk at h
  rw [hx] at h
  simp only [Nat.not_lt.mpr hge, if_false] at h
  split at h
  · rename_i q hq
    obtain ⟨n, rfl, hadv⟩ := hasItem_adv h
    exact ⟨n, hq, hadv⟩
  · cases h

theorem item_clos {s : Nat} {it : CItem} (hm : it ∈ itemsOf cc s) {x : Nat}
    (hx : (rhsOf g it.rule)[it.dot]? = some x) (hge : g.nTerms ≤ x)
    {r' : Nat} {rule : Rule} (hr : g.rules[r']? = some rule) (hl : rule.lhs = x) :
    ∃ it' ∈ itemsOf cc s, it'.rule = r' ∧ it'.dot = 0 ∧ Sub (contrib g cc it) it'.la := by
  have h := (item_parts hf hm).1
  unfold closOk at h
  rw [hx] at h
  simp only [Bool.or_eq_true, decide_eq_true_eq, Nat.not_lt.mpr hge, false_or,
    List.all_eq_true] at h
  exact hasItem_elim (h r' (mem_rulesOf.mpr ⟨rule, hr, hl⟩))

theorem item_red {s : Nat} {it : CItem} (hm : it ∈ itemsOf cc s) {rule : Rule}
    (hr : g.rules[it.rule]? = some rule) (hd : it.dot = rule.rhs.length) :
    geti t.ruleLen it.rule = some (rule.rhs.length : Int) ∧
    geti t.ruleSymbol it.rule = some (rule.lhs : Int) ∧
    ∃ b, needsTok t s = some b ∧ ∀ a, a < g.nTerms → it.la.testBit a = true →
      actOf t noDeep s a = some (.reduce (it.rule : Int)) := by
  have h := (item_parts hf hm).2.2.1
  unfold redOk at h
  rw [hr] at h
  simp only [Bool.or_eq_true, bne_iff_ne, ne_eq, hd, not_true_eq_false, false_or,
    Bool.and_eq_true, beq_iff_eq] at h
  refine ⟨h.1.1, h.1.2, ?_⟩
  have h := h.2
  split at h
  · cases h
  · rename_i b hb
    refine ⟨b, hb, ?_⟩
    intro a ha hbit
    rw [List.all_eq_true] at h
    have := h a (List.mem_range.mpr ha)
    simp only [hbit, Bool.not_true, Bool.false_or, beq_iff_eq] at this
    -- a state that does not consult the token reduces whatever the token is
    cases b with
    | true => exact this
    | false => exact (actOf_of_needsTok_false hb noDeep noDeep _ 0).trans this

theorem item_fin {s i : Nat} {it : CItem} (hm : it ∈ itemsOf cc s)
    (hr : it.rule = g.rules.size + i) (hd : it.dot = (rhsOf g it.rule).length) :
    t.finalStates[i]? = some (s : Int) := by
  have h := (item_parts hf hm).2.2.2
  unfold finOk at h
  simpa [hd, hr, Nat.not_lt.mpr (Nat.le_add_right g.rules.size i)] using h

end facts

section closed
variable {g : Grammar} {t : Tables} {cc : CCert} (hf : ComplFacts g t cc)
include hf

theorem ComplFacts.nfClosed : NfClosed g cc.nullable cc.first :=
  ⟨hf.nullC, hf.firstC, fun r hr => ((wfFacts hf.wf).rules r hr).1⟩

/-- the mask of a single symbol inside `firstOfSeq` -/
def symFirst (g : Grammar) (first : Array Nat) (s : Nat) : Nat :=
  if s < g.nTerms then 1 <<< s else first.getD s 0

theorem derives_first :
    ∀ {X : Nat} {u : List Nat}, Derives g X u → ∀ b u', u = b :: u' →
      (symFirst g cc.first X).testBit b = true := fun hd b u' h => by
  have := first_complete hf.nfClosed ((derives_nullable_first.1 hd).2 b u' h)
  -- `firstOfSeq` of `[X]` is `symFirst` of `X`, `||| 0` if `X` is nullable (the test `split` finds)
  rw [firstOfSeq, firstOfSeq] at this
  split at this
  · rwa [Nat.or_zero] at this
  · exact this

end closed

section walk
variable {g : Grammar} {t : Tables} {cc : CCert} {inp : Input}
  (hf : ComplFacts g t cc) (htok : TokOk t inp)
include hf htok

theorem shift_item {s a m : Nat} {it : CItem} {c : Cfg} (hm : it ∈ itemsOf cc s)
    (hx : (rhsOf g it.rule)[it.dot]? = some a) (ha : a < g.nTerms) (htop : TopState c s)
    (hn : NextOk inp c m) (hr : symAt inp m = a) :
    ∃ q it' c', step t inp c = .cont c' ∧ Adv cc q it 1 it' ∧ Pushed c' q c.stack ∧
      NextOk inp c' (m + 1) := by
  have h := (item_parts hf hm).2.1
  unfold moveOk at h
  rw [hx] at h
  simp only [ha, if_true, Bool.and_eq_true, beq_iff_eq] at h
  obtain ⟨hneeds, h⟩ := h
  split at h
  · rename_i q hq
    obtain ⟨n, rfl, it', hadv⟩ := hasItem_adv h
    obtain ⟨c', h1, h2, h3, _⟩ :=
      shift_of_decode htok hn
        (decode_noDeep hn (symAt_lt_nTerms htok hf.nTermsPos m).2 htop.1 hneeds (hr ▸ hq))
    exact ⟨n, it', c', h1, hadv, h2, h3⟩
  · cases h

omit htok in
/-- the token after the yield `v` of the rest of the rule is in the set the closure rule passes on -/
theorem ctx_item {it : CItem} {p : Nat} {v : List Nat}
    (hd : DerivesSeq g ((rhsOf g it.rule).drop (it.dot + 1)) v) (hr : Reads inp p v)
    (hla : v = [] → it.la.testBit (symAt inp p) = true) :
    (contrib g cc it).testBit (symAt inp p) = true := by
  refine closureContribution_bit.2 ?_
  cases v with
  | nil => exact .inr ⟨seqNullable_complete hf.nfClosed ((derives_nullable_first.2 hd).1 rfl), hla rfl⟩
  | cons b v' =>
    rw [hr.1]
    exact .inl (first_complete hf.nfClosed ((derives_nullable_first.2 hd).2 b v' rfl))

/-- the augmented rule of an input with the end-of-input requirement: it ends with EOI, and
nothing is known, or asked, of what follows -/
def EoiAug (g : Grammar) (r : Nat) : Prop :=
  ∃ i gi, r = g.rules.size + i ∧ g.inputs[i]? = some gi ∧ gi.eoi = true

omit htok in
theorem ctx_eoiAug {it : CItem} (h : EoiAug g it.rule) {X p : Nat} {v : List Nat}
    (hx : (rhsOf g it.rule)[it.dot]? = some X) (hge : g.nTerms ≤ X)
    (hd : DerivesSeq g ((rhsOf g it.rule).drop (it.dot + 1)) v) (hr : Reads inp p v) :
    (contrib g cc it).testBit (symAt inp p) = true := by
  obtain ⟨i, gi, hru, hgi, heoi⟩ := h
  have hpos := (wfFacts hf.wf).nTermsPos
  have hrhs : rhsOf g it.rule = [gi.sym, 0] := by rw [hru, rhsOf_input hgi, if_pos heoi]
  -- the nonterminal behind the dot is the start symbol: EOI is the rest of the rule
  have hd0 : it.dot = 0 := by
    rw [hrhs] at hx
    match hdot : it.dot, hx with
    | 0, _ => rfl
    | 1, hx => simp at hx; omega
    | n + 2, hx => simp at hx
  have hd' : DerivesSeq g [0] v := by rw [hrhs, hd0] at hd; exact hd
  cases hd' with
  | cons _ _ u v' hX _ =>
    refine ctx_item hf hd hr fun hv => ?_
    rw [derives_zero (wfFacts hf.wf) hX] at hv
    cases hv

/-- The items of the certificate as a `Walk`. The context matters only before a nonterminal: a
terminal is shifted whatever follows. -/
def walk : Walk g t inp CItem where
  mem s it := it ∈ itemsOf cc s
  rule := CItem.rule
  dot := CItem.dot
  sub a b := Sub a.la b.la
  la it p := EoiAug g it.rule ∨ it.la.testBit (symAt inp p) = true
  ctx it p := ∀ X, (rhsOf g it.rule)[it.dot]? = some X → g.nTerms ≤ X →
    (contrib g cc it).testBit (symAt inp p) = true
  ok := NextOk inp
  wf := hf.wf
  sub_refl it := Sub.refl _
  sub_trans := Sub.trans
  sub_la hr h := Or.imp (fun h' => hr ▸ h') (h _)
  ctx_of hd hr hla _ hx hge :=
    hla.elim (fun h => ctx_eoiAug hf h hx hge hd hr)
      fun hla => ctx_item hf hd hr (by rintro rfl; exact hla)
  shift hm hx ha htop hn hr _ := shift_item hf htok hm hx ha htop hn hr
  goto := item_goto hf
  clos hm hx hge hk hl := by
    obtain ⟨it', hm', hr', hd', hsub⟩ := item_clos hf hm hx hge hk hl
    exact ⟨it', hm', hr', hd', fun p hctx => .inr (hsub _ (hctx _ hx hge))⟩
  reduce {s it r c m} _ _ _ _ hm hr hd hla hn hst hstk hents hgoto := by
    obtain ⟨hlen, hsym, b, hneeds, hact⟩ := item_red hf hm hr hd
    have hla : it.la.testBit (symAt inp m) = true :=
      hla.resolve_left fun ⟨_, _, h, _⟩ => by
        have := (Array.getElem?_eq_some_iff.mp hr).1
        omega
    have htk := symAt_lt_nTerms htok hf.nTermsPos m
    have hdec := decode_noDeep hn htk.2 hst hneeds
      (hact (symAt inp m) (by rw [← hf.nTerms]; exact htk.1) hla)
    obtain ⟨c', h1, h2, h3, _⟩ := reduce_of_decode hn hdec hlen hsym hstk hents hgoto
    exact ⟨c', h1, h2, h3⟩

/-- the rest of a rule body: from `[A → α . β, L]` to `[A → α β ., L]` over the yield of `β` -/
theorem steps_of_derivesSeq :
    ∀ {α : List Nat} {u : List Nat}, DerivesSeq g α u →
      ∀ (s : Nat) (it : CItem) (c : Cfg) (m : Nat),
        it ∈ itemsOf cc s → (rhsOf g it.rule).drop it.dot = α →
        TopState c s → NextOk inp c m → Reads inp m u →
        it.la.testBit (symAt inp (m + u.length)) = true →
        ∃ (s' : Nat) (it' : CItem) (c' : Cfg) (ents : List Entry), Steps t inp c c' ∧
          Adv cc s' it α.length it' ∧ TopState c' s' ∧ c'.stack = ents ++ c.stack ∧
          ents.length = α.length ∧ NextOk inp c' (m + u.length) :=
  fun h s it c m hm hd htop hn hr hla => (walk hf htok).derives.2 h s it c m _ rfl hm hd htop hn hr (.inr hla)

theorem accept_word {i : Nat} {w : List Nat} (hsent : Sentence g i w) (hr : Reads inp 0 w)
    (hend : ∀ gi, g.inputs[i]? = some gi → gi.eoi = true → inp.toks.size ≤ w.length) :
    ∃ fuel c, run t inp i fuel = (Result.accept, c) := by
  refine (walk hf htok).accept_word (item_fin hf) ?_ (initCfg_next inp) hsent hr hend
  intro i gi hgi
  obtain ⟨it0, hm0, hr0, hd0, hsub0⟩ := hf.start i gi hgi
  refine ⟨it0, hm0, hr0, hd0, fun p _ => ?_⟩
  cases heoi : gi.eoi with
  | true => exact .inl ⟨i, gi, hr0, hgi, heoi⟩
  | false =>
    rw [heoi] at hsub0
    refine .inr (hsub0 _ ((allTerms_testBit g _).mpr ?_))
    rw [← hf.nTerms]
    exact (symAt_lt_nTerms htok hf.nTermsPos _).1

theorem complete_accept {i : Nat} (hsent : Sentence g i (word inp)) :
    ∃ fuel c, run t inp i fuel = (Result.accept, c) :=
  accept_word hf htok hsent (reads_word inp) fun _ _ _ => by rw [word_length]; exact Nat.le_refl _

end walk

end TmVerif.LRComplete
