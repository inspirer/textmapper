import TmVerif.Proofs.AstRegex
import TmVerif.Proofs.Basic
/-!
C21: accessor semantics. `access` (literal mirror of the generated `Child/Next/Children/NextAll` chain)
= `scan` (one pass, "first match after the previous step's match") = `runAcc … 0` (the automaton the
checker steps), and soundness of the closed-set check `closedOK`.
-/
namespace TmVerif.AstTypes
open Re

theorem findFrom_mem {sel : Sel} {w : List Nat} {k p : Nat} (h : findFrom sel w k = some p) :
    k ≤ p ∧ ∃ a, w[p]? = some a ∧ a ∈ sel := by
  -- no child; from index 0, the head selected or not; from a later index
  fun_induction findFrom sel w k generalizing p with
  | case1 => cases h
  | case2 b w hc => cases h; exact ⟨Nat.le_refl _, b, rfl, List.contains_iff_mem.mp hc⟩
  | case3 b w hc ih =>
    obtain ⟨p', hp', rfl⟩ := Option.map_eq_some_iff.mp h
    exact ⟨Nat.zero_le _, (ih hp').2⟩
  | case4 b w k ih =>
    obtain ⟨p', hp', rfl⟩ := Option.map_eq_some_iff.mp h
    exact ⟨Nat.succ_le_succ (ih hp').1, (ih hp').2⟩

theorem findFrom_first {sel : Sel} {w : List Nat} {k q : Nat} (hk : k ≤ q)
    (hq : ∀ p, findFrom sel w k = some p → q < p) : ∀ a, w[q]? = some a → a ∉ sel := by
  have hq' : ∀ {o : Option Nat} {q'}, (∀ p, o.map (· + 1) = some p → q' + 1 < p) → ∀ p, o = some p → q' < p :=
    fun h p hp => Nat.lt_of_succ_lt_succ (h (p + 1) (by rw [hp]; rfl))
  fun_induction findFrom sel w k generalizing q with
  | case1 => intro a ha; cases ha
  | case2 b w hc => exact absurd (hq 0 rfl) (Nat.not_lt_zero q)
  | case3 b w hc ih =>
    cases q with
    | zero =>
      intro a ha hm
      cases ha
      exact hc (List.contains_iff_mem.mpr hm)
    | succ q' => exact ih (Nat.zero_le _) (hq' hq)
  | case4 b w k ih =>
    cases q with
    | zero => exact absurd hk (Nat.not_succ_le_zero k)
    | succ q' => exact ih (Nat.le_of_succ_le_succ hk) (hq' hq)

/-- `access` with `Child` replaced by "first match at or after index `k`": the form that can be moved past one
child (`specFrom_shift`), which `access` itself (always from 0) cannot. -/
def specFrom : List Sel → Sel → Bool → List Nat → Nat → List Nat
  | [], last, l, w, k => if l then findAllFrom last w k else (findFrom last w k).toList
  | s :: ss, last, l, w, k =>
    match findFrom s w k with
    | none => []
    | some q => specFrom ss last l w (q + 1)

theorem chain_tail (last : Sel) (l : Bool) (w : List Nat) (ss : List Sel) (p : Option Nat) :
    (if l then nextAll last w (chainNode w ss p) else (next last w (chainNode w ss p)).toList) =
      match p with
      | none => []
      | some q => specFrom ss last l w (q + 1) := by
  induction ss generalizing p with
  | nil =>
    cases p with
    | none => cases l <;> simp [chainNode, nextAll, next]
    | some q => cases l <;> simp [chainNode, nextAll, next, specFrom]
  | cons s ss ih =>
    simp only [chainNode]
    rw [ih]
    cases p with
    | none => simp [next]
    | some q =>
      simp only [next, specFrom]

theorem access_eq_specFrom (acc : Acc) (w : List Nat) :
    access acc w = specFrom acc.chain acc.last acc.isList w 0 := by
  unfold access
  cases hc : acc.chain with
  | nil => simp [specFrom, children, child]
  | cons s ss =>
    simp only []
    have := chain_tail acc.last acc.isList w ss (child s w)
    rw [this]
    simp only [child, specFrom]

theorem specFrom_shift (chain : List Sel) (last : Sel) (l : Bool) (a : Nat) (w : List Nat) (k : Nat) :
    specFrom chain last l (a :: w) (k + 1) = (specFrom chain last l w k).map (· + 1) := by
  induction chain generalizing k with
  | nil =>
    cases l
    · simp [specFrom, findFrom, Option.toList_map]
    · simp [specFrom, findAllFrom]
  | cons s ss ih =>
    simp only [specFrom, findFrom]
    cases h : findFrom s w k with
    | none => simp
    | some q => simp [ih]

theorem specFrom_eq_scan (chain : List Sel) (last : Sel) (l : Bool) (w : List Nat) :
    specFrom chain last l w 0 = scan chain last l w := by
  fun_induction scan chain last l w with
  | case1 chain last l => cases chain <;> cases l <;> rfl
  | case2 s ss last l a w hc ih =>
    -- the head matches step `s`: the rest of the chain is looked for from index 1
    rw [specFrom, findFrom, if_pos hc, ← ih]
    exact specFrom_shift ss last l a w 0
  | case3 s ss last l a w hc ih =>
    rw [← ih, specFrom, specFrom, findFrom, if_neg hc]
    cases findFrom s w 0 with
    | none => rfl
    | some q => exact specFrom_shift ss last l a w (q + 1)
  | case4 last l a w hc ih =>
    rw [← ih]
    cases l <;> simp only [specFrom, findFrom, findAllFrom, if_pos hc, if_true, Bool.false_eq_true, if_false,
      Option.toList_some]
  | case5 last l a w hc ih =>
    rw [← ih]
    cases l <;> simp only [specFrom, findFrom, findAllFrom, if_neg hc, if_true, Bool.false_eq_true, if_false,
      Option.toList_map]

theorem access_eq_scan (acc : Acc) (w : List Nat) :
    access acc w = scan acc.chain acc.last acc.isList w := by
  rw [access_eq_specFrom, specFrom_eq_scan]

theorem runAcc_cons (acc : Acc) (k a : Nat) (w : List Nat) :
    runAcc acc k (a :: w) =
      (if (stepAcc acc k a).2 then [0] else []) ++ (runAcc acc (stepAcc acc k a).1 w).map (· + 1) := rfl

theorem stepAcc_lt {acc : Acc} {k : Nat} (h : k < acc.chain.length) (a : Nat) :
    stepAcc acc k a = (if (acc.chain.getD k []).contains a then k + 1 else k, false) := by
  unfold stepAcc; rw [if_pos h]

theorem stepAcc_eq (acc : Acc) (a : Nat) :
    stepAcc acc acc.chain.length a =
      if acc.last.contains a then (if acc.isList then acc.chain.length else acc.chain.length + 1, true)
      else (acc.chain.length, false) := by
  unfold stepAcc; rw [if_neg (Nat.lt_irrefl _), if_pos rfl]

theorem stepAcc_gt {acc : Acc} {k : Nat} (h : acc.chain.length < k) (a : Nat) : stepAcc acc k a = (k, false) := by
  unfold stepAcc; rw [if_neg (Nat.lt_asymm h), if_neg (Nat.ne_of_gt h)]

theorem runAcc_done {acc : Acc} {k : Nat} (hk : acc.chain.length < k) (w : List Nat) : runAcc acc k w = [] := by
  induction w with
  | nil => rfl
  | cons a w ih => rw [runAcc_cons, stepAcc_gt hk, ih]; rfl

theorem runAcc_eq_scan (acc : Acc) (w : List Nat) (k : Nat) (hk : k ≤ acc.chain.length) :
    runAcc acc k w = scan (acc.chain.drop k) acc.last acc.isList w := by
  induction w generalizing k with
  | nil => cases acc.chain.drop k <;> rfl
  | cons a w ih =>
    rcases Nat.lt_or_eq_of_le hk with hlt | rfl
    · -- still matching step `k`
      rw [runAcc_cons, stepAcc_lt hlt, List.drop_eq_getElem_cons hlt, scan,
        show acc.chain.getD k [] = acc.chain[k] by simp [List.getD, hlt]]
      by_cases hc : acc.chain[k].contains a = true
      · simp only [hc, if_true, Bool.false_eq_true, if_false, List.nil_append]
        rw [ih (k + 1) hlt]
      · simp only [hc, Bool.false_eq_true, if_false, List.nil_append]
        rw [ih k hk, List.drop_eq_getElem_cons hlt]
    · -- all steps matched: the field's own selector is looked for
      have ih := List.drop_length ▸ ih _ hk
      rw [runAcc_cons, stepAcc_eq, List.drop_length, scan]
      by_cases hc : acc.last.contains a = true
      · rw [if_pos hc, if_pos hc]
        cases hl : acc.isList
        · simp [runAcc_done]
        · simp [ih, hl]
      · rw [if_neg hc, if_neg hc]
        simp [ih]

theorem runAcc_zero (acc : Acc) (w : List Nat) : runAcc acc 0 w = access acc w := by
  rw [runAcc_eq_scan acc w 0 (Nat.zero_le _), access_eq_scan]; rfl

theorem scan_typed (chain : List Sel) (last : Sel) (l : Bool) (w : List Nat) :
    ∀ p ∈ scan chain last l w, ∃ a, w[p]? = some a ∧ a ∈ last := by
  fun_induction scan chain last l w with
  | case1 => intro p hp; cases hp
  | case2 s ss last l a w hc ih => exact List.forall_mem_map.mpr ih
  | case3 s ss last l a w hc ih => exact List.forall_mem_map.mpr ih
  | case4 last l a w hc ih =>
    intro p hp
    rcases List.mem_cons.mp hp with rfl | hp'
    · exact ⟨a, rfl, List.contains_iff_mem.mp hc⟩
    · cases l
      · cases hp'
      · obtain ⟨q, hq, rfl⟩ := List.mem_map.mp hp'
        exact ih q hq
  | case5 last l a w hc ih => exact List.forall_mem_map.mpr ih

theorem access_typed (acc : Acc) (w : List Nat) :
    ∀ p ∈ access acc w, ∃ a, w[p]? = some a ∧ a ∈ acc.last := by
  rw [access_eq_scan]; exact scan_typed _ _ _ _

/-- `stepAll` steps each pair of the zip by `stepAcc` (whatever the two lengths). -/
theorem stepAll_zip (a : Nat) : ∀ (accs : List Acc) (ks : List Nat),
    accs.zip (stepAll accs ks a).1 = (accs.zip ks).map (fun ak => (ak.1, (stepAcc ak.1 ak.2 a).1)) ∧
    (stepAll accs ks a).2 = (accs.zip ks).any fun ak => (stepAcc ak.1 ak.2 a).2
  | [], _ => ⟨rfl, rfl⟩
  | _ :: _, [] => ⟨rfl, rfl⟩
  | acc :: accs, k :: ks => by
    obtain ⟨h1, h2⟩ := stepAll_zip a accs ks
    rw [stepAll]
    exact ⟨congrArg (_ :: ·) h1, congrArg ((stepAcc acc k a).2 || ·) h2⟩

theorem finalOK_spec : ∀ (accs : List Acc) (ks : List Nat), finalOK accs ks = true →
    ∀ ak ∈ accs.zip ks, ak.1.required = true → ak.1.isList = false → ak.2 = ak.1.chain.length + 1
  | [], _, _, _, hak, _, _ => absurd hak (by simp)
  | _ :: _, [], _, _, hak, _, _ => absurd hak (by simp)
  | acc :: accs, k :: ks, h, ak, hak, hr, hl => by
    rw [finalOK, Bool.and_eq_true] at h
    rcases List.mem_cons.mp hak with rfl | hak
    · simpa [show acc.required = true from hr, show acc.isList = false from hl] using h.1
    · exact finalOK_spec accs ks h.2 ak hak hr hl

theorem stepAcc_done (acc : Acc) (k a : Nat) (h : (stepAcc acc k a).1 = acc.chain.length + 1) :
    k = acc.chain.length + 1 ∨ (stepAcc acc k a).2 = true := by
  revert h
  fun_cases stepAcc acc k a
  -- before the last step no progress reaches `length + 1`; at it, only a capture does
  case case1 hlt => intro h; dsimp only at h; split at h <;> omega
  case case2 => exact fun _ => .inr rfl
  case case3 he _ => intro h; dsimp only at h; omega
  case case4 => exact .inl

theorem mem_dedupNat (l : List Nat) (x : Nat) : x ∈ dedupNat l ↔ x ∈ l := by
  refine foldl_inv (fun done acc => x ∈ acc ↔ x ∈ done) _ l [] [] Iff.rfl fun done y acc _ h => ?_
  rw [List.mem_append, ← h, List.mem_singleton]
  split
  · next hy => exact ⟨.inl, fun h' => h'.elim id fun e => e ▸ List.contains_iff_mem.mp hy⟩
  · rw [List.mem_append, List.mem_singleton]

def CovFrom (accs : List Acc) (ks : List Nat) (w : List Nat) : Prop :=
  ∀ p, p < w.length → ∃ ak ∈ accs.zip ks, p ∈ runAcc ak.1 ak.2 w

/-- every required non-list accessor has returned its node already or captures one, from progress `ks` -/
def PresFrom (accs : List Acc) (ks : List Nat) (w : List Nat) : Prop :=
  ∀ ak ∈ accs.zip ks, ak.1.required = true → ak.1.isList = false →
    ak.2 = ak.1.chain.length + 1 ∨ runAcc ak.1 ak.2 w ≠ []

theorem CovFrom.cons {accs : List Acc} {ks w : List Nat} {a : Nat} (hc : (stepAll accs ks a).2 = true)
    (h : CovFrom accs (stepAll accs ks a).1 w) : CovFrom accs ks (a :: w) := by
  intro p hp
  cases p with
  | zero =>
    obtain ⟨ak, hak, h2⟩ := List.any_eq_true.mp ((stepAll_zip a accs ks).2 ▸ hc)
    exact ⟨ak, hak, by rw [runAcc_cons, h2]; exact List.mem_cons_self⟩
  | succ q =>
    obtain ⟨ak', hak', hmem⟩ := h q (Nat.lt_of_succ_lt_succ hp)
    rw [(stepAll_zip a accs ks).1] at hak'
    obtain ⟨ak, hak, rfl⟩ := List.mem_map.mp hak'
    exact ⟨ak, hak, by rw [runAcc_cons]; exact List.mem_append_right _ (List.mem_map_of_mem hmem)⟩

theorem PresFrom.cons {accs : List Acc} {ks w : List Nat} {a : Nat}
    (h : PresFrom accs (stepAll accs ks a).1 w) : PresFrom accs ks (a :: w) := by
  intro ak hak hr hl
  have hm : (ak.1, (stepAcc ak.1 ak.2 a).1) ∈ accs.zip (stepAll accs ks a).1 :=
    (stepAll_zip a accs ks).1 ▸ List.mem_map_of_mem hak
  rw [runAcc_cons]
  rcases h _ hm hr hl with hdone | hne
  · exact (stepAcc_done ak.1 ak.2 a hdone).imp_right fun hcap => by rw [hcap]; exact List.cons_ne_nil _ _
  · exact .inr fun hnil => hne (List.map_eq_nil_iff.mp (List.append_eq_nil_iff.mp hnil).2)

/-- A closed set of product states (derivative × accessor progress) is a simulation invariant, so what it checks
state by state holds along every word from the initial state. -/
theorem closed_sound (accs : List Acc) (S : List State) (init : State)
    (hS : closedOK accs S init = true) (w : List Nat) (hL : L init.re w) :
    CovFrom accs init.ks w ∧ PresFrom accs init.ks w := by
  unfold closedOK at hS
  rw [Bool.and_eq_true] at hS
  suffices ∀ st ∈ S, L st.re w → CovFrom accs st.ks w ∧ PresFrom accs st.ks w from
    this init (List.contains_iff_mem.mp hS.1) hL
  clear hL
  induction w with
  | nil =>
    intro st hst hL
    have h := List.all_eq_true.mp hS.2 st hst
    simp only [Bool.and_eq_true, nullable_of_nil hL rfl, Bool.not_true, Bool.false_or] at h
    exact ⟨fun p hp => absurd hp (Nat.not_lt_zero p),
      fun ak hak hr hl => .inl (finalOK_spec accs st.ks h.1.2 ak hak hr hl)⟩
  | cons a w ih =>
    intro st hst hL
    have h := List.all_eq_true.mp hS.2 st hst
    simp only [Bool.and_eq_true] at h
    have hstep := List.all_eq_true.mp h.2 a ((mem_dedupNat _ _).mpr (first_mem_syms hL rfl))
    have hd : L (deriv a st.re) w := L_deriv hL rfl
    simp only [stepState, Bool.or_eq_true, Bool.and_eq_true, beq_iff_eq, List.contains_iff_mem] at hstep
    rcases hstep with he | ⟨hc, hin⟩
    · exact absurd (he ▸ hd) L_empty_false
    · obtain ⟨ihc, ihp⟩ := ih _ hin hd
      exact ⟨ihc.cons hc, ihp.cons⟩

theorem mem_zip_init (accs : List Acc) (ak : Acc × Nat) :
    ak ∈ accs.zip (accs.map fun _ => 0) ↔ ak.1 ∈ accs ∧ ak.2 = 0 := by
  obtain ⟨a, k⟩ := ak
  rw [List.zip_map_right, List.zip_eq_zipWith, List.zipWith_self]
  simp only [List.map_map, List.mem_map, Function.comp_apply, Prod.map_apply, id_eq, eq_comm, Prod.mk.injEq]
  exact ⟨fun ⟨_, h, e, hk⟩ => ⟨e ▸ h, hk⟩, fun ⟨h, hk⟩ => ⟨a, h, rfl, hk⟩⟩

theorem checkRe_sound (accs : List Acc) (re : Re) (h : checkRe accs re = true)
    (w : List Nat) (hw : L re w) : Good accs w := by
  obtain ⟨hc, hp⟩ := closed_sound accs _ _ h w hw
  refine ⟨?_, ?_, ?_⟩
  · intro acc hacc hr hl
    have hm : (acc, 0) ∈ accs.zip ((initState accs re).ks) := (mem_zip_init accs (acc, 0)).mpr ⟨hacc, rfl⟩
    rcases hp _ hm hr hl with h0 | hne
    · simp at h0
    · rwa [runAcc_zero] at hne
  · intro acc _ p hpm
    exact access_typed acc w p hpm
  · intro p hpl
    obtain ⟨ak, hak, hmem⟩ := hc p hpl
    have := (mem_zip_init accs ak).mp hak
    refine ⟨ak.1, this.1, ?_⟩
    rw [this.2, runAcc_zero] at hmem
    exact hmem

end TmVerif.AstTypes
