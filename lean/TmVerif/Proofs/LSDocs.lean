import TmVerif.Model.LS
/-!
C23 — the document map of the language server model refines the abstract map `latest`
(`Model/LS.lean`, part (b)).
-/
namespace TmVerif.LS

theorem Docs.get_erase (d : Docs) (n m : Nat) :
    (Docs.erase d n).get m = if n = m then none else d.get m := by
  unfold Docs.erase Docs.get
  induction d with
  | nil => simp
  | cons p d ih =>
    rw [List.filter_cons, List.lookup_cons]
    by_cases hp : p.1 = n
    · -- the entry goes; unless `n = m` it was not the one looked up
      rw [if_neg (by simpa using hp), ih]
      split
      · rfl
      · rw [hp, beq_false_of_ne (Ne.symm ‹n ≠ m›)]
    · -- the entry stays; if it is the one looked up then `n ≠ m`
      rw [if_pos (by simpa using hp), List.lookup_cons, ih]
      cases hma : m == p.1
      · rfl
      · exact (if_neg (eq_of_beq hma ▸ Ne.symm hp)).symm

theorem Docs.get_set (d : Docs) (n m : Nat) (x : Doc) :
    (Docs.set d n x).get m = if n = m then some x else d.get m := by
  unfold Docs.set
  by_cases hm : n = m
  · subst hm
    simp [Docs.get]
  · have : (m == n) = false := by simpa using Ne.symm hm
    have e := Docs.get_erase d n m
    unfold Docs.get at e ⊢
    rw [List.lookup_cons, this]
    simp only [e, hm, if_false]

def Agrees (d : Docs) (past : List Op) : Prop := ∀ n, d.get n = latest n past

theorem agrees_nil : Agrees [] [] := fun _ => rfl

theorem store_eq (e : Env) (d : Docs) (u : Uri) (v : Int) (text : Bytes) :
    store e d u v text = (typecheck e.mode text (e.problems text)).map
      fun rs => (d.set u.name ⟨text, toU32 v⟩, [.publish u (toU32 v) rs]) := by
  unfold store
  cases typecheck e.mode text (e.problems text) <;> rfl

theorem step_eq_none_iff (e : Env) (d : Docs) (op : Op) : step e d op = none ↔ Crashes e op := by
  cases op with
  | openDoc u v text => simp [step, store_eq, Crashes]
  | change u v changes => cases changes <;> simp [step, store_eq, Crashes]
  | close u => simp [step, Crashes]
  | definition u line ch =>
    simp only [step, Crashes]
    cases d.get u.name with
    | none => simp
    | some doc =>
      simp only
      cases definition e.mode doc.content (e.idents doc.content) line ch <;> simp

theorem step_spec (e : Env) (d : Docs) (past : List Op) (op : Op) (ha : Agrees d past)
    (hc : ¬ Crashes e op) :
    ∃ d', step e d op = some (d', specOut e past op) ∧ Agrees d' (op :: past) := by
  -- open and change: the new document is the latest one of its name
  have stored : ∀ (u : Uri) (v : Int) (text : Bytes), typecheck e.mode text (e.problems text) ≠ none →
      ∃ d', store e d u v text =
        some (d', [.publish u (toU32 v) ((typecheck e.mode text (e.problems text)).getD [])]) ∧
        ∀ n, d'.get n = if u.name = n then some ⟨text, toU32 v⟩ else latest n past := by
    intro u v text ht
    refine ⟨d.set u.name ⟨text, toU32 v⟩, ?_, fun n => ?_⟩
    · rw [store_eq]
      cases htc : typecheck e.mode text (e.problems text) with
      | none => exact absurd htc ht
      | some rs => rfl
    · rw [Docs.get_set, ha n]
  cases op with
  | openDoc u v text => exact stored u v text hc
  | change u v changes =>
    cases changes with
    | nil =>
      have : e.mode.emptyIgnored = true := by simpa [Crashes] using hc
      exact ⟨d, by simp [step, this, specOut], fun n => ha n⟩
    | cons text rest => exact stored u v text hc
  | close u =>
    refine ⟨d.erase u.name, rfl, fun n => ?_⟩
    rw [Docs.get_erase, ha n]
    rfl
  | definition u line ch =>
    refine ⟨d, ?_, fun n => ha n⟩
    simp only [step, specOut, ha u.name]
    cases latest u.name past with
    | none => rfl
    | some doc =>
      simp only
      cases definition e.mode doc.content (e.idents doc.content) line ch <;> rfl

theorem run_spec (e : Env) (ops : List Op) : ∀ (d : Docs) (past : List Op), Agrees d past →
    (∀ op ∈ ops, ¬ Crashes e op) → run e d ops = (specRun e past ops, true) := by
  induction ops with
  | nil => intro d past _ _; rfl
  | cons op ops ih =>
    intro d past ha hc
    obtain ⟨d', hs, ha'⟩ := step_spec e d past op ha (hc op (by simp))
    simp only [run, hs, specRun]
    rw [ih d' (op :: past) ha' (fun o ho => hc o (by simp [ho]))]

theorem run_alive_iff (e : Env) (ops : List Op) : ∀ (d : Docs),
    (run e d ops).2 = true ↔ ∀ op ∈ ops, ¬ Crashes e op := by
  induction ops with
  | nil => intro d; simp [run]
  | cons op ops ih =>
    intro d
    rw [List.forall_mem_cons, ← step_eq_none_iff e d op]
    cases hs : step e d op with
    | none => simp [run, hs]
    | some p => simp [run, hs, ih p.1]

end TmVerif.LS
