import TmVerif.Proofs.SetClosureSlow
/-!
`Compute`: the callback is invoked once per strongly connected component, successors first. Each
invocation only writes the sets of its own component, so what was established for a component
(`CompGood`) still holds at the end.
-/
namespace TmVerif.SetClosure
open TmVerif.IntSet TmVerif.Graph

theorem any_inter_iff (sys : Sys) (comp : List Nat) :
    comp.any (fun q => opOf sys q == .inter) = true ↔ ∃ q ∈ comp, opOf sys q = .inter := by
  simp

theorem cb_ok {sys : Sys} {comp snap : List Nat} {s : St} (c : CompCtx sys comp snap s) :
    StepOk sys comp snap s (closureCb sys s (comp, snap)) ∧
    ((closureCb sys s (comp, snap)).err = [] → (closureCb sys s (comp, snap)).timeout = false →
      CompGood sys comp (closureCb sys s (comp, snap))) := by
  unfold closureCb
  split
  · rename_i h
    have hq := (any_inter_iff sys comp).1 h
    exact slow_ok fun b hb => slow_loop c hb hq _ s (slowInv_init c b hb)
  · rename_i h
    exact ⟨simple_stepOk c, fun herr _ =>
      simple_good c (fun q hq hqi => h ((any_inter_iff sys comp).2 ⟨q, hq, hqi⟩)) herr⟩

theorem CompGood.congr {sys : Sys} {comp : List Nat} {s t : St} (h : CompGood sys comp s)
    (h1 : ∀ v ∈ comp, t.get v = s.get v) (h2 : ∀ v ∈ comp, ∀ w ∈ edgesOf sys v, t.get w = s.get w) :
    CompGood sys comp t := by
  have ha : ∀ v ∈ comp, ∀ x, t.asg v x ↔ s.asg v x := fun v hv => St.asg_congr (h1 v hv)
  have hb : ∀ v ∈ comp, ∀ w ∈ edgesOf sys v, ∀ x, t.asg w x ↔ s.asg w x :=
    fun v hv w hw => St.asg_congr (h2 v hv w hw)
  refine ⟨fun v hv => (eqAt_congr (ha v hv) (hb v hv)).2 (h.1 v hv), ?_⟩
  intro b hbe hbo v hv x hx
  apply h.2 b hbe ?_ v hv x ((ha v hv x).1 hx)
  intro u hu w hw hwc
  obtain ⟨p1, p2⟩ := hbo u hu w hw hwc
  exact ⟨fun x hx => p1 x ((hb u hu w hw x).2 hx), fun hop x hx => (hb u hu w hw x).1 (p2 hop x hx)⟩

/-- the component sequence: pairwise, an earlier component neither meets a later one nor has an edge
into it; every entry is a strongly connected component with an exact `onStack` snapshot -/
structure Listing (sys : Sys) (cs : List (List Nat × List Nat)) : Prop where
  pw : cs.Pairwise (fun c c' => ∀ v ∈ c.1, v ∉ c'.1 ∧ ∀ w ∈ edgesOf sys v, w ∉ c'.1)
  scc : ∀ c ∈ cs, ∀ u ∈ c.1, ∀ w, w ∈ c.1 ↔ SC (graphOf sys) u w
  lt : ∀ c ∈ cs, ∀ v ∈ c.1, v < sys.length
  snap : ∀ c ∈ cs, SnapOk (graphOf sys) c

theorem Listing.tail {sys : Sys} {c : List Nat × List Nat} {cs : List (List Nat × List Nat)}
    (h : Listing sys (c :: cs)) : Listing sys cs :=
  ⟨(List.pairwise_cons.1 h.pw).2, fun c' hc' => h.scc c' (List.mem_cons_of_mem _ hc'),
    fun c' hc' => h.lt c' (List.mem_cons_of_mem _ hc'), fun c' hc' => h.snap c' (List.mem_cons_of_mem _ hc')⟩

/-- In a listed component an offence is a complement node on a cycle: its edge ends on the stack exactly
when it ends in the component, that is when its end leads back. -/
theorem offends_iff {sys : Sys} {cs : List (List Nat × List Nat)} (hL : Listing sys cs)
    {c : List Nat × List Nat} (hc : c ∈ cs) {v : Nat} (hv : v ∈ c.1) :
    Offends sys c.2 v ↔ opOf sys v = .compl ∧ Relation.TransGen (Edge (graphOf sys)) v v := by
  refine and_congr_right fun _ => ?_
  rw [transGen_head_iff]
  refine exists_congr fun w => and_congr_right fun hw => ?_
  rw [hL.snap c hc v hv w hw, hL.scc c hc v hv w]
  exact ⟨fun h => h.2, fun h => ⟨Reach.edge hw, h⟩⟩

structure RunOk (sys : Sys) (cs : List (List Nat × List Nat)) (s t : St) : Prop where
  len : t.sets.length = sys.length
  sorted : ∀ v, Sorted (t.get v).set
  frame : ∀ u, (∀ c ∈ cs, u ∉ c.1) → t.get u = s.get u
  err : ∃ extra, t.err = s.err ++ extra ∧ ∀ e ∈ extra, ∃ c ∈ cs, e ∈ c.1 ∧ Offends sys c.2 e
  offend : (∃ c ∈ cs, ∃ v ∈ c.1, Offends sys c.2 v) → t.err ≠ []
  tmo : s.timeout = true → t.timeout = true
  good : t.err = [] → t.timeout = false → ∀ c ∈ cs, CompGood sys c.1 t
  bounded : Bounded sys s → Bounded sys t
  tmoF : Bounded sys s → s.timeout = false → t.timeout = false

theorem RunOk.cons {sys : Sys} {c : List Nat × List Nat} {cs : List (List Nat × List Nat)} {s m t : St}
    (S : StepOk sys c.1 c.2 s m) (R : RunOk sys cs m t)
    (hpw : ∀ c' ∈ cs, ∀ v ∈ c.1, v ∉ c'.1 ∧ ∀ w ∈ edgesOf sys v, w ∉ c'.1)
    (hg : m.err = [] → m.timeout = false → CompGood sys c.1 m) : RunOk sys (c :: cs) s t := by
  obtain ⟨ex1, e1, e2⟩ := S.err
  obtain ⟨ex2, e3, e4⟩ := R.err
  have hnil : t.err = [] → m.err = [] := fun h => (List.append_eq_nil_iff.1 (e3 ▸ h)).1
  refine {
    len := R.len
    sorted := R.sorted
    frame := fun u hu => ?frame
    err := ⟨ex1 ++ ex2, by rw [e3, e1, List.append_assoc], fun e he => ?errs⟩
    offend := ?offend
    tmo := fun h => R.tmo (S.tmo h)
    good := fun herr htmo => List.forall_mem_cons.2 ⟨?good, R.good herr htmo⟩
    bounded := fun hB => R.bounded (S.bounded hB)
    tmoF := fun hB h => R.tmoF (S.bounded hB) (S.tmoF hB h) }
  case frame =>
    rw [R.frame u fun c' hc' => hu c' (List.mem_cons_of_mem _ hc')]
    exact S.frame u (hu c List.mem_cons_self)
  case errs =>
    rcases List.mem_append.1 he with he | he
    · exact ⟨c, List.mem_cons_self, e2 e he⟩
    · obtain ⟨c', hc', h⟩ := e4 e he
      exact ⟨c', List.mem_cons_of_mem _ hc', h⟩
  case offend =>
    rintro ⟨c', hc', v, hv, ho⟩
    rcases List.mem_cons.1 hc' with rfl | hc'
    · exact mt hnil (S.offend ⟨v, hv, ho⟩)
    · exact R.offend ⟨c', hc', v, hv, ho⟩
  case good =>
    -- the later invocations write neither the component nor its successors
    exact (hg (hnil herr) (Bool.eq_false_iff.2 (mt R.tmo (Bool.eq_false_iff.1 htmo)))).congr
      (fun v hv => R.frame v fun c' hc' => (hpw c' hc' v hv).1)
      (fun v hv w hw => R.frame w fun c' hc' => (hpw c' hc' v hv).2 w hw)

theorem run_spec {sys : Sys} (hwf : Wf sys) :
    ∀ (cs : List (List Nat × List Nat)) (s : St), Listing sys cs → s.sets.length = sys.length →
      (∀ v, Sorted (s.get v).set) → (∀ c ∈ cs, ∀ v ∈ c.1, s.get v = ⟨false, initOf sys v⟩) →
      RunOk sys cs s (cs.foldl (closureCb sys) s) := by
  intro cs
  induction cs with
  | nil =>
    intro s _ hlen hs _
    exact {
      len := hlen
      sorted := hs
      frame := fun _ _ => rfl
      err := ⟨[], by simp, by simp⟩
      offend := by simp
      tmo := fun h => h
      good := by simp
      bounded := fun h => h
      tmoF := fun _ h => h }
  | cons c cs ih =>
    intro s hL hlen hs hfresh
    have ctx : CompCtx sys c.1 c.2 s :=
      ⟨hwf, hlen, hs, hfresh c List.mem_cons_self, hL.lt c List.mem_cons_self,
        hL.scc c List.mem_cons_self, hL.snap c List.mem_cons_self⟩
    obtain ⟨S, hg⟩ := cb_ok ctx
    have hpw := (List.pairwise_cons.1 hL.pw).1
    have R := ih (closureCb sys s c) hL.tail S.len S.sorted fun c' hc' v hv => by
      rw [S.frame v fun h => (hpw c' hc' v h).1 hv]
      exact hfresh c' (List.mem_cons_of_mem _ hc') v hv
    exact RunOk.cons S R hpw hg

theorem initSt_get (sys : Sys) (v : Nat) : (initSt sys).get v = ⟨false, initOf sys v⟩ := by
  unfold initSt St.get initOf
  simp only [List.getElem?_map]
  cases sys[v]? <;> rfl

theorem listing_tarjan {sys : Sys} (hwf : Wf sys) (h2 : 2 ≤ sys.length) :
    Listing sys (tarjanRun (graphOf sys)) ∧
    ∀ v, v < sys.length → ∃ c ∈ tarjanRun (graphOf sys), v ∈ c.1 := by
  have hg := hwf.graph
  have hlen := graphOf_length sys
  have hord := tarjan_correct hg (by rw [hlen]; exact h2)
  rw [← tarjanRun_comps] at hord
  have hsnap : ∀ e ∈ tarjanRun (graphOf sys), SnapOk (graphOf sys) e := tarjanRun_snap hg
  generalize tarjanRun (graphOf sys) = cs at hord hsnap
  refine ⟨⟨?_, ?_, ?_, ?_⟩, ?_⟩
  · -- what `v` reaches (itself, a successor) lies in no later component
    exact hord.pairwise.of_map _ fun _ _ h v hv =>
      ⟨fun hv' => h v hv v hv' (Reach.refl _ _), fun w hw hw' => h v hv w hw' (Reach.edge hw)⟩
  · intro c hc
    exact hord.scc c.1 (List.mem_map.2 ⟨c, hc, rfl⟩)
  · intro c hc v hv
    have := (hord.cover v).1 (List.mem_flatten.2 ⟨c.1, List.mem_map.2 ⟨c, hc, rfl⟩, hv⟩)
    rw [hlen] at this; exact this
  · exact hsnap
  · intro v hv
    have := (hord.cover v).2 (by rw [hlen]; exact hv)
    obtain ⟨l, hl, hvl⟩ := List.mem_flatten.1 this
    obtain ⟨c, hc, rfl⟩ := List.mem_map.1 hl
    exact ⟨c, hc, hvl⟩

/-- **Least among the solutions that are not larger below a complement.** Along the listing: a successor
outside the component lies in an earlier one, where the claim holds already. -/
theorem least_strat {sys : Sys} (hwf : Wf sys) {cs : List (List Nat × List Nat)} {t : St} (hL : Listing sys cs)
    (hcov : ∀ v, v < sys.length → ∃ c ∈ cs, v ∈ c.1) (hgood : ∀ c ∈ cs, CompGood sys c.1 t)
    (b : Asg) (hb : Sol sys b)
    (hc : ∀ u w, opOf sys u = .compl → w ∈ edgesOf sys u → ∀ x, b w x → t.asg w x) :
    ∀ v, v < sys.length → ∀ x, t.asg v x → b v x := by
  -- along a tail of the listing: a successor outside the components of the tail is settled already
  have key : ∀ cs : List (List Nat × List Nat), Listing sys cs → (∀ c ∈ cs, CompGood sys c.1 t) →
      (∀ c ∈ cs, ∀ u ∈ c.1, ∀ w ∈ edgesOf sys u, (∀ c' ∈ cs, w ∉ c'.1) → ∀ x, t.asg w x → b w x) →
      ∀ c ∈ cs, ∀ v ∈ c.1, ∀ x, t.asg v x → b v x := by
    intro cs
    induction cs with
    | nil => nofun
    | cons c rest ih =>
      intro hL hgood hout
      have hpw := (List.pairwise_cons.1 hL.pw).1
      have hc0 : ∀ v ∈ c.1, ∀ x, t.asg v x → b v x :=
        (hgood c List.mem_cons_self).2 b (fun u hu => hb u (hL.lt c List.mem_cons_self u hu))
          fun u hu w hw hwc => ⟨hout c List.mem_cons_self u hu w hw
            (List.forall_mem_cons.2 ⟨hwc, fun c' hc' => (hpw c' hc' u hu).2 w hw⟩), fun hop => hc u w hop hw⟩
      refine List.forall_mem_cons.2 ⟨hc0,
        ih hL.tail (fun c' h => hgood c' (List.mem_cons_of_mem _ h)) fun c' hc' u hu w hw hn => ?_⟩
      by_cases hwc : w ∈ c.1
      · exact hc0 w hwc
      · exact hout c' (List.mem_cons_of_mem _ hc') u hu w hw (List.forall_mem_cons.2 ⟨hwc, hn⟩)
  intro v hv x hx
  obtain ⟨c, hc, hvc⟩ := hcov v hv
  refine key cs hL hgood (fun c _ u _ w hw hn => ?_) c hc v hvc x hx
  obtain ⟨c', hc', h⟩ := hcov w (hwf.edges u w hw)
  exact absurd h (hn c' hc')

theorem compute_small {sys : Sys} (h : sys.length < 2) : compute sys = initSt sys := by
  unfold compute
  rw [tarjanRun_small (graphOf_length sys ▸ h)]
  rfl

theorem compute_small_asg {sys : Sys} (h : sys.length < 2) (u : Nat) (x : Int) :
    (compute sys).asg u x ↔ x ∈ initOf sys u := by
  rw [compute_small h]; unfold St.asg; rw [initSt_get, mem_fresh]

/-- below two nodes nothing is computed: the set of a union node is its own elements, which every `b` that
satisfies the node's equation contains -/
theorem compute_small_le {sys : Sys} (h : sys.length < 2) {b : Asg} {v : Nat} (hop : opOf sys v = .union)
    (hb : EqAt sys b v) (x : Int) (hx : (compute sys).asg v x) : b v x :=
  ((eqAt_union hop).1 hb x).2 (.inl ((compute_small_asg h v x).1 hx))

theorem compute_runOk {sys : Sys} (hwf : Wf sys) (h2 : 2 ≤ sys.length) :
    RunOk sys (tarjanRun (graphOf sys)) (initSt sys) (compute sys) := by
  have hL := (listing_tarjan hwf h2).1
  apply run_spec hwf _ _ hL (by simp [initSt])
  · intro v; rw [initSt_get]; exact hwf.sorted v
  · intro c _ v _; exact initSt_get sys v

theorem initSt_bounded (sys : Sys) : Bounded sys (initSt sys) := by
  intro v e he
  rw [initSt_get] at he
  exact initOf_sub sys v e he

end TmVerif.SetClosure
