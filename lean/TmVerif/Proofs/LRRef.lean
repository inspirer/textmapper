/-
The computed `nullable` / `firstSets` of `Model/LRRef.lean` against the inductive `Nullable` / `First`
of `Model/LRJust.lean`: sound unconditionally (invariants of the folds), complete when `nfClosed`
and `g.wf`.
-/
import TmVerif.Model.LRJust
import TmVerif.Proofs.Basic
import TmVerif.Proofs.CFG
namespace TmVerif.LRRef
open TmVerif.CFG

theorem subMask_msub {a b : Nat} (h : subMask a b = true) :
    ∀ i, a.testBit i = true → b.testBit i = true := by
  intro i hi
  rw [← beq_iff_eq.mp h, Nat.testBit_and, Bool.and_eq_true] at hi
  exact hi.2

theorem testBit_one_shl_iff (s i : Nat) : (1 <<< s).testBit i = true ↔ s = i := by
  rw [Nat.one_shiftLeft, Nat.testBit_two_pow]
  simp

theorem allTerms_testBit (g : Grammar) (a : Nat) :
    (allTerms g).testBit a = true ↔ a < g.nTerms := by
  unfold allTerms
  rw [Nat.one_shiftLeft, Nat.testBit_two_pow_sub_one]
  simp

theorem testBit_lt_of_lt_two_pow {m n a : Nat} (h : m < 2 ^ n) (ha : m.testBit a = true) : a < n :=
  (Nat.pow_lt_pow_iff_right (by decide)).mp (Nat.lt_of_le_of_lt (Nat.ge_two_pow_of_testBit ha) h)

theorem mem_rulesOf {g : Grammar} {x r : Nat} :
    r ∈ rulesOf g x ↔ ∃ rule, g.rules[r]? = some rule ∧ rule.lhs = x := by
  unfold rulesOf
  simp only [List.mem_filter, List.mem_range, beq_iff_eq, Option.map_eq_some_iff]
  exact ⟨And.right, fun ⟨rule, h1, h2⟩ => ⟨(Array.getElem?_eq_some_iff.mp h1).1, rule, h1, h2⟩⟩

def NlSound (g : Grammar) (nl : List Nat) : Prop := ∀ x, nl.contains x = true → Nullable g x

theorem nullableRound_sound (g : Grammar) (n : List Nat) (h : NlSound g n) :
    NlSound g (nullableRound g n) := by
  unfold nullableRound
  rw [← Array.foldl_toList]
  refine List.foldlRecOn (motive := NlSound g) _ _ h ?_
  · intro acc hacc r hr
    split
    · exact hacc
    · split
      · rename_i h2
        intro x hx
        rw [List.contains_cons, Bool.or_eq_true, beq_iff_eq] at hx
        rcases hx with rfl | hx
        · exact Nullable.rule r hr fun s hs => hacc s (List.all_eq_true.mp h2 s hs)
        · exact hacc x hx
      · exact hacc

theorem nullableFuel_sound (g : Grammar) (k : Nat) (n : List Nat) (h : NlSound g n) :
    NlSound g (nullableFuel g k n) := by
  induction k generalizing n with
  | zero => exact h
  | succ k ih =>
    rw [nullableFuel]
    split
    · exact h
    · exact ih _ (nullableRound_sound g n h)

theorem nullable_sound (g : Grammar) : NlSound g (nullable g) := by
  unfold nullable
  apply nullableFuel_sound
  intro x hx
  simp at hx

theorem seqNullable_iff {nl α : List Nat} :
    seqNullable nl α = true ↔ ∀ s ∈ α, nl.contains s = true :=
  List.all_eq_true

theorem closureContribution_bit {g : Grammar} {nl : List Nat} {first : Array Nat} {it : Item} {m a : Nat} :
    (closureContribution g nl first it m).testBit a = true ↔
      (firstOfSeq g nl first ((rhsOf g it.1).drop (it.2 + 1))).testBit a = true ∨
      seqNullable nl ((rhsOf g it.1).drop (it.2 + 1)) = true ∧ m.testBit a = true := by
  rw [closureContribution, Nat.testBit_or, Bool.or_eq_true]
  refine or_congr_right ?_
  split
  · rename_i h; exact (and_iff_right h).symm
  · rename_i h; rw [Nat.zero_testBit]; exact ⟨nofun, fun h' => absurd h'.1 h⟩

theorem seqNullable_sound {g : Grammar} {nl : List Nat} (h : NlSound g nl) {α : List Nat}
    (hα : seqNullable nl α = true) : NullableSeq g α :=
  fun s hs => h s (seqNullable_iff.mp hα s hs)

theorem First.weaken {g : Grammar} {X a : Nat} (h : First g [X] a) (α : List Nat) :
    First g (X :: α) a := by
  cases h with
  | term _ _ ha => exact First.term _ α ha
  | rule r _ _ hr hf => exact First.rule r α a hr hf
  | skip _ _ _ _ hf => cases hf

theorem derives_nullable_first {g : Grammar} :
    (∀ {X u}, Derives g X u → (u = [] → Nullable g X) ∧ ∀ b u', u = b :: u' → First g [X] b) ∧
    ∀ {α u}, DerivesSeq g α u → (u = [] → NullableSeq g α) ∧ ∀ b u', u = b :: u' → First g α b :=
  Derives.ind
    (term := fun a ha => ⟨nofun, fun b u' h => by cases h; exact First.term a [] ha⟩)
    (rule := fun r _ hm _ ih =>
      ⟨fun h => Nullable.rule r hm (ih.1 h), fun b u' h => First.rule r [] b hm (ih.2 b u' h)⟩)
    (nil := ⟨fun _ _ hs => (nomatch hs), nofun⟩)
    (cons := fun X α u v _ _ ihX ihα => by
      cases u with
      | nil =>
        exact ⟨fun h => List.forall_mem_cons.2 ⟨ihX.1 rfl, ihα.1 h⟩,
          fun b u' h => First.skip X α b (ihX.1 rfl) (ihα.2 b u' h)⟩
      | cons b' u'' => exact ⟨nofun, fun b u' h => by cases h; exact (ihX.2 _ _ rfl).weaken α⟩)

def FsSound (g : Grammar) (first : Array Nat) : Prop :=
  ∀ X a, (first.getD X 0).testBit a = true → First g [X] a

theorem firstOfSeq_cons_bit (g : Grammar) (nl : List Nat) (first : Array Nat) (s : Nat)
    (rest : List Nat) (a : Nat) :
    (firstOfSeq g nl first (s :: rest)).testBit a = true ↔
      (if s < g.nTerms then s = a else (first.getD s 0).testBit a = true) ∨
      (g.nTerms ≤ s ∧ nl.contains s = true) ∧ (firstOfSeq g nl first rest).testBit a = true := by
  have hhead : (if s < g.nTerms then 1 <<< s else first.getD s 0).testBit a = true ↔
      (if s < g.nTerms then s = a else (first.getD s 0).testBit a = true) := by
    split
    · exact testBit_one_shl_iff s a
    · exact Iff.rfl
  rw [firstOfSeq]
  by_cases hc : g.nTerms ≤ s ∧ nl.contains s = true
  · rw [if_pos (by simpa using hc), Nat.testBit_or, Bool.or_eq_true, hhead]
    exact or_congr_right (iff_and_self.mpr fun _ => hc)
  · rw [if_neg (by simpa using hc), hhead]
    exact (or_iff_left fun h => hc h.1).symm

theorem firstOfSeq_sound {g : Grammar} {nl : List Nat} {first : Array Nat}
    (hn : NlSound g nl) (hf : FsSound g first) :
    ∀ (β : List Nat) (a : Nat), (firstOfSeq g nl first β).testBit a = true → First g β a
  | [], a, h => by simp [firstOfSeq] at h
  | s :: rest, a, h => by
    rcases (firstOfSeq_cons_bit g nl first s rest a).mp h with h1 | ⟨hc, h1⟩
    · split at h1
      · rename_i hs
        subst h1
        exact First.term _ _ hs
      · exact First.weaken (hf s a h1) rest
    · exact First.skip s rest a (hn s hc.2) (firstOfSeq_sound hn hf rest a h1)

theorem firstRound_sound (g : Grammar) (nl : List Nat) (first : Array Nat)
    (hn : NlSound g nl) (hf : FsSound g first) : FsSound g (firstRound g nl first) := by
  unfold firstRound
  rw [← Array.foldl_toList]
  refine List.foldlRecOn (motive := FsSound g) _ _ hf ?_
  · intro acc hacc r hr X a hb
    rw [getD_modify] at hb
    split at hb
    · rename_i hc
      rw [Nat.testBit_or, Bool.or_eq_true] at hb
      rcases hb with h1 | h1
      · exact hacc X a h1
      · have := firstOfSeq_sound hn hacc r.rhs a h1
        rw [← hc.1]
        exact First.rule r [] a hr this
    · exact hacc X a hb

theorem firstFuel_sound (g : Grammar) (nl : List Nat) (hn : NlSound g nl) (k : Nat)
    (first : Array Nat) (hf : FsSound g first) : FsSound g (firstFuel g nl k first) := by
  induction k generalizing first with
  | zero => exact hf
  | succ k ih =>
    rw [firstFuel]
    split
    · exact hf
    · exact ih _ (firstRound_sound g nl first hn hf)

theorem firstSets_sound (g : Grammar) : FsSound g (firstSets g (nullable g)) := by
  unfold firstSets
  apply firstFuel_sound g _ (nullable_sound g)
  intro X a hb
  rw [getD_replicate] at hb
  simp at hb

structure NfClosed (g : Grammar) (nl : List Nat) (first : Array Nat) : Prop where
  nullC : ∀ r ∈ g.rules.toList, seqNullable nl r.rhs = true → nl.contains r.lhs = true
  firstC : ∀ r ∈ g.rules.toList, ∀ a, (firstOfSeq g nl first r.rhs).testBit a = true →
    (first.getD r.lhs 0).testBit a = true
  lhsNT : ∀ r ∈ g.rules.toList, g.nTerms ≤ r.lhs

theorem nfClosed_elim {g : Grammar} (hwf : g.wf = true) (h : nfClosed g = true) :
    NfClosed g (nullable g) (firstSets g (nullable g)) := by
  unfold nfClosed at h
  simp only [List.all_eq_true, Bool.and_eq_true, Bool.or_eq_true, Bool.not_eq_true'] at h
  refine ⟨?_, ?_, ?_⟩
  · intro r hr hs
    rcases (h r hr).1 with h1 | h1
    · rw [hs] at h1; cases h1
    · exact h1
  · intro r hr
    exact subMask_msub (h r hr).2
  · intro r hr
    unfold Grammar.wf at hwf
    simp only [Bool.and_eq_true, Array.all_eq_true_iff_forall_mem, decide_eq_true_eq] at hwf
    exact (hwf.1.2 r (Array.mem_def.mpr hr)).1.1

section complete
variable {g : Grammar} {nl : List Nat} {first : Array Nat} (hc : NfClosed g nl first)
include hc

theorem nullable_complete {X : Nat} (h : Nullable g X) : nl.contains X = true := by
  induction h with
  | rule r hr _ ih => exact hc.nullC r hr (seqNullable_iff.mpr ih)

theorem nullable_nt {X : Nat} (h : Nullable g X) : g.nTerms ≤ X := by
  cases h with
  | rule r hr _ => exact hc.lhsNT r hr

theorem seqNullable_complete {α : List Nat} (h : NullableSeq g α) : seqNullable nl α = true :=
  seqNullable_iff.mpr fun s hs => nullable_complete hc (h s hs)

theorem first_complete {α : List Nat} {a : Nat} (h : First g α a) :
    (firstOfSeq g nl first α).testBit a = true := by
  induction h with
  | term a α ha => exact (firstOfSeq_cons_bit ..).mpr (.inl (by rw [if_pos ha]))
  | rule r α a hr _ ih =>
    refine (firstOfSeq_cons_bit ..).mpr (.inl ?_)
    rw [if_neg (Nat.not_lt.mpr (hc.lhsNT r hr))]
    exact hc.firstC r hr a ih
  | skip X α a hn _ ih =>
    exact (firstOfSeq_cons_bit ..).mpr (.inr ⟨⟨nullable_nt hc hn, nullable_complete hc hn⟩, ih⟩)

end complete

end TmVerif.LRRef
