import TmVerif.Model.Charset
/-!
The range-list algebra of `Model/Charset.lean` (C10): what set each operation denotes and that it keeps the
representation invariant `Normalized`. For the operations on normalized lists (`invert`, `subtract`, `intersect`)
the two are one statement, `NF R S`: the result `R` is the normal form of the set `S`. Each loop emits an optional
range `if c then [(a, b)] else []` in front of its recursive result; `NF.optional` and `NF.append` say what that
denotes, and the gap `Normalized` needs between the two parts is asked of the sets, not of the lists (the end
points of a valid list's ranges are members of it), so no bound on the ranges is carried through the inductions.
The case distinctions of `compact`, `subtractOne` and `intersect` are walked with the function's own induction
principle: `split` on a goal that mentions the operation several times is slow.
-/
namespace TmVerif.Charset

theorem memB_iff (r : Int) (c : Charset) : memB r c = true ↔ Mem r c := by
  simp only [memB, Mem, List.any_eq_true, Bool.and_eq_true, decide_eq_true_eq]

theorem mem_nil (r : Int) : ¬ Mem r [] := fun ⟨_, h, _⟩ => nomatch h

theorem mem_cons (r a b : Int) (c : Charset) : Mem r ((a, b) :: c) ↔ (a ≤ r ∧ r ≤ b) ∨ Mem r c := by
  simp only [Mem, List.mem_cons, or_and_right, exists_or, exists_eq_left]

theorem mem_append (r : Int) (a b : Charset) : Mem r (a ++ b) ↔ Mem r a ∨ Mem r b := by
  simp only [Mem, List.mem_append, or_and_right, exists_or]

theorem mem_flatMap {α : Type} (x : Int) (l : List α) (g : α → Charset) :
    Mem x (l.flatMap g) ↔ ∃ a ∈ l, Mem x (g a) := by
  simp only [Mem, List.mem_flatMap]
  exact ⟨fun ⟨p, ⟨a, ha, hp⟩, h⟩ => ⟨a, ha, p, hp, h⟩, fun ⟨a, ha, p, hp, h⟩ => ⟨p, ⟨a, ha, hp⟩, h⟩⟩

theorem mem_points (x : Int) (l : List Int) : Mem x (l.map fun f => (f, f)) ↔ x ∈ l := by
  simp only [Mem, List.mem_map]
  exact ⟨fun ⟨_, ⟨f, hf, rfl⟩, h1, h2⟩ => Int.le_antisymm h2 h1 ▸ hf, fun h => ⟨_, ⟨x, h, rfl⟩, Int.le_refl _, Int.le_refl _⟩⟩

theorem normalizedB_iff (c : Charset) : normalizedB c = true ↔ Normalized c := by
  induction c with
  | nil => simp [normalizedB, Normalized]
  | cons p c ih =>
    obtain ⟨lo, hi⟩ := p
    cases c with
    | nil => simp [normalizedB, Normalized]
    | cons q c =>
      obtain ⟨lo2, hi2⟩ := q
      simp [normalizedB, Normalized, ih, and_assoc]

instance (c : Charset) : Decidable (Normalized c) := decidable_of_iff _ (normalizedB_iff c)

theorem withinB_iff (lo hi : Int) (c : Charset) : withinB lo hi c = true ↔ Within lo hi c := by
  simp only [withinB, Within, List.all_eq_true, Bool.and_eq_true, decide_eq_true_eq]

theorem Normalized.tail {p : Range} {c : Charset} (h : Normalized (p :: c)) : Normalized c := by
  obtain ⟨lo, hi⟩ := p
  cases c with
  | nil => trivial
  | cons q c => obtain ⟨lo2, hi2⟩ := q; exact h.2.2

section
variable {lo hi : Int} {c : Charset}

theorem Normalized.head (h : Normalized ((lo, hi) :: c)) : lo ≤ hi := by
  cases c with
  | nil => exact h
  | cons q c => obtain ⟨lo2, hi2⟩ := q; exact h.1

theorem Normalized.gap (h : Normalized ((lo, hi) :: c)) :
    ∀ p ∈ c, hi + 1 < p.1 := by
  induction c generalizing lo hi with
  | nil => intro p hp; cases hp
  | cons q c ih =>
    obtain ⟨lo2, hi2⟩ := q
    intro p hp
    have h2 : Normalized ((lo2, hi2) :: c) := h.2.2
    cases hp with
    | head => exact h.2.1
    | tail _ hp =>
      have := ih h2 p hp
      have := h2.head
      have := h.2.1
      omega

theorem Normalized.cons (hc : Normalized c) (hv : lo ≤ hi)
    (hg : ∀ p ∈ c, hi + 1 < p.1) : Normalized ((lo, hi) :: c) := by
  cases c with
  | nil => exact hv
  | cons q c => obtain ⟨lo2, hi2⟩ := q; exact ⟨hv, hg _ List.mem_cons_self, hc⟩

theorem Normalized.valid {c : Charset} (h : Normalized c) : Valid c := by
  induction c with
  | nil => intro p hp; cases hp
  | cons q c ih =>
    obtain ⟨lo, hi⟩ := q
    intro p hp
    cases hp with
    | head => exact h.head
    | tail _ hp => exact ih h.tail p hp

theorem Normalized.mem_tail_gt (h : Normalized ((lo, hi) :: c)) {r : Int}
    (hr : Mem r c) : hi + 1 < r := by
  obtain ⟨p, hp, h1, _⟩ := hr
  have := h.gap p hp
  omega

theorem Normalized.le_of_mem {x : Int} (h : Normalized ((lo, hi) :: c))
    (hx : Mem x ((lo, hi) :: c)) : lo ≤ x := by
  rcases (mem_cons ..).1 hx with hx | hx
  · exact hx.1
  · have := h.mem_tail_gt hx; have := h.head; omega

theorem Normalized.mem_head (h : Normalized ((lo, hi) :: c)) : Mem lo ((lo, hi) :: c) :=
  (mem_cons ..).2 (Or.inl ⟨Int.le_refl _, h.head⟩)

theorem Normalized.mem_tail_iff (h : Normalized ((lo, hi) :: c)) (r : Int) :
    Mem r c ↔ hi < r ∧ Mem r ((lo, hi) :: c) := by
  rw [mem_cons]
  exact ⟨fun m => ⟨by have := h.mem_tail_gt m; omega, Or.inr m⟩, fun ⟨g, m⟩ => m.resolve_left (by omega)⟩

theorem Normalized.le_hi {hi2 : Int} {b : Charset} (hb : Normalized ((lo, hi2) :: b))
    (h : ∀ r, lo ≤ r → r ≤ hi → Mem r ((lo, hi2) :: b)) : hi ≤ hi2 :=
  Int.not_lt.1 fun hlt => by
    -- `hi2 + 1` would be in the set, yet neither in its first range nor beyond the gap
    have := hb.head
    rcases (mem_cons ..).1 (h (hi2 + 1) (by omega) (by omega)) with m | m
    · omega
    · have := hb.mem_tail_gt m; omega

end

theorem normalized_append (a b : Charset) (ha : Normalized a) (hb : Normalized b)
    (h : ∀ p ∈ a, ∀ q ∈ b, p.2 + 1 < q.1) : Normalized (a ++ b) := by
  induction a with
  | nil => simpa using hb
  | cons p a ih =>
    obtain ⟨lo, hi⟩ := p
    have := ih ha.tail (fun p hp q hq => h p (List.mem_cons_of_mem _ hp) q hq)
    rw [List.cons_append]
    apply Normalized.cons this ha.head
    intro q hq
    rw [List.mem_append] at hq
    rcases hq with hq | hq
    · exact ha.gap q hq
    · exact h (lo, hi) List.mem_cons_self q hq

theorem normalized_ext (a b : Charset) (ha : Normalized a) (hb : Normalized b)
    (h : ∀ r, Mem r a ↔ Mem r b) : a = b := by
  induction a generalizing b with
  | nil =>
    match b with
    | [] => rfl
    | (lo, hi) :: b => exact absurd ((h lo).2 hb.mem_head) (mem_nil _)
  | cons p a ih =>
    obtain ⟨lo, hi⟩ := p
    match b with
    | [] => exact absurd ((h lo).1 ha.mem_head) (mem_nil _)
    | (lo2, hi2) :: b =>
      -- the least element of the set is the first lower bound
      have hlo : lo = lo2 :=
        Int.le_antisymm (ha.le_of_mem ((h lo2).2 hb.mem_head)) (hb.le_of_mem ((h lo).1 ha.mem_head))
      subst hlo
      have hhi : hi = hi2 := Int.le_antisymm
        (hb.le_hi fun r h1 h2 => (h r).1 ((mem_cons ..).2 (Or.inl ⟨h1, h2⟩)))
        (ha.le_hi fun r h1 h2 => (h r).2 ((mem_cons ..).2 (Or.inl ⟨h1, h2⟩)))
      subst hhi
      rw [ih b ha.tail hb.tail fun r => by rw [ha.mem_tail_iff, hb.mem_tail_iff, h r]]

def LoSorted (c : Charset) : Prop := c.Pairwise fun a b => a.1 ≤ b.1

theorem rangeLe_trans (a b c : Range) : rangeLe a b = true → rangeLe b c = true → rangeLe a c = true := by
  simp [rangeLe]; omega

theorem rangeLe_total (a b : Range) : (rangeLe a b || rangeLe b a) = true := by
  simp [rangeLe]; omega

theorem loSorted_mergeSort (c : Charset) : LoSorted (c.mergeSort rangeLe) := by
  apply (List.pairwise_mergeSort rangeLe_trans rangeLe_total c).imp
  intro a b; simp [rangeLe]; omega

theorem compact_spec (lo hi : Int) (rest : Charset) (hs : LoSorted ((lo, hi) :: rest)) :
    (∀ r, Mem r (compact lo hi rest) ↔ (lo ≤ r ∧ r ≤ hi) ∨ Mem r rest) ∧
    (∀ p ∈ compact lo hi rest, lo ≤ p.1) ∧
    (lo ≤ hi → Valid rest → Normalized (compact lo hi rest)) := by
  fun_induction compact lo hi rest
  case case1 lo hi => exact ⟨fun r => by rw [mem_cons], by simp, fun hv _ => hv⟩
  case case2 lo hi l h rest hm ih =>
    -- `(l, h)` is merged into the range in hand
    obtain ⟨hlo, hs'⟩ := List.pairwise_cons.1 hs
    obtain ⟨i1, i2, i3⟩ := ih
      (List.pairwise_cons.2 ⟨fun p hp => hlo p (List.mem_cons_of_mem _ hp), (List.pairwise_cons.1 hs').2⟩)
    refine ⟨fun r => ?_, i2, fun hv hr => i3 (by split <;> omega) fun p hp => hr p (List.mem_cons_of_mem _ hp)⟩
    rw [i1, mem_cons, ← or_assoc]
    apply or_congr_left
    have hl : lo ≤ l := hlo (l, h) List.mem_cons_self
    split <;> omega
  case case3 lo hi l h rest hm ih =>
    obtain ⟨hlo, hs'⟩ := List.pairwise_cons.1 hs
    obtain ⟨i1, i2, i3⟩ := ih hs'
    refine ⟨fun r => by rw [mem_cons, i1, mem_cons], ?_, fun hv hr => ?_⟩
    · intro p hp
      rcases List.mem_cons.1 hp with rfl | hp
      · exact Int.le_refl _
      · exact Int.le_trans (hlo (l, h) List.mem_cons_self) (i2 p hp)
    · refine (i3 (hr _ List.mem_cons_self) fun p hp => hr p (List.mem_cons_of_mem _ hp)).cons hv ?_
      intro p hp; have := i2 p hp; omega

theorem mem_newCharset (c : Charset) (r : Int) : Mem r (newCharset c) ↔ Mem r c := by
  have hs := loSorted_mergeSort c
  have hm : Mem r c ↔ Mem r (c.mergeSort rangeLe) := by simp only [Mem, List.mem_mergeSort]
  rw [hm, newCharset]
  generalize c.mergeSort rangeLe = s at hs
  match s with
  | [] => exact Iff.rfl
  | (lo, hi) :: s => exact ((compact_spec lo hi s hs).1 r).trans (mem_cons r lo hi s).symm

theorem normalized_newCharset (c : Charset) (hv : Valid c) : Normalized (newCharset c) := by
  have hs := loSorted_mergeSort c
  have hv' : Valid (c.mergeSort rangeLe) := fun p hp => hv p (List.mem_mergeSort.1 hp)
  rw [newCharset]
  generalize c.mergeSort rangeLe = s at hs hv'
  match s with
  | [] => trivial
  | (lo, hi) :: s =>
    exact (compact_spec lo hi s hs).2.2 (hv' _ List.mem_cons_self) fun p hp => hv' p (List.mem_cons_of_mem _ hp)

theorem mem_appendRange (c : Charset) (lo hi x : Int) :
    Mem x (appendRange c lo hi) ↔ Mem x c ∨ (lo ≤ x ∧ x ≤ hi) := by
  rcases List.eq_nil_or_concat c with rfl | ⟨c, ⟨s, e⟩, rfl⟩
  · simp only [appendRange, List.getLast?_nil, mem_cons, mem_nil, or_false, false_or]
  · simp only [List.concat_eq_append, appendRange, List.getLast?_concat, List.dropLast_concat]
    split
    · simp only [mem_append, mem_cons, mem_nil, or_false, or_assoc]
      apply or_congr_right
      split <;> split <;> omega
    · simp only [mem_append, mem_cons, mem_nil, or_false]

structure NF (R : Charset) (S : Int → Prop) : Prop where
  mem : ∀ x, Mem x R ↔ S x
  norm : Normalized R

namespace NF
variable {R R' : Charset} {S T : Int → Prop}

theorem lo (h : NF R S) {p : Range} (hp : p ∈ R) : S p.1 :=
  (h.mem _).1 ⟨p, hp, Int.le_refl _, h.norm.valid p hp⟩

theorem hi (h : NF R S) {p : Range} (hp : p ∈ R) : S p.2 :=
  (h.mem _).1 ⟨p, hp, h.norm.valid p hp, Int.le_refl _⟩

theorem congr (h : NF R S) (e : ∀ x, S x ↔ T x) : NF R T := ⟨fun x => (h.mem x).trans (e x), h.norm⟩

theorem within {a b : Int} (h : NF R S) (hS : ∀ x, S x → a ≤ x ∧ x ≤ b) : Within a b R := fun _ hp =>
  ⟨(hS _ (h.lo hp)).1, (hS _ (h.hi hp)).2⟩

theorem nil : NF [] fun _ => False := ⟨fun x => iff_false_intro (mem_nil x), trivial⟩

theorem append (h : NF R S) (h' : NF R' T) (gap : ∀ x y, S x → T y → x + 1 < y) :
    NF (R ++ R') fun x => S x ∨ T x :=
  ⟨fun x => by rw [mem_append, h.mem, h'.mem],
    normalized_append _ _ h.norm h'.norm fun _ hp _ hq => gap _ _ (h.hi hp) (h'.lo hq)⟩

theorem optional {c : Prop} [Decidable c] {a b : Int} (hv : c → a ≤ b) :
    NF (if c then [(a, b)] else []) fun x => c ∧ a ≤ x ∧ x ≤ b := by
  split
  · exact ⟨fun x => by simp [mem_cons, mem_nil, *], hv ‹c›⟩
  · exact ⟨fun x => by simp [mem_nil, *], trivial⟩

end NF

theorem invertFrom_nf (max next : Int) (c : Charset) (hc : Normalized c) (hw : Within next max c) :
    NF (invertFrom max next c) fun x => next ≤ x ∧ x ≤ max ∧ ¬ Mem x c := by
  induction c generalizing next with
  | nil =>
    rw [invertFrom]
    exact (NF.optional id).congr fun x => by simp only [mem_nil, not_false_eq_true, and_true]; omega
  | cons q c ih =>
    obtain ⟨lo, hi⟩ := q
    have hv := hc.head
    obtain ⟨hlo, hhi⟩ := hw (lo, hi) List.mem_cons_self
    have i := ih (hi + 1) hc.tail fun p hp =>
      ⟨Int.le_of_lt (hc.gap p hp), (hw p (List.mem_cons_of_mem _ hp)).2⟩
    rw [invertFrom]
    refine ((NF.optional id).append i fun x y hx hy => by omega).congr fun x => ?_
    rw [mem_cons]
    by_cases hm : Mem x c
    · have := hc.mem_tail_gt hm; simp [hm]; omega
    · simp [hm]; omega

theorem subtractOne_nf (lo hi : Int) (oth : Charset) (hv : lo ≤ hi) (ho : Normalized oth) :
    NF (subtractOne lo hi oth).1 (fun x => lo ≤ x ∧ x ≤ hi ∧ ¬ Mem x oth) ∧
    Normalized (subtractOne lo hi oth).2 ∧
    ∀ y, hi < y → (Mem y (subtractOne lo hi oth).2 ↔ Mem y oth) := by
  fun_induction subtractOne lo hi oth
  case case1 lo =>
    exact ⟨⟨fun x => by simp only [mem_cons, mem_nil, or_false, not_false_eq_true, and_true], hv⟩, trivial,
      fun _ _ => Iff.rfl⟩
  case case2 lo a b oth h1 h2 ih =>
    -- b < lo: oth[0] lies below the range and is dropped
    have ⟨i1, i2, i3⟩ := ih hv ho.tail
    refine ⟨i1.congr fun x => ?_, i2, fun y hy => ?_⟩
    · rw [mem_cons]; by_cases hm : Mem x oth <;> simp [hm] <;> omega
    · rw [i3 y hy, mem_cons]; by_cases hm : Mem y oth <;> simp [hm] <;> omega
  case case3 lo a b oth h1 h2 pre h3 =>
    -- the rest of lo..hi is covered: keep oth[0]
    have hab := ho.head
    refine ⟨(NF.optional (by omega)).congr fun x => ?_, ho, fun y _ => Iff.rfl⟩
    rw [mem_cons]
    by_cases hm : Mem x oth
    · have := ho.mem_tail_gt hm; simp [hm]; omega
    · simp [hm]; omega
  case case4 lo a b oth h1 h2 pre h3 res ih =>
    -- continue with b+1..hi
    have hab := ho.head
    have ⟨i1, i2, i3⟩ := ih (by omega) ho.tail
    refine ⟨((NF.optional (by omega)).append i1 fun x y hx hy => by omega).congr fun x => ?_, i2,
      fun y hy => ?_⟩
    · rw [mem_cons]
      by_cases hm : Mem x oth
      · have := ho.mem_tail_gt hm; simp [hm]; omega
      · simp [hm]; omega
    · rw [i3 y hy, mem_cons]; by_cases hm : Mem y oth <;> simp [hm] <;> omega
  case case5 lo a b oth h1 =>
    -- hi < a: nothing to subtract from this range
    have hab := ho.head
    refine ⟨⟨fun x => ?_, hv⟩, ho, fun y _ => Iff.rfl⟩
    simp only [mem_cons, mem_nil, or_false]
    by_cases hm : Mem x oth
    · have := ho.mem_tail_gt hm; simp [hm]; omega
    · simp [hm]; omega

theorem subtract_nf (c oth : Charset) (hc : Normalized c) (ho : Normalized oth) :
    NF (subtract c oth) fun x => Mem x c ∧ ¬ Mem x oth := by
  induction c generalizing oth with
  | nil => exact NF.nil.congr fun x => by simp only [mem_nil, false_and]
  | cons q c ih =>
    obtain ⟨lo, hi⟩ := q
    rw [subtract]
    obtain ⟨s1, s2, s3⟩ := subtractOne_nf lo hi oth hc.head ho
    refine (s1.append (ih _ hc.tail s2) fun x y hx hy => ?_).congr fun x => ?_
    · have := hc.mem_tail_gt hy.1; omega
    · rw [mem_cons, or_and_right]
      apply or_congr (by rw [and_assoc])
      -- above `hi` the rest of `oth` is as good as `oth`
      exact and_congr_right fun h => by rw [s3 x (by have := hc.mem_tail_gt h; omega)]

/-- One overlap step of `intersect`: `(l2, e2)` ends first and is used up. -/
theorem intersect_step {l1 e1 l2 e2 lo : Int} {a b R : Charset} (ha : Normalized ((l1, e1) :: a))
    (hb : Normalized ((l2, e2) :: b)) (h2 : ¬ e2 < l1) (he : e2 ≤ e1)
    (hlo : l1 ≤ lo ∧ l2 ≤ lo ∧ (lo = l1 ∨ lo = l2))
    (hR : NF R fun x => Mem x ((l1, e1) :: a) ∧ Mem x b) :
    NF ((if lo ≤ e2 then [(lo, e2)] else []) ++ R) fun x => Mem x ((l1, e1) :: a) ∧ Mem x ((l2, e2) :: b) := by
  have hva := ha.head
  have hvb := hb.head
  refine ((NF.optional id).append hR fun x y hx hy => ?_).congr fun x => ?_
  · have := hb.mem_tail_gt hy.2; omega
  · rw [mem_cons x l2 e2, and_or_left]
    apply or_congr_left
    rw [mem_cons]
    by_cases hm : Mem x a
    · have := ha.mem_tail_gt hm; simp [hm]; omega
    · simp [hm]; omega

theorem intersect_nf (a b : Charset) (ha : Normalized a) (hb : Normalized b) :
    NF (intersect a b) fun x => Mem x a ∧ Mem x b := by
  fun_induction intersect a b
  · exact NF.nil.congr fun x => by simp only [mem_nil, false_and]
  · exact NF.nil.congr fun x => by simp only [mem_nil, and_false]
  · -- ahi < blo: skip a's range
    rename_i alo ahi a blo bhi b hlt ih
    refine (ih ha.tail hb).congr fun x => ?_
    rw [mem_cons x alo ahi, or_and_right, iff_or_self]
    intro ⟨h1, h2⟩; have := hb.le_of_mem h2; omega
  · -- bhi < alo: skip b's range
    rename_i alo ahi a blo bhi b _ hlt ih
    refine (ih ha hb.tail).congr fun x => ?_
    rw [mem_cons x blo bhi, and_or_left, iff_or_self]
    intro ⟨h1, h2⟩; have := ha.le_of_mem h1; omega
  · -- overlap, b's range ends first
    rename_i alo ahi a blo bhi b h1 h2 lo hlt ih
    exact intersect_step ha hb h2 (by omega) (by simp only [lo]; split <;> omega) (ih ha hb.tail)
  · -- overlap, a's range ends first (or both end together): the same step with the lists exchanged
    rename_i alo ahi a blo bhi b h1 h2 lo hnlt ih
    exact (intersect_step hb ha h1 (by omega) (lo := lo) (by simp only [lo]; split <;> omega)
      ((ih ha.tail hb).congr fun x => and_comm)).congr fun x => and_comm

theorem mem_fold (orbits : List (List Int)) (ascii : Bool) (c : Charset) (x : Int) :
    Mem x (fold orbits ascii c) ↔
      Mem x c ∨ ∃ o ∈ orbits, x ∈ o ∧ (∃ m ∈ o, Mem m c) ∧ (ascii = true → x < 0x80) := by
  unfold fold
  rw [mem_newCharset, mem_append, mem_flatMap]
  simp only [mem_points, List.mem_filter, List.any_eq_true, memB_iff, Bool.or_eq_true, Bool.not_eq_true',
    decide_eq_true_eq]
  refine or_congr Iff.rfl (exists_congr fun o => ?_)
  cases ascii <;> simp [and_assoc, and_left_comm, and_comm]

theorem normalized_fold (orbits : List (List Int)) (ascii : Bool) (c : Charset) (hc : Valid c) :
    Normalized (fold orbits ascii c) := by
  unfold fold
  apply normalized_newCharset
  intro p hp
  rw [List.mem_append] at hp
  rcases hp with hp | hp
  · exact hc p hp
  · simp only [List.mem_flatMap, List.mem_map] at hp
    obtain ⟨_, _, f, _, rfl⟩ := hp
    exact Int.le_refl _

end TmVerif.Charset
