import TmVerif.Model.IntSet
/-!
`util/container/intset.go` (C25): the three merge loops on sorted lists, `Merge`/`Intersect`/`Complement` by cases of
the signs, and the size measure `mu` behind the termination of `slowClosure`.
-/
namespace TmVerif.IntSet

theorem sortedB_iff (l : List Int) : sortedB l = true ↔ Sorted l := by
  fun_induction sortedB l with
  | case1 => simp [Sorted] -- `[]`
  | case2 => simp [Sorted] -- `[_]`
  | case3 a b l ih => simp [Sorted, ih]

theorem sorted_iff (l : List Int) : Sorted l ↔ l.Pairwise (· < ·) := by
  fun_induction Sorted l with
  | case1 => simp -- `[]`
  | case2 => simp -- `[_]`
  | case3 a b l ih =>
    rw [ih, List.pairwise_cons (a := a), List.forall_mem_cons]
    exact ⟨fun ⟨h1, h2⟩ => ⟨⟨h1, fun x hx => Int.lt_trans h1 (List.rel_of_pairwise_cons h2 hx)⟩, h2⟩,
      fun ⟨h1, h2⟩ => ⟨h1.1, h2⟩⟩

theorem Sorted.sublist {l l' : List Int} (h : Sorted l) (hs : l'.Sublist l) : Sorted l' :=
  (sorted_iff _).2 (((sorted_iff _).1 h).sublist hs)

theorem Sorted.tail {a : Int} {l : List Int} (h : Sorted (a :: l)) : Sorted l :=
  h.sublist (List.sublist_cons_self a l)

theorem Sorted.head_lt {a : Int} {l : List Int} (h : Sorted (a :: l)) : ∀ x ∈ l, a < x :=
  fun _ => List.rel_of_pairwise_cons ((sorted_iff _).1 h)

theorem Sorted.cons {a : Int} {l : List Int} (hl : Sorted l) (h : ∀ x ∈ l, a < x) : Sorted (a :: l) :=
  (sorted_iff _).2 (List.pairwise_cons.2 ⟨h, (sorted_iff l).1 hl⟩)

theorem Sorted.lt_of_lt {v w : Int} {a : List Int} (h : Sorted (v :: a)) (hw : w < v) :
    ∀ x ∈ v :: a, w < x := by
  intro x hx
  rcases List.mem_cons.1 hx with rfl | hx
  · exact hw
  · exact Int.lt_trans hw (h.head_lt x hx)

theorem Sorted.not_mem_of_lt {v w : Int} {a : List Int} (h : Sorted (v :: a)) (hw : w < v) :
    w ∉ v :: a :=
  fun hm => Int.lt_irrefl w (h.lt_of_lt hw w hm)

theorem mem_iff_mem_cons {x w : Int} {l b : List Int} (hx : x ∈ l) (hw : w ∉ l) :
    x ∈ b ↔ x ∈ w :: b := by
  rw [List.mem_cons]
  exact Iff.symm (or_iff_right fun e => hw (e ▸ hx))

/-! In each merge loop the smaller head is dropped or emitted; it cannot occur in the other list, whose
members are all above that list's own head. -/

theorem mem_combine (a b : List Int) (v : Int) : v ∈ combine a b ↔ v ∈ a ∨ v ∈ b := by
  fun_induction combine a b with
  | case1 b => simp
  | case2 => simp
  | case3 x a w b _ ih => simp only [List.mem_cons, ih]; grind -- the head `w` of `b` is emitted
  | case4 x a b _ ih => simp only [List.mem_cons, ih]; grind -- the common head is emitted once
  | case5 x a w b _ _ ih => simp only [List.mem_cons, ih]; grind -- the head `x` of `a` is emitted

theorem mem_intersect (a b : List Int) (ha : Sorted a) (hb : Sorted b) (v : Int) :
    v ∈ intersect a b ↔ v ∈ a ∧ v ∈ b := by
  fun_induction intersect a b with
  | case1 => simp
  | case2 => simp
  | case3 x a w b hlt ih =>
    rw [ih ha hb.tail]
    exact and_congr_right fun hv => mem_iff_mem_cons hv (ha.not_mem_of_lt hlt)
  | case4 x a b _ ih =>
    simp only [List.mem_cons, ih ha.tail hb]; grind
  | case5 x a w b hlt hne ih =>
    rw [ih ha.tail hb]
    exact and_congr_left fun hv => mem_iff_mem_cons hv (hb.not_mem_of_lt (by omega))

theorem mem_subtract (a b : List Int) (ha : Sorted a) (hb : Sorted b) (v : Int) :
    v ∈ subtract a b ↔ v ∈ a ∧ v ∉ b := by
  fun_induction subtract a b with
  | case1 => simp
  | case2 => simp
  | case3 x a w b hlt ih =>
    rw [ih ha hb.tail]
    exact and_congr_right fun hv => not_congr (mem_iff_mem_cons hv (ha.not_mem_of_lt hlt))
  | case4 x a b _ ih =>
    simp only [List.mem_cons, ih ha.tail hb]; grind
  | case5 x a w b hlt hne ih =>
    have hx : x ∉ w :: b := hb.not_mem_of_lt (by omega)
    simp only [List.mem_cons (b := x), ih ha.tail hb]; grind

theorem sorted_combine (a b : List Int) (ha : Sorted a) (hb : Sorted b) : Sorted (combine a b) := by
  fun_induction combine a b with
  | case1 => exact hb
  | case2 => exact ha
  | case3 v a w b hlt ih =>
    exact .cons (ih ha hb.tail) fun x hx =>
      ((mem_combine ..).1 hx).elim (ha.lt_of_lt hlt x) (hb.head_lt x)
  | case4 v a b _ ih =>
    exact .cons (ih ha.tail hb.tail) fun x hx =>
      ((mem_combine ..).1 hx).elim (ha.head_lt x) (hb.head_lt x)
  | case5 v a w b hlt hne ih =>
    exact .cons (ih ha.tail hb) fun x hx =>
      ((mem_combine ..).1 hx).elim (ha.head_lt x) (hb.lt_of_lt (by omega) x)

theorem intersect_sublist (a b : List Int) : (intersect a b).Sublist a := by
  fun_induction intersect a b with
  | case1 => exact .slnil
  | case2 => exact List.nil_sublist _
  | case3 _ _ _ _ _ ih => exact ih -- the head of `b` is dropped
  | case4 _ _ _ _ ih => exact ih.cons_cons _ -- the common head is emitted
  | case5 _ _ _ _ _ _ ih => exact ih.cons _ -- the head of `a` is dropped

theorem subtract_sublist (a b : List Int) : (subtract a b).Sublist a := by
  fun_induction subtract a b with
  | case1 => exact .slnil
  | case2 => exact .refl _
  | case3 _ _ _ _ _ ih => exact ih -- the head of `b` is dropped
  | case4 _ _ _ _ ih => exact ih.cons _ -- the common head is dropped
  | case5 _ _ _ _ _ _ ih => exact ih.cons_cons _ -- the head of `a` is emitted

theorem mem_inverse {s : IntSet} (h : s.inverse = true) (v : Int) : s.Mem v ↔ v ∉ s.set := by
  unfold IntSet.Mem; rw [if_pos h]

theorem mem_plain {s : IntSet} (h : ¬ s.inverse = true) (v : Int) : s.Mem v ↔ v ∈ s.set := by
  unfold IntSet.Mem; rw [if_neg h]

theorem mem_fresh (l : List Int) (x : Int) : (⟨false, l⟩ : IntSet).Mem x ↔ x ∈ l :=
  mem_plain Bool.false_ne_true x

theorem not_mem_of_empty {s : IntSet} (h : s.empty = true) (v : Int) : ¬ s.Mem v := by
  unfold IntSet.empty at h
  simp only [Bool.and_eq_true, List.isEmpty_iff, Bool.not_eq_true'] at h
  rw [mem_plain (by simp [h.2]), h.1]
  exact List.not_mem_nil

theorem mem_complement (a : IntSet) (v : Int) : a.complement.Mem v ↔ ¬ a.Mem v := by
  unfold IntSet.Mem IntSet.complement
  cases a.inverse <;> simp

/-- An empty operand is skipped; otherwise the four sign combinations are
`~A ∪ ~B = ~(A ∩ B)`, `~A ∪ B = ~(A \ B)`, `A ∪ ~B = ~(B \ A)` and plain union. -/
theorem mem_merge (a b : IntSet) (ha : Sorted a.set) (hb : Sorted b.set) (v : Int) :
    (a.merge b).Mem v ↔ a.Mem v ∨ b.Mem v := by
  fun_cases IntSet.merge a b with
  | case1 hae => exact (or_iff_right (not_mem_of_empty hae v)).symm
  | case2 _ hbe => exact (or_iff_left (not_mem_of_empty hbe v)).symm
  | case3 _ _ hai hbi =>
    rw [mem_inverse rfl, mem_inverse hai, mem_inverse hbi, mem_intersect _ _ ha hb]
    exact Decidable.not_and_iff_not_or_not
  | case4 _ _ hai hbi =>
    rw [mem_inverse rfl, mem_inverse hai, mem_plain hbi, mem_subtract _ _ ha hb,
      Decidable.not_and_iff_not_or_not, Decidable.not_not]
  | case5 _ _ hai hbi =>
    rw [mem_inverse rfl, mem_plain hai, mem_inverse hbi, mem_subtract _ _ hb ha,
      Decidable.not_and_iff_not_or_not, Decidable.not_not]
    exact Or.comm
  | case6 _ _ hai hbi =>
    rw [mem_fresh, mem_plain hai, mem_plain hbi, mem_combine]

/-- Empty if an operand is; otherwise `~A ∩ ~B = ~(A ∪ B)`, `~A ∩ B = B \ A`,
`A ∩ ~B = A \ B` and plain intersection. -/
theorem mem_inter (a b : IntSet) (ha : Sorted a.set) (hb : Sorted b.set) (v : Int) :
    (a.inter b).Mem v ↔ a.Mem v ∧ b.Mem v := by
  fun_cases IntSet.inter a b with
  | case1 he =>
    rw [mem_fresh]
    refine ⟨nofun, fun h => ?_⟩
    rcases Bool.or_eq_true _ _ ▸ he with he | he
    · exact (not_mem_of_empty he v h.1).elim
    · exact (not_mem_of_empty he v h.2).elim
  | case2 _ hai hbi =>
    rw [mem_inverse rfl, mem_inverse hai, mem_inverse hbi, mem_combine]
    exact not_or
  | case3 _ hai hbi =>
    rw [mem_fresh, mem_inverse hai, mem_plain hbi, mem_subtract _ _ hb ha]
    exact And.comm
  | case4 _ hai hbi =>
    rw [mem_fresh, mem_plain hai, mem_inverse hbi, mem_subtract _ _ ha hb]
  | case5 _ hai hbi =>
    rw [mem_fresh, mem_plain hai, mem_plain hbi, mem_intersect _ _ ha hb]

theorem sorted_merge (a b : IntSet) (ha : Sorted a.set) (hb : Sorted b.set) :
    Sorted (a.merge b).set := by
  fun_cases IntSet.merge a b with
  | case1 => exact hb -- `a` empty
  | case2 => exact ha -- `b` empty
  | case3 => exact ha.sublist (intersect_sublist ..) -- both inverse
  | case4 => exact ha.sublist (subtract_sublist ..) -- `a` inverse
  | case5 => exact hb.sublist (subtract_sublist ..) -- `b` inverse
  | case6 => exact sorted_combine _ _ ha hb -- both plain

theorem sorted_inter (a b : IntSet) (ha : Sorted a.set) (hb : Sorted b.set) :
    Sorted (a.inter b).set := by
  fun_cases IntSet.inter a b with
  | case1 => trivial -- an operand empty
  | case2 => exact sorted_combine _ _ ha hb -- both inverse
  | case3 => exact hb.sublist (subtract_sublist ..) -- `a` inverse
  | case4 => exact ha.sublist (subtract_sublist ..) -- `b` inverse
  | case5 => exact ha.sublist (intersect_sublist ..) -- both plain

theorem set_merge_sub (a b : IntSet) {e : Int} : e ∈ (a.merge b).set → e ∈ a.set ∨ e ∈ b.set := by
  fun_cases IntSet.merge a b with
  | case1 => exact .inr -- `a` empty
  | case2 => exact .inl -- `b` empty
  | case3 => exact fun h => .inl ((intersect_sublist ..).subset h) -- both inverse
  | case4 => exact fun h => .inl ((subtract_sublist ..).subset h) -- `a` inverse
  | case5 => exact fun h => .inr ((subtract_sublist ..).subset h) -- `b` inverse
  | case6 => exact (mem_combine ..).1 -- both plain

theorem set_inter_sub (a b : IntSet) {e : Int} : e ∈ (a.inter b).set → e ∈ a.set ∨ e ∈ b.set := by
  fun_cases IntSet.inter a b with
  | case1 => nofun -- an operand empty
  | case2 => exact (mem_combine ..).1 -- both inverse
  | case3 => exact fun h => .inr ((subtract_sublist ..).subset h) -- `a` inverse
  | case4 => exact fun h => .inl ((subtract_sublist ..).subset h) -- `b` inverse
  | case5 => exact fun h => .inl ((intersect_sublist ..).subset h) -- both plain

/-- A sorted representation is canonical, so comparing the Go result with the
model result as lists decides equality of the denoted sets. -/
theorem sorted_ext (a b : List Int) (ha : Sorted a) (hb : Sorted b)
    (h : ∀ v, v ∈ a ↔ v ∈ b) : a = b := by
  rw [sorted_iff] at ha hb
  -- no duplicates and the same members: a permutation; and a strictly increasing list has only one
  exact ((List.perm_ext_iff_of_nodup (ha.imp Int.ne_of_lt) (hb.imp Int.ne_of_lt)).2 h).eq_of_pairwise
    (fun _ _ _ _ h1 h2 => absurd h1 (Int.lt_asymm h2)) ha hb

/-!
`mu M s` counts the entries of `M` that belong to `s`, plus one when `s` is co-finite (the "point" that
stands for all integers outside `M`). For sorted representations whose explicit elements come from `M`,
growing as a set without growing in measure means being the same representation: the fact that makes
`slowClosure` terminate. -/

def mu (M : List Int) (s : IntSet) : Nat :=
  M.countP (fun m => decide (s.Mem m)) + s.inverse.toNat

theorem mu_le (M : List Int) (s : IntSet) : mu M s ≤ M.length + 1 :=
  Nat.add_le_add List.countP_le_length (Bool.toNat_le _)

theorem exists_not_mem (l : List Int) : ∃ p, p ∉ l :=
  -- one more than the largest entry (`0` keeps the list non-empty)
  ⟨(0 :: l).max (List.cons_ne_nil _ _) + 1, fun h =>
    Int.lt_irrefl _ (Int.lt_of_lt_of_le (Int.lt_succ _) (List.le_max_of_mem (List.mem_cons_of_mem 0 h)))⟩

/-- a co-finite set lies in no finite one: some integer is listed by neither -/
theorem inverse_of_le {s t : IntSet} (h : ∀ e, s.Mem e → t.Mem e) (hs : s.inverse = true) :
    t.inverse = true := by
  obtain ⟨p, hp⟩ := exists_not_mem (s.set ++ t.set)
  rw [List.mem_append, not_or] at hp
  exact Decidable.by_contra fun ht => hp.2 ((mem_plain ht p).1 (h p ((mem_inverse hs p).2 hp.1)))

theorem imp_of_countP_le {α : Type} {p q : α → Bool} (l : List α) (h : ∀ x ∈ l, p x = true → q x = true)
    (hc : l.countP q ≤ l.countP p) : ∀ x ∈ l, q x = true → p x = true := by
  -- the `p`s among the `q`s are no fewer than the `q`s, hence all of them
  have e : (l.filter q).filter p = l.filter q :=
    List.filter_sublist.eq_of_length_le <| by
      rw [List.filter_filter, ← List.countP_eq_length_filter, ← List.countP_eq_length_filter]
      exact Nat.le_trans hc (List.countP_mono_left fun x hx hp => by simp [hp, h x hx hp])
  intro x hx hq
  exact (List.mem_filter.1 (e.symm ▸ List.mem_filter.2 ⟨hx, hq⟩ : x ∈ (l.filter q).filter p)).2

/-- inclusion of sets, as `List.countP_mono_left` wants it -/
theorem decide_mem_mono {s t : IntSet} (h : ∀ e, s.Mem e → t.Mem e) (M : List Int) :
    ∀ x ∈ M, decide (s.Mem x) = true → decide (t.Mem x) = true :=
  fun x _ hx => decide_eq_true (h x (of_decide_eq_true hx))

theorem mem_set_congr {s t : IntSet} (hinv : s.inverse = t.inverse) {v : Int} (h : s.Mem v ↔ t.Mem v) :
    v ∈ s.set ↔ v ∈ t.set := by
  by_cases hs : s.inverse = true
  · rw [mem_inverse hs, mem_inverse (hinv ▸ hs)] at h; exact Decidable.not_iff_not.1 h
  · rw [mem_plain hs, mem_plain (hinv ▸ hs)] at h; exact h

theorem eq_of_mu_le (M : List Int) {s t : IntSet} (hs : Sorted s.set) (ht : Sorted t.set)
    (hsM : ∀ e ∈ s.set, e ∈ M) (htM : ∀ e ∈ t.set, e ∈ M)
    (h : ∀ e, s.Mem e → t.Mem e) (hmu : mu M t ≤ mu M s) : s = t := by
  unfold mu at hmu
  have h1 : M.countP (fun m => decide (s.Mem m)) ≤ M.countP (fun m => decide (t.Mem m)) :=
    List.countP_mono_left (decide_mem_mono h M)
  have hinv : s.inverse = t.inverse := by
    cases hsi : s.inverse with
    | true => rw [inverse_of_le h hsi]
    | false =>
      cases hti : t.inverse with
      | false => rfl
      | true => rw [hsi, hti] at hmu; exact absurd (Nat.le_trans hmu h1) (Nat.not_succ_le_self _)
  have hcount : M.countP (fun m => decide (t.Mem m)) ≤ M.countP (fun m => decide (s.Mem m)) :=
    Nat.le_of_add_le_add_right (hinv ▸ hmu)
  have hback : ∀ m ∈ M, t.Mem m → s.Mem m := fun m hm htm =>
    of_decide_eq_true (imp_of_countP_le M (decide_mem_mono h M) hcount m hm (decide_eq_true htm))
  have hsets : s.set = t.set :=
    sorted_ext _ _ hs ht fun v =>
      ⟨fun hv => (mem_set_congr hinv ⟨h v, hback v (hsM v hv)⟩).1 hv,
       fun hv => (mem_set_congr hinv ⟨h v, hback v (htM v hv)⟩).2 hv⟩
  cases s; cases t
  simp only at hinv hsets
  rw [hinv, hsets]

end TmVerif.IntSet
