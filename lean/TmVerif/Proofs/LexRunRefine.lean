import TmVerif.Proofs.LexRunNext
import TmVerif.Proofs.LexRunDecode
/-!
Refinement: the loop of the generated `Next` computes what `lex.Tables.Scan` (`scanLoopG`) computes
on the rest of the input, and the hash it accumulates is the `runtimeHash` of the consumed text
(`loop_refines`). With that hash the keyword switch is the lookup by text, so `finish` on the loop
result is `specOnce` (`finish_refines`).
-/
namespace TmVerif.LexRun
open TmVerif.LexTables

def charBound (sb : Bool) : Nat := if sb then 256 else 0x110000

theorem readChar_lt (sb : Bool) (b : UInt8) (rest : List UInt8) :
    (readChar sb (b :: rest)).1 < (charBound sb : Int) := by
  rw [readChar_cons]
  split
  · rename_i h
    obtain ⟨r, w, he, -, -, -, h5, -⟩ := decodeRune_multi b rest h.2
    rw [he, h.1]
    exact h5
  · have hb := b.toNat_lt
    unfold charBound
    split <;> omega

theorem pinv_char {o : Opts} {v : Variant} {l : Lexer} (h : PInv o v l) (hc : 0 ≤ l.ch) :
    ∃ b rest, l.source.drop l.offset = b :: rest ∧ l.ch = (readChar o.scanBytes (b :: rest)).1 ∧
      l.scanOffset = l.offset + (readChar o.scanBytes (b :: rest)).2 := by
  have hch := h.ch
  have hso := h.so
  unfold peek at hch hso
  cases hd : l.source.drop l.offset with
  | nil => rw [hd] at hch; simp only at hch; omega
  | cons b rest => rw [hd] at hch hso; exact ⟨b, rest, rfl, hch, hso⟩

/-- Hash invariant of the loop: `offset` is a character boundary of the text since `tokenOffset` (`bd`),
`hash` is the run-time hash of that text, and `backupHash` that of the text up to the checkpoint. -/
structure HInv (sb : Bool) (s : Scan) (l : Lexer) : Prop where
  bd : Boundary sb (l.source.drop l.tokenOffset) (l.offset - l.tokenOffset)
  hash : s.hash = runtimeHash sb (slice l.source l.tokenOffset l.offset)
  bk : s.backup = -1 ∨ s.backupHash = runtimeHash sb (slice l.source l.tokenOffset s.backupOffset)

/-- `s1` carries the checkpoint of the new state. -/
theorem hinv_consume {o : Opts} {v : Variant} {s : Scan} {l : Lexer} (hp : PInv o v l) (htl : l.tokenOffset ≤ l.offset)
    (h : HInv o.scanBytes s l) (hc : 0 ≤ l.ch) (s1 : Scan)
    (hbk : s1.backup = -1 ∨ s1.backupHash = runtimeHash o.scanBytes (slice l.source l.tokenOffset s1.backupOffset)) :
    HInv o.scanBytes { s1 with hash := hashStep s.hash l.ch } (consume o v l) := by
  obtain ⟨-, p2, -, -, p5, p6, -⟩ := consume_pinv o v l hp hc
  obtain ⟨b, rest, hd, hch, hso⟩ := pinv_char hp hc
  have hdd : (l.source.drop l.tokenOffset).drop (l.offset - l.tokenOffset) = b :: rest := by
    rw [List.drop_drop, Nat.add_sub_cancel' htl]; exact hd
  obtain ⟨e1, _⟩ := chars_take_extend o.scanBytes h.bd b rest hdd
  have e2 := runtimeHash_extend o.scanBytes h.bd b rest hdd
  have hk : l.offset - l.tokenOffset + (readChar o.scanBytes (b :: rest)).2 = l.scanOffset - l.tokenOffset := by
    rw [hso]; exact (Nat.sub_add_comm htl).symm
  rw [hk] at e1 e2
  refine ⟨by rw [p5, p6, p2]; exact e1, ?_, ?_⟩
  · show hashStep s.hash l.ch = _
    rw [p5, p6, p2, h.hash, hch]
    unfold slice
    exact e2.symm
  · rw [p5, p6]; exact hbk

/-- The generated class lookup agrees with the symbol map of the tables on every character the lexer
can read (`DriverC11.classMapOk`, an enumeration of all 0x110000 runes / 256 bytes). -/
def ClassOk (sp : Spec) : Prop :=
  ∀ r : Nat, r < charBound sp.opts.scanBytes → symOf sp.t (r : Int) = some (classOf sp.cm (r : Int))

theorem classOk_of_upTo (sp : Spec) (h : classMapOkUpTo sp (charBound sp.opts.scanBytes) = true) : ClassOk sp := by
  intro r hr
  simp only [classMapOkUpTo, List.all_eq_true, List.mem_range, beq_iff_eq] at h
  exact h r hr

theorem eoiFinal_spec (sp : Spec) (h : eoiFinal sp.t = true) (q : Int) (hq0 : 0 ≤ q)
    (hq : q < (numStates sp.t : Int)) (e : Int) (he : getI sp.t.dfa (q * sp.t.numSymbols) = some e) :
    e ≤ actionStart sp.t := by
  simp only [eoiFinal, List.all_eq_true, List.mem_range] at h
  have := h q.toNat ((Int.toNat_lt hq0).mpr hq)
  rw [Int.toNat_of_nonneg hq0, he] at this
  simpa using this

/-- The backup variables of the loop against the `size/action` results of `Scan`. -/
def BRel (s : Scan) (tok size : Nat) (action : Int) : Prop :=
  (s.backup = -1 ∧ size = 0) ∨ (0 ≤ s.backup ∧ size = s.backupOffset - tok ∧ 0 < size ∧ action = s.backup)

/-- What `Scan` returns, read off the final loop state. -/
def scanResult (sp : Spec) (s' : Scan) (l' : Lexer) : Nat × Int :=
  if actionStart sp.t - s'.state = invalidAct sp ∧ 0 ≤ s'.backup then (s'.backupOffset - l'.tokenOffset, s'.backup)
  else (l'.offset - l'.tokenOffset, actionStart sp.t - s'.state)

theorem loop_stop (sp : Spec) {fuel : Nat} {s s' : Scan} {l l' : Lexer} {st : Int} (hneg : st < 0)
    (h : loop sp fuel { s with state := st } l = some (s', l')) (hh : HInv sp.opts.scanBytes s l)
    {size : Nat} {action : Int} (hb : BRel s l.tokenOffset size action) :
    HInv sp.opts.scanBytes s' l' ∧
    (if actionStart sp.t - invalidAct sp = st ∧ size > 0 then some (size, action)
      else some (l.offset - l.tokenOffset, actionStart sp.t - st)) = some (scanResult sp s' l') := by
  cases fuel with
  | zero => exact nomatch h
  | succ fuel =>
    rw [loop_final sp fuel { s with state := st } l hneg] at h
    cases h
    refine ⟨⟨hh.bd, hh.hash, hh.bk⟩, ?_⟩
    unfold scanResult
    by_cases hst : actionStart sp.t - st = invalidAct sp ∧ 0 ≤ s.backup
    · rcases hb with ⟨b1, -⟩ | ⟨-, b2, b3, b4⟩
      · omega
      · rw [if_pos ⟨by omega, b3⟩, if_pos hst, b2, b4]
    · rw [if_neg hst, if_neg]
      rcases hb with ⟨-, b2⟩ | ⟨b1, -⟩
      · omega
      · exact fun h => hst ⟨by omega, b1⟩

theorem ClassOk.ch {sp : Spec} (hc : ClassOk sp) {l : Lexer} (hp : PInv sp.opts sp.v l) (hch0 : 0 ≤ l.ch) :
    symOf sp.t l.ch = some (classOf sp.cm l.ch) := by
  obtain ⟨b, rest, -, hchr, -⟩ := pinv_char hp hch0
  have hlt := readChar_lt sp.opts.scanBytes b rest
  rw [← hchr] at hlt
  have := hc l.ch.toNat ((Int.toNat_lt hch0).mpr hlt)
  rwa [Int.toNat_of_nonneg hch0] at this

theorem chars_consume {o : Opts} {v : Variant} {l : Lexer} (hp : PInv o v l) (htl : l.tokenOffset ≤ l.offset)
    (hch0 : 0 ≤ l.ch) :
    ∃ w, chars o.scanBytes (l.source.drop l.offset) =
        (l.ch, w) :: chars o.scanBytes ((consume o v l).source.drop (consume o v l).offset) ∧
      l.offset - l.tokenOffset + w = (consume o v l).offset - (consume o v l).tokenOffset := by
  obtain ⟨b, rest, hd, hchr, hso⟩ := pinv_char hp hch0
  obtain ⟨-, p2, -, -, p5, p6, -⟩ := consume_pinv o v l hp hch0
  refine ⟨(readChar o.scanBytes (b :: rest)).2, ?_, by rw [p2, p6, hso]; exact (Nat.sub_add_comm htl).symm⟩
  rw [p5, p2, hso, ← List.drop_drop, hd, chars_cons _ (List.cons_ne_nil _ _), hchr]

theorem loop_refines (sp : Spec) (w : WFacts sp) (hc : ClassOk sp) (he : eoiFinal sp.t = true)
    (fuel : Nat) (s : Scan) (l : Lexer) (s' : Scan) (l' : Lexer) :
    LInv sp s l → HInv sp.opts.scanBytes s l → 0 ≤ s.state → loop sp fuel s l = some (s', l') →
    ∀ (size : Nat) (action : Int), BRel s l.tokenOffset size action →
    HInv sp.opts.scanBytes s' l' ∧
    scanLoopG sp.t (invalidAct sp) (chars sp.opts.scanBytes (l.source.drop l.offset))
      (l.offset - l.tokenOffset) s.state size action = some (scanResult sp s' l') := by
  -- the cases follow the definition of `loop`: 1 no fuel; 2 final state; 3–6 end of input (entry missing,
  -- checkpoint missing, checkpoint, other entry); 7–10 a character (entry missing, checkpoint missing,
  -- consumed, final action)
  fun_induction loop sp fuel s l
  case case2 => intro _ _ hs0; omega
  case case5 _ s l _ _ st hst _ _ _ _ =>
    -- a checkpoint at the end of the input would be an `{eoi}` transition
    intro inv _ hs0
    have := eoiFinal_spec sp he s.state hs0 inv.st_lt st hst
    omega
  case case6 _ s l _ hch st hst _ _ =>
    -- end of the input: without `{eoi}` transitions the entry is final
    intro inv hh hs0 h size action hb
    have hneg : st < 0 :=
      Int.lt_of_le_of_lt (eoiFinal_spec sp he s.state hs0 inv.st_lt st hst) (actionStart_neg sp.t)
    rw [List.drop_eq_nil_of_le (Nat.le_of_eq (inv.pinv.ch_neg_iff.mp hch).symm), chars_nil]
    simp only [scanLoopG, hst]
    exact loop_stop sp hneg h hh hb
  case case9 _ s l _ hch st hst hgt s1 s2 hs1 ih =>
    -- the character is consumed, with or without a checkpoint
    intro inv hh hs0 h size action hb
    have hch0 : 0 ≤ l.ch := by omega
    obtain ⟨-, -, -, -, -, p6, -⟩ := consume_pinv sp.opts sp.v l inv.pinv hch0
    obtain ⟨wd, hcs, hidx⟩ := chars_consume inv.pinv inv.tok_le hch0
    rw [hcs]
    simp only [scanLoopG, hc.ch inv.pinv hch0, hst, hidx]
    by_cases hneg : st < 0
    · -- checkpoint: `Scan` remembers the match so far as `size/action`
      rw [if_pos hneg, if_pos hgt]
      simp only [s1, if_pos hneg, takeCheckpoint] at hs1
      cases hbt : getI sp.t.backtrack (-1 - st) with
      | none => rw [hbt] at hs1; exact nomatch hs1
      | some bt =>
        rw [hbt] at hs1
        cases hs1
        obtain ⟨i1, i2, i3, i4⟩ := linv_char_ckpt sp w s l st inv hs0 hch0 hst hgt hneg bt hbt
        exact ih i1 (hinv_consume inv.pinv inv.tok_le hh hch0 _ (Or.inr hh.hash)) i4 h _ _
          (Or.inr ⟨i3, by rw [p6], Nat.sub_pos_of_lt i2, rfl⟩)
    · rw [if_neg hneg]
      simp only [s1, if_neg hneg, Option.some.injEq] at hs1
      subst hs1
      exact ih (linv_char_move sp w s l st inv hch0 hst hneg)
        (hinv_consume inv.pinv inv.tok_le hh hch0 _ hh.bk) (by show 0 ≤ st; omega) h size action
        (by rw [p6]; exact hb)
  case case10 _ s l _ hch st hst hgt _ =>
    -- final action on a character: the loop stops in front of it
    intro inv hh _ h size action hb
    have hneg : st < 0 := Int.lt_of_le_of_lt (Int.not_lt.mp hgt) (actionStart_neg sp.t)
    have hch0 : 0 ≤ l.ch := by omega
    obtain ⟨wd, hcs, -⟩ := chars_consume inv.pinv inv.tok_le hch0
    rw [hcs]
    simp only [scanLoopG, hc.ch inv.pinv hch0, hst, if_pos hneg, if_neg hgt]
    exact loop_stop sp hneg h hh hb
  -- 1, 3, 4, 7, 8: the loop returns `none`
  all_goals exact fun _ _ _ h => nomatch h

def IsAscii (s : List UInt8) : Prop := ∀ b ∈ s, b.toNat < 0x80

theorem decodeAll_ascii (n : Nat) (s : List UInt8) (hs : IsAscii s) : decodeAll true n s = decodeAll false n s := by
  fun_induction decodeAll true n s
  case case3 fuel b rest c ih =>
    -- a byte below `0x80` is read the same in both modes
    have hb : b.toNat < 0x80 := hs b List.mem_cons_self
    have hr : readChar false (b :: rest) = c := by
      rw [readChar_cons, if_neg fun h => absurd h.2 (Nat.not_le.mpr hb)]; rfl
    rw [decodeAll, hr, ih fun x hx => hs x (List.mem_of_mem_drop hx)]
  -- 1, 2: no fuel, no text
  all_goals rfl

theorem runtime_hash_eq (sb hashFix : Bool) (text : List UInt8)
    (h : sb = false ∨ hashFix = true ∨ IsAscii text) :
    runtimeHash sb text = stringHash (hashFix && sb) text := by
  unfold stringHash
  cases sb with
  | false => simp
  | true =>
    cases hashFix with
    | true => rfl
    | false =>
      rcases h with h | h | h
      · exact nomatch h
      · exact nomatch h
      · simp only [Bool.false_and, runtimeHash, decodeAll_ascii _ text h]

/-- The generator's keyword hash matches the run-time hash: rune mode, or the fixed generator, or
ASCII-only keywords. -/
def HashOk (sp : Spec) : Prop :=
  sp.opts.scanBytes = false ∨ sp.v.hashFix = true ∨
  ∀ a m, (a, m) ∈ sp.classActions → ∀ k x, (k, x) ∈ m → IsAscii k

theorem classSwitch_eq_spec (sp : Spec) (hk : HashOk sp) (act : Int) (text : List UInt8) :
    classSwitch sp act (runtimeHash sp.opts.scanBytes text) text = classSpec sp act text := by
  rcases classSwitch_cases sp act (runtimeHash sp.opts.scanBytes text) text with ⟨e1, e2⟩ | ⟨m, hm, e1, e2⟩
  · rw [e1, e2]
  · rw [e1, e2]
    cases hl : mapLookup m text with
    | some x =>
      rw [runtime_hash_eq _ _ text
        (hk.imp_right (Or.imp_right fun h => h act m hm text x (mapLookup_some_mem m text x hl)))]
      have := lookup_complete (genHash sp) m text x hl
      unfold genHash at this ⊢
      rw [this]
    | none => rw [lookup_none _ m _ text hl]

/-- The observable part of an outcome. -/
def absOut : Outcome → SpecOutcome
  | .restart l' => .restart l'.offset
  | .token tok l' => .token tok l'.tokenOffset l'.offset

theorem finish_valid_refines (sp : Spec) (w : WFacts sp) (hk : HashOk sp) (k : Nat) (act : Int) (s : Scan)
    (l : Lexer) (state : Int) (size : Nat) (ha : actOk sp [] act = true)
    (hscan : scanG sp.t (invalidAct sp) sp.opts.scanBytes (startIndex sp state) (l.source.drop l.tokenOffset) =
      some (size, act))
    (hoff : l.offset = l.tokenOffset + size)
    (hhash : s.hash = runtimeHash sp.opts.scanBytes (slice l.source l.tokenOffset l.offset))
    (out : Outcome) (hfin : finish sp (k + 1) act s l = some out) :
    specOnce sp l.source state l.tokenOffset = some (absOut out) := by
  have hcs : classSwitch sp act s.hash l.text = classSpec sp act (slice l.source l.tokenOffset l.offset) := by
    rw [hhash]; exact classSwitch_eq_spec sp hk _ _
  obtain ⟨-, hinv, -⟩ := actOk_facts sp _ ha
  obtain ⟨-, hinv', tok, htok, -⟩ := actOk_facts sp _ (classSwitch_ok sp w act s.hash l.text ha)
  rw [hcs] at hinv' htok
  rw [finish] at hfin
  simp only [hcs, htok, hinv', Bool.false_eq_true, if_false] at hfin
  simp only [specOnce, hscan, hinv, Bool.false_eq_true, if_false, ← hoff, htok]
  by_cases hsp : sp.spaceActions.contains (classSpec sp act (slice l.source l.tokenOffset l.offset)) = true
  · rw [if_pos hsp] at hfin ⊢
    cases hfin; rfl
  · rw [if_neg hsp] at hfin ⊢
    cases hfin; rfl

theorem scanG_eq (sp : Spec) (l : Lexer) (st : Int) (hst : startState sp l = some st) (text : List UInt8) :
    scanG sp.t (invalidAct sp) sp.opts.scanBytes (startIndex sp l.state) text =
      scanLoopG sp.t (invalidAct sp) (chars sp.opts.scanBytes text) 0 st 0 0 := by
  have : getI sp.t.stateMap (startIndex sp l.state) = startState sp l := apply_ite _ _ _ _
  unfold scanG
  rw [this, hst]
  rfl

theorem finish_refines (sp : Spec) (w : WFacts sp) (hk : HashOk sp) {s : Scan} {l : Lexer} (inv : LInv sp s l)
    (hneg : s.state < 0) (hh : HInv sp.opts.scanBytes s l) (state : Int)
    (hscan : scanG sp.t (invalidAct sp) sp.opts.scanBytes (startIndex sp state) (l.source.drop l.tokenOffset) =
      some (scanResult sp s l))
    (out : Outcome) (hfin : finish sp 2 (actionStart sp.t - s.state) s l = some out) :
    specOnce sp l.source state l.tokenOffset = some (absOut out) := by
  have htl := inv.tok_le
  unfold scanResult at hscan
  by_cases hact : actionStart sp.t - s.state = invalidAct sp
  · obtain ⟨tok0, htok0, _⟩ := w.inv_tok
    rw [hact, finish_invalid sp w 1 s l htok0] at hfin
    by_cases hb : s.backup ≥ 0
    · -- restore the checkpoint
      rw [if_pos ⟨hact, hb⟩] at hscan
      rcases inv.bk with hb' | ⟨b1, b2, b3⟩
      · omega
      · obtain ⟨_, binv, _⟩ := actOk_facts sp _ b1
        simp only [hb, if_true, binv, Bool.not_false] at hfin
        obtain ⟨-, r2, r3, r4, -⟩ := inv.pinv.rewind s.backupOffset (Nat.le_trans b3 inv.pinv.le)
        rw [← r3, ← r4] at hscan
        have := finish_valid_refines sp w hk 0 s.backup { s with hash := s.backupHash } _ state _ b1 hscan
          (by rw [r2, r4]; exact (Nat.add_sub_cancel' (Nat.le_of_lt b2)).symm)
          (by rw [r2, r3, r4]; exact hh.bk.resolve_left (by omega)) out hfin
        rwa [r3, r4] at this
    · rw [if_neg fun h => hb h.2] at hscan
      simp only [hb, if_false] at hfin
      unfold specOnce
      simp only [hscan, hact, (isInvalid_iff sp _).mpr rfl, if_true, htok0]
      by_cases heq : l.offset = l.tokenOffset
      · -- nothing consumed: the character the lexer looks at, or EOI at the end of the input
        obtain ⟨-, r2, -, r4, -⟩ := inv.pinv.rewind l.scanOffset inv.pinv.scan_le
        simp only [heq, if_true, Option.some.injEq] at hfin
        rw [← hfin]
        simp only [absOut, r2, r4, heq, Nat.sub_self, if_true]
        rw [inv.pinv.ch, inv.pinv.so, heq]
        unfold peek
        cases l.source.drop l.tokenOffset with
        | nil => rfl
        | cons b rest =>
          have := (readChar_spec sp.opts.scanBytes b rest).2.2.1
          simp only
          rw [if_neg (by omega)]
      · simp only [heq, if_false, Option.some.injEq] at hfin
        rw [← hfin, if_neg (by omega)]
        simp only [absOut, Nat.add_sub_cancel' htl]
  · have hok := (inv.st_fin hneg).2.resolve_left fun hf => hact ((invCode_iff sp _).mpr hf)
    rw [if_neg fun h => hact h.1] at hscan
    exact finish_valid_refines sp w hk 1 _ s l state _ hok hscan (by omega) hh.hash out hfin

theorem nextOnce_refines (sp : Spec) (w : WFacts sp) (hc : ClassOk sp) (he : eoiFinal sp.t = true)
    (hk : HashOk sp) (l : Lexer) (hp : PInv sp.opts sp.v l) (hv : ValidState sp l) (out : Outcome)
    (h : nextOnce sp l = some out) :
    specOnce sp l.source l.state l.offset = some (absOut out) := by
  obtain ⟨st, s', l2, r⟩ := nextOnce_loop sp w l hp hv
  have hinit : HInv sp.opts.scanBytes ⟨st, 0, -1, 0, 0⟩ (beginToken sp.opts l) := by
    refine ⟨?_, ?_, Or.inl rfl⟩
    · show Boundary _ _ (l.offset - l.offset)
      rw [Nat.sub_self]; exact Boundary.zero _
    · show (0 : Nat) = runtimeHash _ (slice l.source l.offset l.offset)
      unfold slice; rw [Nat.sub_self]; rfl
  obtain ⟨hh, hscan⟩ := loop_refines sp w hc he _ _ _ s' l2 r.inv₀ hinit r.start_nonneg r.run 0 0 (Or.inl ⟨rfl, rfl⟩)
  rw [show (beginToken sp.opts l).offset - (beginToken sp.opts l).tokenOffset = 0 from Nat.sub_self _,
    ← scanG_eq sp l st r.start] at hscan
  have hsrc : l2.source = l.source := r.stable.source
  have htok : l2.tokenOffset = l.offset := r.stable.tokenOffset
  have := finish_refines sp w hk r.inv r.final hh l.state (by rw [hsrc, htok]; exact hscan) out (r.once ▸ h)
  rwa [hsrc, htok] at this

theorem nextLoop_refines (sp : Spec) (w : WFacts sp) (hc : ClassOk sp) (he : eoiFinal sp.t = true)
    (hk : HashOk sp) : ∀ (fuel : Nat) (l : Lexer), PInv sp.opts sp.v l → ValidState sp l →
    ∀ (tok : Int) (l' : Lexer), nextLoop sp fuel l = some (tok, l') →
    specNextLoop sp l.source l.state fuel l.offset = some (tok, l'.tokenOffset, l'.offset) := by
  intro fuel
  induction fuel with
  | zero => exact fun l _ _ tok l' h => nomatch h
  | succ fuel ih =>
    intro l hp hv tok l' h
    obtain ⟨out, h1, h2⟩ := nextOnce_spec sp w l hp hv
    have hr := nextOnce_refines sp w hc he hk l hp hv out h1
    simp only [nextLoop, h1] at h
    simp only [specNextLoop, hr]
    cases out with
    | restart l1 =>
      obtain ⟨q1, fr, -⟩ := h2
      have := ih l1 q1 (hv.of_state_eq fr.state) tok l' h
      rw [show l1.source = l.source from fr.source, show l1.state = l.state from fr.state] at this
      exact this
    | token tok1 l1 =>
      cases h
      rfl

/-- A text `[a, b)` that consists of consecutive matches of space rules, as `Tables.Scan` finds them. -/
inductive SpaceChain (sp : Spec) (src : List UInt8) (state : Int) : Nat → Nat → Prop
  | refl (a : Nat) : SpaceChain sp src state a a
  | step {a b : Nat} (size : Nat) (act : Int) :
      scanG sp.t (invalidAct sp) sp.opts.scanBytes (startIndex sp state) (src.drop a) = some (size, act) →
      isInvalid sp act = false → 0 < size →
      sp.spaceActions.contains (classSpec sp act (slice src a (a + size))) = true →
      SpaceChain sp src state (a + size) b → SpaceChain sp src state a b

theorem specOnce_eq_restart (sp : Spec) (src : List UInt8) (state : Int) (off off' : Nat)
    (h : specOnce sp src state off = some (.restart off')) :
    ∃ size act, scanG sp.t (invalidAct sp) sp.opts.scanBytes (startIndex sp state) (src.drop off) = some (size, act) ∧
      isInvalid sp act = false ∧ off' = off + size ∧
      sp.spaceActions.contains (classSpec sp act (slice src off (off + size))) = true := by
  revert h
  fun_cases specOnce sp src state off
  case case7 size act hs hi _ _ _ hsp =>
    intro h
    cases h
    exact ⟨size, act, hs, Bool.eq_false_iff.mpr hi, rfl, hsp⟩
  -- every other branch ends in a token or in `none`
  all_goals exact fun h => nomatch h

theorem restarts_chain (sp : Spec) (w : WFacts sp) (hc : ClassOk sp) (he : eoiFinal sp.t = true)
    (hk : HashOk sp) (l lm : Lexer) (hr : Restarts sp l lm) :
    PInv sp.opts sp.v l → ValidState sp l → SpaceChain sp l.source l.state l.offset lm.offset := by
  induction hr with
  | refl l => exact fun _ _ => SpaceChain.refl _
  | @step l l1 l2 h1 _ ih =>
    intro hp hv
    obtain ⟨out, o1, o2⟩ := nextOnce_spec sp w l hp hv
    cases o1.symm.trans h1
    obtain ⟨q1, fr, q4⟩ := o2
    have q4' : l.offset < l1.offset := q4
    have c := ih q1 (hv.of_state_eq fr.state)
    obtain ⟨size, act, e1, e2, e3, e4⟩ :=
      specOnce_eq_restart sp l.source l.state l.offset _ (nextOnce_refines sp w hc he hk l hp hv _ h1)
    have e3' : l1.offset = l.offset + size := e3
    rw [show l1.source = l.source from fr.source, show l1.state = l.state from fr.state, e3'] at c
    exact SpaceChain.step size act e1 e2 (by omega) e4 c

end TmVerif.LexRun
