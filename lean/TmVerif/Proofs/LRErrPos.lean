/-
The loop looks at no token behind the first unshifted one (`runLoop_agree`), so a run that stops
with a syntax error after `k` shifts stops in the same way on every token string with the same first
`k + 1` tokens: none of these is a sentence (`err_not_extension`).
-/
import TmVerif.Proofs.LRViable
import TmVerif.Proofs.LRComplete
namespace TmVerif.LRViable
open TmVerif.LR TmVerif.CFG TmVerif.LRSound
open TmVerif.LRComplete (rhsOf_input ComplFacts word complete_accept)

variable {g : Grammar} {t : Tables} {cert : Cert} {i : Nat} {inp inp' : Input}

theorem nshift_le_of_suffix {l l' : List Ev} (h : l <:+ l') : nshift l ≤ nshift l' := by
  obtain ⟨p, rfl⟩ := h
  induction p with
  | nil => exact Nat.le_refl _
  | cons e p ih => cases e <;> simp only [List.cons_append, nshift] <;> omega

def Agree (k : Nat) (inp inp' : Input) : Prop := ∀ j, j ≤ k → inp.tok j = inp'.tok j

theorem fetch_agree {c : Cfg} {m k : Nat} (hn : NextOk inp c m) (hk : m ≤ k)
    (hag : Agree k inp inp') : c.fetch inp = c.fetch inp' := by
  cases hnext : c.next with
  | some tk => rw [fetch_some hnext, fetch_some hnext]
  | none => rw [fetch_none hnext, fetch_none hnext, (nextOk_none hnext).mp hn, hag m hk]

section agree
variable (hc : CertFacts g t cert) (htok : TokOk t inp) (hi : i < g.inputs.size)
include hc htok hi

theorem step_agree (c : Cfg) (k : Nat) (h : Inv g t i inp c) (hk : nshift c.evs ≤ k)
    (hag : Agree k inp inp') : step t inp c = step t inp' c := by
  obtain ⟨s, syms, hstk, hst, hn⟩ := h
  have hfe := fetch_agree hn hk hag
  -- the deep lookahead reads further, but on certified tables `decode` does not need its answer
  have hdec : decode t inp c = decode t inp' c := by
    obtain ⟨b, act, hb, hact, _, _, hd⟩ := decode_cert hc htok (hstk.lt hc hi) hst hn
    have hn' : NextOk inp' c (nshift c.evs) := by
      cases hnx : c.next with
      | none => exact (nextOk_none hnx).mpr ((nextOk_none hnx).mp hn)
      | some tk =>
        have h := (nextOk_some hnx).mp hn
        exact (nextOk_some hnx).mpr ⟨h.1.trans (hag _ hk), h.2⟩
    have ha := (symAt_lt_nTerms htok hc.nTermsPos (nshift c.evs)).2
    rw [hd, hfe, decode_noDeep hn' (hag _ hk ▸ ha) hst hb (hact _)]
  cases hd : decode t inp c with
  | none => unfold step; rw [← hdec, hd]
  | some p =>
    obtain ⟨c1, act⟩ := p
    rw [step_of_decode hd, step_of_decode (hdec ▸ hd)]
    cases act with
    | error => rfl
    | shift q => rfl
    | reduce r =>
      -- the reduction of an empty rule fetches
      unfold apply
      rw [fetch_agree (fetched (decode_fetch hd) hn).2.2 hk hag]

theorem runLoop_agree (fin : Int) : ∀ (fuel : Nat) (c : Cfg), Inv g t i inp c →
    Agree (nshift (runLoop t inp fin fuel c).2.evs) inp inp' →
    runLoop t inp' fin fuel c = runLoop t inp fin fuel c
  | 0, c, _, _ => by rw [runLoop, runLoop]
  | fuel + 1, c, hinv, hag => by
    have hstep := step_agree hc htok hi c _ hinv
      (nshift_le_of_suffix (runLoop_evs t inp fin (fuel + 1) c)) hag
    by_cases hfin : c.state = fin
    · rw [runLoop, runLoop, if_pos hfin, if_pos hfin]
    rw [runLoop_succ hfin] at hag
    rw [runLoop_succ hfin, runLoop_succ hfin, ← hstep]
    cases hs : step t inp c with
    | cont c1 =>
      rw [hs] at hag
      exact runLoop_agree fin fuel c1 (step_inv hc htok hi c c1 hinv hs) hag
    | done r c1 =>
      cases r with
      | syntaxError a b =>
        have ⟨_, _, hstk, hst, hn⟩ := hinv
        have hm := step_move (justified hc) (decodeOk hc htok) htok hi (stackOk_iff.mp hstk) hst hn
        rw [hs] at hm
        obtain ⟨e1, e2⟩ := hm.2 nofun
        rw [hs] at hag
        simp only at hag ⊢
        rw [errorAt_evs, e1] at hag
        unfold errorAt
        rw [fetch_agree e2 (Nat.le_refl _) hag]
      | _ => rfl

end agree

theorem derivesSeq_terms {g : Grammar} :
    ∀ {α : List Nat} {u : List Nat}, DerivesSeq g α u → ∀ a ∈ u, a < g.nTerms := derives_terms.2

theorem derivesSeq_nil_inv {g : Grammar} {w : List Nat} (h : DerivesSeq g [] w) : w = [] := by
  generalize hb : ([] : List Nat) = β at h
  cases h with
  | nil => rfl
  | cons _ _ _ _ _ _ => cases hb

theorem sentence_no_zero (hwf : WfFacts g) {w : List Nat} (h : Sentence g i w) : 0 ∉ w := by
  obtain ⟨gi, hgi, hD⟩ := h
  have := (hwf.inputs gi (mem_toList_of_getElem? hgi)).1
  have := hwf.nTermsPos
  exact (derives_no_zero hwf).1 hD (by omega)

theorem lang_elim (hwf : WfFacts g) {gi : GInput}
    (hgi : g.inputs[i]? = some gi) {x : List Nat} (h : Lang g i x) :
    (∃ s, x = s ++ [0] ∧ Sentence g i s) ∨ Sentence g i x := by
  unfold Lang at h
  rw [rhsOf_input hgi] at h
  cases heoi : gi.eoi with
  | true =>
    rw [heoi, if_pos rfl] at h
    cases h with
    | cons _ _ u v hS hrest =>
      cases hrest with
      | cons _ _ u' v' h0 hnil =>
        cases hnil
        obtain rfl := derives_zero hwf h0
        exact Or.inl ⟨u, by simp, gi, hgi, hS⟩
  | false =>
    rw [heoi, if_neg Bool.false_ne_true] at h
    cases h with
    | cons _ _ u v hS hnil =>
      cases hnil
      exact Or.inr ⟨gi, hgi, by simpa using hS⟩

/-- from the conclusion of `vinv_prefix` to sentences of the token string -/
theorem prefix_sentence (hwf : WfFacts g) {gi : GInput} (hgi : g.inputs[i]? = some gi)
    (htok : TokOk t inp) {k : Nat}
    (h : ∃ z, Lang g i (consumed inp k ++ z)) (hns : ¬ Sentence g i (word inp)) :
    k ≤ inp.toks.size ∧ ∃ z, Sentence g i ((word inp).take k ++ z) := by
  obtain ⟨z', hz'⟩ := h
  -- a sentence holds no EOI, so a consumed prefix of one lies within the text
  have key : ∀ z, Sentence g i (consumed inp k ++ z) →
      k ≤ inp.toks.size ∧ ∃ z, Sentence g i ((word inp).take k ++ z) := by
    intro z hS
    have hk := consumed_no_zero fun h0 => sentence_no_zero hwf hS (List.mem_append_left _ h0)
    rw [consumed_le inp k hk, List.map_take] at hS
    exact ⟨hk, z, hS⟩
  rcases lang_elim hwf hgi hz' with ⟨s, hs, hS⟩ | hS
  · rcases List.eq_nil_or_concat z' with rfl | ⟨z'', l, rfl⟩
    · -- EOI has been shifted: the whole token string would be a sentence
      rw [List.append_nil] at hs
      have hw := consumed_eoi htok hs (sentence_no_zero hwf hS)
      rw [List.take_of_length_le (by simp)] at hw
      subst hw
      exact absurd hS hns
    · rw [List.concat_eq_append, ← List.append_assoc] at hs
      obtain ⟨rfl, _⟩ := List.append_inj' hs rfl
      exact key z'' hS
  · exact key z' hS

def extend (inp : Input) (k : Nat) (z : List Nat) : Input :=
  { toks := (inp.toks.toList.take (k + 1) ++ z.map fun (a : Nat) => Tok.mk (a : Int) 0 0).toArray,
    endOff := inp.endOff }

theorem extend_agree (inp : Input) {k : Nat} (hk : k < inp.toks.size) (z : List Nat) :
    Agree k inp (extend inp k z) := by
  intro j hj
  unfold Input.tok extend
  simp only [List.getElem?_toArray]
  rw [List.getElem?_append_left (by simp; omega), List.getElem?_take_of_lt (by omega),
    Array.getElem?_toList]

theorem extend_word (inp : Input) (k : Nat) (z : List Nat) :
    word (extend inp k z) = (word inp).take (k + 1) ++ z := by
  simp [word, extend, List.map_take, Function.comp_def]

theorem extend_tokOk (htok : TokOk t inp) (k : Nat) {z : List Nat}
    (hz : ∀ a ∈ z, 0 < a ∧ a < t.nTerms) : TokOk t (extend inp k z) := by
  intro tk hm
  unfold extend at hm
  simp only [List.mem_append, List.mem_map] at hm
  rcases hm with hm | ⟨a, ha, he⟩
  · exact htok tk (List.mem_of_mem_take hm)
  · subst he
    have := hz a ha
    simp only
    omega

section ext
variable {cc : LRComplete.CCert} (hc : CertFacts g t cert) (hf : ComplFacts g t cc)
  (htok : TokOk t inp) (hi : i < g.inputs.size)
include hc hf htok hi

omit hc hi in
theorem err_not_sentence {fuel off endo : Nat} {c : Cfg}
    (hrun : run t inp i fuel = (Result.syntaxError off endo, c)) :
    ¬ Sentence g i (word inp) := by
  intro hs
  obtain ⟨fuel', c', hacc⟩ := complete_accept hf htok hs
  have := run_det t inp i hrun (by simp) hacc (by simp)
  cases this

theorem err_not_extension {fuel off endo : Nat} {c : Cfg}
    (hrun : run t inp i fuel = (Result.syntaxError off endo, c))
    (hk : nshift c.evs < inp.toks.size) :
    ¬ ∃ z, Sentence g i ((word inp).take (nshift c.evs + 1) ++ z) := by
  rintro ⟨z, hs⟩
  have hwf := wfFacts hc.wf
  have hz : ∀ a ∈ z, 0 < a ∧ a < t.nTerms := fun a ha => by
    have hm : a ∈ (word inp).take (nshift c.evs + 1) ++ z := List.mem_append_right _ ha
    refine ⟨Nat.pos_of_ne_zero fun h0 => sentence_no_zero hwf hs (h0 ▸ hm), ?_⟩
    obtain ⟨gi, _, hD⟩ := hs
    rw [hc.nTerms]
    exact derives_terms.1 hD a hm
  have hag := extend_agree inp hk z
  have htok' := extend_tokOk htok (nshift c.evs) hz
  rw [← extend_word] at hs
  obtain ⟨fuel', c', hacc⟩ := complete_accept hf htok' hs
  have hrun' : run t (extend inp (nshift c.evs) z) i fuel = (Result.syntaxError off endo, c) := by
    obtain ⟨fin, hfin, hrun⟩ := run_eq hrun (fun h => nomatch h)
    have hinit : initCfg (extend inp (nshift c.evs) z) i = initCfg inp i := by
      unfold initCfg
      rw [hag 0 (Nat.zero_le _)]
    rw [run_of_final hfin, hinit]
    exact (runLoop_agree hc htok hi fin fuel _ (inv_init g t i inp)
      (by rw [hrun]; exact hag)).trans hrun
  have := run_det t _ i hrun' (by simp) hacc (by simp)
  cases this

end ext

end TmVerif.LRViable
