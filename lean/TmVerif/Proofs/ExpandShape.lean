import TmVerif.Proofs.ExpandInv
/-!
C13: what one run of `expandExpr` does to its state, the list of extracted nonterminals, stated as a `Run`.
Language (no hypothesis on the expression): in every environment that binds each extracted nonterminal to the
language of its defining expression (`Consistent`) the produced alternatives denote what the expression denotes.
Shape (for well-formed input): the state stays well-shaped (`StOk`) and the alternatives are `Good`.
-/
namespace TmVerif.Expand

/-- Hypothesis of `C13_expandExpr_lang`; such environments exist for well-shaped states
(`C13_expandExpr_env_exists`). -/
def Consistent (cx : Ctx) (ρ : Nat → Lang) (ext : List NT) : Prop :=
  ∀ k nt, ext[k]? = some nt → ρ (cx.base + k) = den cx.sets ρ nt.value

theorem Consistent.prefix {cx : Ctx} {ρ : Nat → Lang} {a b : List NT} (h : a <+: b)
    (hc : Consistent cx ρ b) : Consistent cx ρ a := by
  intro k nt hk
  obtain ⟨hlt, rfl⟩ := List.getElem?_eq_some_iff.1 hk
  exact hc k _ (List.prefix_iff_getElem?.1 h k hlt)

theorem extract_cases (cx : Ctx) (curr : String) (ext : List NT) (e : Expr) :
    ∃ k nt ext', extract cx curr ext e = (.ref (cx.base + k), ext') ∧ ext'[k]? = some nt ∧ nt.value = e ∧
      (ext' = ext ∨ ext' = ext ++ [nt]) := by
  fun_cases extract cx curr ext e
  · next found reuse k hk =>
    -- `reuse = some k` only where `ext[k]? = some nt` and `equal e nt.value`
    revert hk
    unfold reuse
    clear_value found
    cases found with
    | none => exact nofun
    | some k' =>
      dsimp only
      cases hnt : ext[k']? with
      | none => exact nofun
      | some nt =>
        dsimp only
        cases heq : equal e nt.value with
        | false => exact nofun
        | true => exact fun hk => ⟨k, nt, ext, rfl, Option.some.inj hk ▸ hnt, (equal_eq _ _ heq).symm, .inl rfl⟩
  · exact ⟨_, _, _, rfl, List.getElem?_concat_length, rfl, .inr rfl⟩

theorem isEmptyExpr_eq {e : Expr} (h : isEmptyExpr e = true) : e = .empty := by
  cases e <;> simp [isEmptyExpr] at h ⊢

def ElemOk (n : Nat) (elem : Expr) : Prop :=
  Good n elem ∨ ∃ subs, elem = .choice subs ∧ ∀ a ∈ subs, Good n a

def ValOk (cx : Ctx) (k : Nat) : Expr → Prop
  | .set i => i < cx.setTerms.length
  | .lookahead _ => True
  | .opt (.ref s) => s < cx.base + k
  | .list ne _ elem sep => (ne = true ∨ sep = .empty) ∧ ElemOk (cx.base + k) elem ∧ Good (cx.base + k) sep
  | _ => False

/-- The invariant of the expansion state: the value of the `k`-th extracted nonterminal has one of the shapes
`synth` has rules for, and mentions only symbols below `cx.base + k`, so the extracted nonterminals can be given
their languages one after the other. -/
def StOk (cx : Ctx) (ext : List NT) : Prop := ∀ k nt, ext[k]? = some nt → ValOk cx k nt.value

theorem StOk.nil (cx : Ctx) : StOk cx [] := by intro k nt h; simp at h

theorem StOk.concat {cx : Ctx} {ext : List NT} {nt : NT} (hst : StOk cx ext)
    (hv : ValOk cx ext.length nt.value) : StOk cx (ext ++ [nt]) := by
  intro k nt' hk
  rcases Nat.lt_or_ge k ext.length with h | h
  · rw [List.getElem?_append_left h] at hk; exact hst k nt' hk
  · obtain ⟨hlt, -⟩ := List.getElem?_eq_some_iff.1 hk
    rw [List.length_append] at hlt
    obtain rfl := Nat.le_antisymm (Nat.le_of_lt_succ hlt) h
    rw [List.getElem?_concat_length] at hk
    cases hk; exact hv

theorem wrapChoice_elemOk {n : Nat} {alts : List Expr} (h : ∀ a ∈ alts, Good n a) :
    ElemOk n (wrapChoice alts) := by
  fun_cases wrapChoice alts
  · exact Or.inl (h _ (List.mem_singleton_self _))
  · exact Or.inr ⟨alts, rfl, h⟩

theorem isRef_eq {e : Expr} (h : isRef e = true) : ∃ s, e = .ref s := by
  cases e <;> simp [isRef] at h ⊢

theorem good_ref {n s : Nat} (h : s < n) : Good n (.ref s) := ⟨rfl, decide_eq_true h⟩

theorem Good.single {n : Nat} {e : Expr} (h : Good n e) : ∀ a ∈ [e], Good n a :=
  fun _ ha => List.mem_singleton.1 ha ▸ h

theorem wfList_cons {n m : Nat} {e : Expr} {es : List Expr} (h : wfList n m (e :: es) = true) :
    wfExpr n m e = true ∧ wfList n m es = true :=
  Bool.and_eq_true_iff.1 h

theorem wfExpr_list {n m : Nat} {ne rr : Bool} {e s : Expr} (h : wfExpr n m (.list ne rr e s) = true) :
    wfExpr n m e = true ∧ simpleSep s = true ∧ wfExpr n m s = true :=
  (Bool.and_eq_true_iff.1 h).imp_right Bool.and_eq_true_iff.1

mutual
theorem wf_refsLt (n m : Nat) : ∀ (e : Expr), wfExpr n m e = true → refsLt n e = true
  | .ref _, h => h
  | .seq es, h | .choice es, h => wfList_refsLt n m es h
  | .list _ _ e s, h =>
    refsLt_list.2 ⟨wf_refsLt n m e (wfExpr_list h).1, wf_refsLt n m s (wfExpr_list h).2.2⟩
  | .opt e, h | .arrow _ e, h | .assign _ e, h | .append _ e, h => wf_refsLt n m e h
  | .prec _ _, h => nomatch h
  | .empty, _ | .set _, _ | .lookahead _, _ | .command _, _ | .marker _, _ => rfl
theorem wfList_refsLt (n m : Nat) : ∀ (es : List Expr), wfList n m es = true → refsLtList n es = true
  | [], _ => rfl
  | e :: es, h =>
    refsLtList_cons.2 ⟨wf_refsLt n m e (wfList_cons h).1, wfList_refsLt n m es (wfList_cons h).2⟩
end

structure Step (cx : Ctx) (ext : List NT) (alts : List Expr) (ext' : List NT) (L : (Nat → Lang) → Lang) :
    Prop where
  pre : ext <+: ext'
  lang : ∀ ρ, Consistent cx ρ ext' → denAlts cx.sets ρ alts = L ρ
  st : StOk cx ext → StOk cx ext'
  good : StOk cx ext → ∀ a ∈ alts, Good (cx.base + ext'.length) a

/-- A `Step` whose shape half is under a condition `W` on the input, so that `pre` and `lang` hold of every input. -/
structure Run (cx : Ctx) (W : Prop) (ext : List NT) (r : List Expr × List NT) (L : (Nat → Lang) → Lang) :
    Prop where
  pre : ext <+: r.2
  lang : ∀ ρ, Consistent cx ρ r.2 → denAlts cx.sets ρ r.1 = L ρ
  shape : W → StOk cx ext → StOk cx r.2 ∧ ∀ a ∈ r.1, Good (cx.base + r.2.length) a

section
variable {cx : Ctx} {W W' : Prop} {ext : List NT} {r r' : List Expr × List NT} {L L' : (Nat → Lang) → Lang}

theorem Run.step (h : Run cx W ext r L) (hw : W) : Step cx ext r.1 r.2 L :=
  ⟨h.pre, h.lang, fun hst => (h.shape hw hst).1, fun hst => (h.shape hw hst).2⟩

theorem Step.run {alts : List Expr} {ext' : List NT} (h : Step cx ext alts ext' L) :
    Run cx True ext (alts, ext') L :=
  ⟨h.pre, h.lang, fun _ hst => ⟨h.st hst, h.good hst⟩⟩

theorem Run.imp (h : Run cx W ext r L) (hw : W' → W) : Run cx W' ext r L :=
  ⟨h.pre, h.lang, fun h' => h.shape (hw h')⟩

theorem Run.pure {a : Expr} (h : W → Good (cx.base + ext.length) a) :
    Run cx W ext ([a], ext) (fun ρ => den cx.sets ρ a) :=
  ⟨List.prefix_refl _, fun ρ _ => denAlts_singleton _ ρ _, fun hw hst => ⟨hst, Good.single (h hw)⟩⟩

theorem Run.nil : Run cx W ext ([], ext) (fun _ => Lang.none) :=
  ⟨List.prefix_refl _, fun ρ _ => denAlts_nil _ ρ, fun _ hst => ⟨hst, fun _ ha => nomatch ha⟩⟩

theorem Run.append (h : Run cx W ext r L) (h' : Run cx W' r.2 r' L') :
    Run cx (W ∧ W') ext (r.1 ++ r'.1, r'.2) (fun ρ => Lang.union (L ρ) (L' ρ)) where
  pre := h.pre.trans h'.pre
  lang := fun ρ hc => by rw [denAlts_append, h.lang ρ (hc.prefix h'.pre), h'.lang ρ hc]
  shape := fun hw hst => by
    obtain ⟨hst1, hg1⟩ := h.shape hw.1 hst
    obtain ⟨hst2, hg2⟩ := h'.shape hw.2 hst1
    refine ⟨hst2, fun a ha => ?_⟩
    rcases List.mem_append.1 ha with ha | ha
    · exact (hg1 a ha).mono (Nat.add_le_add_left h'.pre.length_le _)
    · exact hg2 a ha

theorem Run.map (h : Run cx W ext r L) (f : Expr → Expr) (hd : ∀ ρ v, den cx.sets ρ (f v) = den cx.sets ρ v)
    (hg : ∀ n v, Good n v → Good n (f v)) : Run cx W ext (r.1.map f, r.2) L where
  pre := h.pre
  lang := fun ρ hc => (denAlts_map _ ρ f (hd ρ) _).trans (h.lang ρ hc)
  shape := fun hw hst => ⟨(h.shape hw hst).1, fun a ha => by
    obtain ⟨v, hv, rfl⟩ := List.mem_map.1 ha
    exact hg _ v ((h.shape hw hst).2 v hv)⟩

end

theorem Step.append {cx : Ctx} {e0 e1 e2 : List NT} {a b : List Expr} {L1 L2 : (Nat → Lang) → Lang}
    (h1 : Step cx e0 a e1 L1) (h2 : Step cx e1 b e2 L2) :
    Step cx e0 (a ++ b) e2 (fun ρ => Lang.union (L1 ρ) (L2 ρ)) :=
  (h1.run.append h2.run).step ⟨trivial, trivial⟩

variable (cx : Ctx) (curr : String)

theorem extract_run (ext : List NT) (v : Expr) :
    Run cx (ValOk cx ext.length v) ext ([(extract cx curr ext v).1], (extract cx curr ext v).2)
      (fun ρ => den cx.sets ρ v) := by
  obtain ⟨k, nt, ext', h, hk, rfl, hext⟩ := extract_cases cx curr ext v
  rw [h]
  refine ⟨?_, fun ρ hc => (denAlts_singleton _ ρ _).trans (hc k nt hk), fun hv hst => ⟨?_,
    Good.single (good_ref (Nat.add_lt_add_left (List.getElem?_eq_some_iff.1 hk).1 _))⟩⟩
  · rcases hext with rfl | rfl
    · exact List.prefix_refl _
    · exact List.prefix_append _ _
  · rcases hext with rfl | rfl
    · exact hst
    · exact hst.concat hv

theorem expandSeq_refs (ext : List NT) (n : Nat) :
    ∀ (es : List Expr) (x : Expr), es.all isRef = true → refsLtList n es = true → Good n x →
      ∃ a, expandSeq cx curr ext [x] es = ([a], ext) ∧ Good n a
  | [], x, _, _, hx => ⟨x, rfl, hx⟩
  | e :: es, x, h, hr, hx => by
    obtain ⟨he, hes⟩ := Bool.and_eq_true_iff.1 h
    obtain ⟨hre, hres⟩ := refsLtList_cons.1 hr
    obtain ⟨s, rfl⟩ := isRef_eq he
    -- `multiConcat [x] [ref s]` evaluates to `[concat [x, ref s]]`
    exact expandSeq_refs ext n es (concat [x, .ref s]) hes hres (concat_pair_good hx ⟨rfl, hre⟩)

def sepStep (ext : List NT) (s : Expr) : List Expr × List NT :=
  if !isEmptyExpr s then expandExpr cx curr ext s else ([.empty], ext)

def extractOpt (c : Bool) (ext : List NT) (v : Expr) : List Expr × List NT :=
  let x := extract cx curr ext v
  if c then ([(extract cx curr x.2 (.opt x.1)).1], (extract cx curr x.2 (.opt x.1)).2) else ([x.1], x.2)

theorem expandExpr_list (ext : List NT) (ne rr : Bool) (e s : Expr) :
    expandExpr cx curr ext (.list ne rr e s) =
      extractOpt cx curr (!ne && !isEmptyExpr s) (sepStep cx curr (expandExpr cx curr ext e).2 s).2
        (.list (ne || !isEmptyExpr s) rr (wrapChoice (expandExpr cx curr ext e).1)
          (wrapChoice (sepStep cx curr (expandExpr cx curr ext e).2 s).1)) := by
  unfold extractOpt sepStep
  rw [expandExpr]

theorem sepStep_run {W : Prop} {s : Expr} {ext : List NT}
    (ih : Run cx W ext (expandExpr cx curr ext s) (fun ρ => den cx.sets ρ s)) :
    Run cx W ext (sepStep cx curr ext s) (fun ρ => den cx.sets ρ s) := by
  unfold sepStep
  cases hs : isEmptyExpr s
  · exact ih
  · rw [isEmptyExpr_eq hs]
    exact .pure fun _ => Good.empty _

theorem sepStep_simple (ext : List NT) (n : Nat) (s : Expr) (h : simpleSep s = true)
    (hr : refsLt n s = true) :
    ∃ a, sepStep cx curr ext s = ([a], ext) ∧ Good n a ∧ ((!isEmptyExpr s) = true ∨ a = .empty) := by
  revert h
  -- the rows of `simpleSep`: no separator, a reference, a sequence of references, anything else
  fun_cases simpleSep s <;> intro h
  · exact ⟨.empty, rfl, Good.empty n, .inr rfl⟩
  · exact ⟨_, rfl, ⟨rfl, hr⟩, .inl rfl⟩
  · obtain ⟨a, ha, hg⟩ := expandSeq_refs cx curr ext n _ .empty h hr (Good.empty n)
    exact ⟨a, ha, hg, .inl rfl⟩
  · cases h

theorem extractOpt_run (c : Bool) (ext : List NT) (v : Expr) :
    Run cx (ValOk cx ext.length v) ext (extractOpt cx curr c ext v)
      (fun ρ => if c then Lang.union (den cx.sets ρ v) Lang.eps else den cx.sets ρ v) := by
  have hx := extract_run cx curr ext v
  unfold extractOpt
  cases c <;> simp only [Bool.false_eq_true, if_false, if_true]
  · exact hx
  · have hy := extract_run cx curr (extract cx curr ext v).2 (.opt (extract cx curr ext v).1)
    refine ⟨hx.pre.trans hy.pre, fun ρ hc => (hy.lang ρ hc).trans ?_, fun hv hst => ?_⟩
    · exact congrArg (Lang.union · Lang.eps)
        ((denAlts_singleton _ ρ _).symm.trans (hx.lang ρ (hc.prefix hy.pre)))
    · obtain ⟨k, nt, ext', h, hk, -⟩ := extract_cases cx curr ext v
      rw [h] at hx hy ⊢
      exact hy.shape (Nat.add_lt_add_left (List.getElem?_eq_some_iff.1 hk).1 _) (hx.shape hv hst).1

/-! `Good n` of a wrapper (`arrow`, `assign`, `append`, `prec`) unfolds to `Good n` of its body. -/

mutual
theorem expandExpr_run : ∀ (e : Expr) (ext : List NT),
    Run cx (wfExpr cx.base cx.setTerms.length e = true) ext (expandExpr cx curr ext e)
      (fun ρ => den cx.sets ρ e)
  | .empty, ext | .command _, ext | .marker _, ext => .pure fun _ => ⟨rfl, rfl⟩
  | .ref s, ext => .pure fun hw => good_ref (Nat.lt_add_right _ (of_decide_eq_true hw))
  | .prec _ _, ext => .pure fun hw => nomatch hw
  | .opt e, ext => ((expandExpr_run e ext).append (.pure fun _ => Good.empty _)).imp fun hw => ⟨hw, trivial⟩
  | .seq es, ext => by
    have ih := expandSeq_run es ext [.empty]
    refine ⟨ih.pre, fun ρ hc => (ih.lang ρ hc).trans ?_, fun hw => ih.shape ⟨hw, Good.single (Good.empty _)⟩⟩
    rw [denAlts_singleton]; exact Lang.eps_cat _
  | .choice es, ext => expandAlt_run es ext
  | .arrow n e, ext => (expandExpr_run e ext).map (.arrow n) (fun _ _ => rfl) fun _ _ h => h
  | .assign n e, ext | .append n e, ext =>
    -- an `Empty` alternative is left as it is
    (expandExpr_run e ext).map _ (fun _ v => by cases isEmptyExpr v <;> rfl)
      fun _ v h => by cases isEmptyExpr v <;> exact h
  | .set i, ext => (extract_run cx curr ext _).imp fun hw => of_decide_eq_true (p := i < cx.setTerms.length) hw
  | .lookahead ps, ext => (extract_run cx curr ext _).imp fun _ => trivial
  | .list ne rr e s, ext => by
    have ih1 := expandExpr_run e ext
    have ih2 := sepStep_run cx curr (expandExpr_run s (expandExpr cx curr ext e).2)
    rw [expandExpr_list]
    generalize expandExpr cx curr ext e = r1 at ih1 ih2 ⊢
    have ho := extractOpt_run cx curr (!ne && !isEmptyExpr s) (sepStep cx curr r1.2 s).2
      (.list (ne || !isEmptyExpr s) rr (wrapChoice r1.1) (wrapChoice (sepStep cx curr r1.2 s).1))
    refine ⟨ih1.pre.trans (ih2.pre.trans ho.pre), fun ρ hc => ?_, fun hw hst => ?_⟩
    · have hc2 := hc.prefix ho.pre
      rw [ho.lang ρ hc, den_list, den_list, den_wrapChoice, den_wrapChoice,
        ih1.lang ρ (hc2.prefix ih2.pre), ih2.lang ρ hc2]
      -- `(e separator s)*` is the optional of `(e separator s)+`; otherwise the flag is unchanged
      generalize (!isEmptyExpr s) = hasSep
      cases ne <;> cases hasSep <;> rfl
    · obtain ⟨hwe, hss, hws⟩ := wfExpr_list hw
      obtain ⟨hst1, hg1⟩ := ih1.shape hwe hst
      obtain ⟨sa, hsa, hsg, hse⟩ := sepStep_simple cx curr r1.2 (cx.base + r1.2.length) s hss
        (refsLt_mono (Nat.le_add_right _ _) s (wf_refsLt _ _ s hws))
      -- a simple separator expands to one alternative `sa` and leaves the state alone; `wrapChoice [sa]` is `sa`
      rw [hsa] at ho ⊢
      exact ho.shape ⟨hse.imp_left fun h => by rw [h, Bool.or_true], wrapChoice_elemOk hg1, hsg⟩ hst1
  termination_by structural e => e
theorem expandSeq_run : ∀ (es : List Expr) (ext : List NT) (acc : List Expr),
    Run cx (wfList cx.base cx.setTerms.length es = true ∧ ∀ a ∈ acc, Good (cx.base + ext.length) a) ext
      (expandSeq cx curr ext acc es) (fun ρ => Lang.cat (denAlts cx.sets ρ acc) (denSeq cx.sets ρ es))
  | [], ext, acc => ⟨List.prefix_refl _, fun ρ _ => (Lang.cat_eps _).symm, fun hw hst => ⟨hst, hw.2⟩⟩
  | e :: es, ext, acc => by
    have ih1 := expandExpr_run e ext
    have ih2 := expandSeq_run es (expandExpr cx curr ext e).2 (multiConcat acc (expandExpr cx curr ext e).1)
    refine ⟨ih1.pre.trans ih2.pre, fun ρ hc => (ih2.lang ρ hc).trans ?_, fun hw hst => ?_⟩
    · rw [denAlts_multiConcat, ih1.lang ρ (hc.prefix ih2.pre), Lang.cat_assoc]; rfl
    · obtain ⟨hst1, hg1⟩ := ih1.shape (wfList_cons hw.1).1 hst
      exact ih2.shape ⟨(wfList_cons hw.1).2, multiConcat_good
        (fun a ha => (hw.2 a ha).mono (Nat.add_le_add_left ih1.pre.length_le _)) hg1⟩ hst1
  termination_by structural es => es
theorem expandAlt_run : ∀ (es : List Expr) (ext : List NT),
    Run cx (wfList cx.base cx.setTerms.length es = true) ext (expandAlt cx curr ext es)
      (fun ρ => denAlt cx.sets ρ es)
  | [], _ => .nil
  | e :: es, ext => ((expandExpr_run e ext).append (expandAlt_run es _)).imp wfList_cons
  termination_by structural es => es
end

theorem expandSeq_spec : ∀ (es : List Expr) (ext : List NT) (acc : List Expr),
    ext <+: (expandSeq cx curr ext acc es).2 ∧
    ∀ ρ, Consistent cx ρ (expandSeq cx curr ext acc es).2 →
      denAlts cx.sets ρ (expandSeq cx curr ext acc es).1 =
        Lang.cat (denAlts cx.sets ρ acc) (denSeq cx.sets ρ es) :=
  fun es ext acc => ⟨(expandSeq_run cx curr es ext acc).pre, (expandSeq_run cx curr es ext acc).lang⟩

theorem expandSeq_inv : ∀ (es : List Expr) (ext : List NT) (acc : List Expr),
    wfList cx.base cx.setTerms.length es = true → StOk cx ext →
    (∀ a ∈ acc, Good (cx.base + ext.length) a) →
    StOk cx (expandSeq cx curr ext acc es).2 ∧
      ∀ a ∈ (expandSeq cx curr ext acc es).1, Good (cx.base + (expandSeq cx curr ext acc es).2.length) a :=
  fun es ext acc hw hst hacc => (expandSeq_run cx curr es ext acc).shape ⟨hw, hacc⟩ hst

theorem expandAlt_inv : ∀ (es : List Expr) (ext : List NT),
    wfList cx.base cx.setTerms.length es = true → StOk cx ext →
    StOk cx (expandAlt cx curr ext es).2 ∧
      ∀ a ∈ (expandAlt cx curr ext es).1, Good (cx.base + (expandAlt cx curr ext es).2.length) a :=
  fun es ext => (expandAlt_run cx curr es ext).shape

theorem expandRule_run (e : Expr) (ext : List NT) :
    Run cx (wfRule cx.base cx.setTerms.length e = true) ext (expandRule cx curr ext e)
      (fun ρ => den cx.sets ρ e) := by
  cases e
  case prec s e => exact (expandExpr_run cx curr e ext).map (.prec s) (fun _ _ => rfl) fun _ _ h => h
  all_goals exact expandExpr_run cx curr _ ext

theorem expandRules_run : ∀ (es : List Expr) (ext : List NT),
    Run cx (∀ e ∈ es, wfRule cx.base cx.setTerms.length e = true) ext (expandRules cx curr ext es)
      (fun ρ => denAlt cx.sets ρ es)
  | [], _ => .nil
  | e :: es, ext => ((expandRule_run cx curr e ext).append (expandRules_run es _)).imp List.forall_mem_cons.1

theorem dropEmpties_eq_filter : ∀ (l : List Expr), dropEmpties l = l.filter fun e => !isEmptyExpr e
  | [] => rfl
  | e :: es => by
    rw [dropEmpties, List.filter_cons, dropEmpties_eq_filter es]
    cases isEmptyExpr e <;> rfl

/-- the alternatives dropped are `Empty`, and the first `Empty` stays -/
theorem mem_collapseEmpty {a : Expr} {l : List Expr} : a ∈ collapseEmpty l ↔ a ∈ l := by
  fun_induction collapseEmpty l with
  | case1 => exact Iff.rfl
  | case2 e es he =>
    rw [List.mem_cons, List.mem_cons, dropEmpties_eq_filter, List.mem_filter]
    refine ⟨Or.imp_right And.left, fun h => h.elim .inl fun h => ?_⟩
    cases ha : isEmptyExpr a
    · exact .inr ⟨h, rfl⟩
    · exact .inl ((isEmptyExpr_eq ha).trans (isEmptyExpr_eq he).symm)
  | case3 e es he ih => rw [List.mem_cons, List.mem_cons, ih]

/-- what the first loop of `Expand` establishes for one user nonterminal -/
def UserOk (cx : Ctx) (extF : List NT) (e : Expr) : Option (List Expr) → Prop
  | some alts =>
    (∀ ρ, Consistent cx ρ extF → denAlts cx.sets ρ alts = den cx.sets ρ e) ∧
      ∀ a ∈ alts, Good (cx.base + extF.length) a
  | none => (∃ i, e = .set i ∧ i < cx.setTerms.length) ∨ ∃ ps, e = .lookahead ps

theorem UserOk.mono {cx : Ctx} {e1 e2 : List NT} {e : Expr} {o : Option (List Expr)}
    (h : UserOk cx e1 e o) (hp : e1 <+: e2) : UserOk cx e2 e o := by
  cases o with
  | none => exact h
  | some alts =>
    exact ⟨fun ρ hc => h.1 ρ (hc.prefix hp),
      fun a ha => (h.2 a ha).mono (Nat.add_le_add_left hp.length_le _)⟩

theorem Run.userOk {cx : Ctx} {W : Prop} {ext : List NT} {r : List Expr × List NT} {e : Expr}
    (h : Run cx W ext r (fun ρ => den cx.sets ρ e)) (hw : W) (hst : StOk cx ext) :
    ext <+: r.2 ∧ StOk cx r.2 ∧ UserOk cx r.2 e (some (collapseEmpty r.1)) :=
  ⟨h.pre, (h.shape hw hst).1,
   fun ρ hc => (Lang.ext fun _ => exists_congr fun _ => and_congr_left' mem_collapseEmpty).trans (h.lang ρ hc),
   fun a ha => (h.shape hw hst).2 a (mem_collapseEmpty.1 ha)⟩

theorem expandTop_spec (e : Expr) (ext : List NT) (hw : wfTop cx.base cx.setTerms.length e = true)
    (hst : StOk cx ext) :
    ext <+: (expandTop cx curr ext e).2 ∧ StOk cx (expandTop cx curr ext e).2 ∧
      UserOk cx (expandTop cx curr ext e).2 e (expandTop cx curr ext e).1 := by
  cases e
  case choice subs => exact (expandRules_run cx curr subs ext).userOk (List.all_eq_true.1 hw) hst
  case set i =>
    exact ⟨List.prefix_refl _, hst, Or.inl ⟨i, rfl, of_decide_eq_true (p := i < cx.setTerms.length) hw⟩⟩
  case lookahead ps =>
    exact ⟨List.prefix_refl _, hst, Or.inr ⟨ps, rfl⟩⟩
  all_goals
    simp only [wfTop] at hw
    simp only [expandTop]
    exact (expandRule_run cx curr _ ext).userOk hw hst

theorem expandUsers_spec : ∀ (us : List (String × Expr)) (ext : List NT),
    (∀ u ∈ us, wfTop cx.base cx.setTerms.length u.2 = true) → StOk cx ext →
    ext <+: (expandUsers cx ext us).2 ∧ StOk cx (expandUsers cx ext us).2 ∧
      (expandUsers cx ext us).1.length = us.length ∧
      ∀ (i : Nat) (u : String × Expr), us[i]? = some u → ∃ o, (expandUsers cx ext us).1[i]? = some o ∧
        UserOk cx (expandUsers cx ext us).2 u.2 o
  | [], _, _, hst => ⟨List.prefix_refl _, hst, rfl, fun _ _ h => nomatch h⟩
  | (n, e) :: us, ext, hw, hst => by
    have h1 := expandTop_spec cx n e ext (hw _ List.mem_cons_self) hst
    have h2 := expandUsers_spec us _ (fun u hu => hw u (List.mem_cons_of_mem _ hu)) h1.2.1
    refine ⟨h1.1.trans h2.1, h2.2.1, congrArg (· + 1) h2.2.2.1, fun i u hi => ?_⟩
    cases i with
    | zero => cases hi; exact ⟨_, rfl, h1.2.2.mono h2.1⟩
    | succ i => exact h2.2.2.2 i u hi

end TmVerif.Expand
