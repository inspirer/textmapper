import TmVerif.Proofs.ShiftDfa
/-!
C24 — Shift-DFA scanners agree with the lexer tables they pack.

`pack` mirrors `shiftdfa.Pack`, `Scanner.scan` mirrors `shiftdfa.Scanner.Scan`, `lexScan` mirrors
`lex.Tables.Scan` (`Model/ShiftDfa.lean`, `Model/LexTables.lean`). The theorems are about ALL tables
and ALL byte strings; `WFBytes` is the decidable well-formedness of byte-mode lexer tables that every
output of `lex.Compile(…, scanBytes = true, …)` satisfies (the driver evaluates it on every real table).

Before fixes/C24-pack-guard.diff the guard of `Pack` was `LastMapEntry.Start > 0xff`, which does
not imply what the packing needs (all bytes `≥ 0x80` belong to the last symbol-map entry, i.e.
`Start ≤ 0x80`); `C24_old_guard_insufficient` keeps the witness, `C24_pack_rejects_old_witness` shows
that the fixed `Pack` rejects it.
-/
namespace TmVerif.ShiftDfa
open TmVerif.LexTables

def WFBytes (t : Tables) : Bool := t.scanBytes && t.wf

/-- `(size, token)` of the packed scanner is what `Tables.Scan(0, input)` returns (which does not panic). -/
def Agree (t : Tables) (s : Scanner) (input : List UInt8) : Prop :=
  ∀ decode, lexScan decode t 0 input = some ((s.scan input).1, ((s.scan input).2 : Int))

theorem agree_of (guard : Int) (t : Tables) (s : Scanner) (hg : guard ≤ 0x80)
    (hw : WFBytes t = true) (h : packWith guard t = .ok s) (input : List UInt8) : Agree t s input := by
  intro decode
  simp only [WFBytes, Bool.and_eq_true] at hw
  have w := wf_of_wf t hw.2
  have ps := packWith_spec w h
  unfold lexScan
  rw [if_pos hw.1]
  exact ps.agrees w (fun e he => Int.le_trans (ps.last_le e he) hg) input

/-- `Pack` (guard `> 0x80`): for ALL well-formed byte-mode tables it accepts and ALL byte strings the
packed scanner returns what `Tables.Scan(0, ·)` returns. -/
theorem C24_pack_agrees (t : Tables) (s : Scanner) (hp : pack t = .ok s) (hw : WFBytes t = true)
    (input : List UInt8) : Agree t s input :=
  agree_of asciiGuard t s (by decide) hw hp input

/-- `Pack` with any guard constant `≤ 0x80` (the fixed code has `0x80`): full agreement, the guard
is part of `packWith … = ok`. -/
theorem C24_pack_agrees_for_guard_le_0x80 (guard : Int) (hg : guard ≤ 0x80) (t : Tables) (s : Scanner)
    (hp : packWith guard t = .ok s) (hw : WFBytes t = true) (input : List UInt8) : Agree t s input :=
  agree_of guard t s hg hw hp input

/-- Real tables of the rules `[a-z]+`, `[0-9]+`, `[^a-z0-9]` (byte mode). -/
def sampleTables : Tables where
  scanBytes := true
  symbolMap := #[⟨0, 1⟩, ⟨48, 2⟩, ⟨58, 1⟩, ⟨97, 3⟩, ⟨123, 1⟩]
  numSymbols := 4
  stateMap := #[0]
  dfa := #[-1, 3, 2, 1, -2, -2, -2, 1, -3, -3, 2, -3, -4, -4, -4, -4]
  backtrack := #[]

/-- Real tables of the rules `a`, `[\x90-\x9f]+`, `b+` (byte mode), accepted by `Pack`. -/
def witnessTables : Tables where
  scanBytes := true
  symbolMap := #[⟨0, 1⟩, ⟨97, 2⟩, ⟨98, 3⟩, ⟨99, 1⟩, ⟨144, 4⟩, ⟨160, 1⟩]
  numSymbols := 5
  stateMap := #[0]
  dfa := #[-1, -1, 3, 2, 1, -3, -3, -3, -3, 1, -4, -4, -4, 2, -4, -2, -2, -2, -2, -2]
  backtrack := #[]

def witnessInput : List UInt8 := [0x95, 0x95, 0x61]

def packed (t : Tables) : Scanner := match pack t with | .ok s => s | .error _ => default

def packOk (t : Tables) : Bool := match pack t with | .ok _ => true | .error _ => false

theorem pack_eq_packed (t : Tables) (h : packOk t = true) : pack t = .ok (packed t) := by
  unfold packOk at h
  unfold packed
  cases hp : pack t with
  | ok s => rfl
  | error e => rw [hp] at h; exact nomatch h

-- non-vacuity of `C24_pack_agrees` / `…_for_guard_le_0x80`: a real table satisfies all hypotheses
set_option maxRecDepth 100000 in
example : pack sampleTables = .ok (packed sampleTables) ∧ WFBytes sampleTables = true :=
  ⟨pack_eq_packed _ (by decide +kernel), by decide +kernel⟩

set_option maxRecDepth 100000 in
example : ∃ s, packWith 0x80 sampleTables = .ok s := ok_of_isOk (by decide +kernel)

/-- The old guard `> 0xff` was insufficient: the tables of `a`, `[\x90-\x9f]+`, `b+` are well-formed
and were accepted; the packed scanner returns `(0, 0)` on `"\x95\x95a"`, the lexer tables `(2, 2)`. -/
theorem C24_old_guard_insufficient :
    ¬ ∀ (t : Tables) (s : Scanner), packWith 0xff t = .ok s → WFBytes t = true → ∀ input, Agree t s input := by
  intro h
  obtain ⟨s, hp⟩ : ∃ s, packWith 0xff witnessTables = .ok s := ok_of_isOk (by decide +kernel)
  have h1 := h witnessTables s hp (by decide +kernel) witnessInput (fun _ => [])
  have h2 : lexScan (fun _ => []) witnessTables 0 witnessInput = some (2, 2) := by decide +kernel
  -- field 0 of the row of 0x95 holds the action of the last map entry's symbol, not that of 0x95
  have hf := (packWith_spec (wf_of_wf _ (by decide +kernel)) hp).fld 0x95 0
    (by decide) (by decide +kernel)
  have hv : cellVal witnessTables 0 (packCls witnessTables 0x95) = 1 := by
    decide +kernel
  rw [hv] at hf
  have h3 : s.scan witnessInput = (0, 0) := scan_first_odd s 0x95 [0x95, 0x61] 1 hf (by decide)
  rw [h2, h3] at h1
  exact absurd h1 (by decide)

/-- The fixed `Pack` rejects the witness tables ("only ASCII automatons are supported"). -/
theorem C24_pack_rejects_old_witness : pack witnessTables = .error .notAscii := by decide +kernel

end TmVerif.ShiftDfa
