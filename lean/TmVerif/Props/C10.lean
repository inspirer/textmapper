import TmVerif.Proofs.Charset
import TmVerif.Proofs.Regex
/-!
C10 — Regular expressions and character classes denote their documented sets (property theorems only).

Range-list algebra of `lex/charset.go` (model: `Model/Charset.lean`), for ALL range lists and
ALL code points (`Int`): the set denoted by the result of every operation, and preservation of the
representation invariant `Normalized` (non-empty ranges, sorted, disjoint, not adjacent).
`C10_normalized_ext` makes the invariant canonical: two normalized lists denoting the same set are
equal, so comparing lists (what the correspondence run does) decides equality over all 0x110000 code points.

Escape decoding (`Model/Regex.lean`): `hexval`/`octval`, and `\xHH` of the documented behaviour (`Variant.strict`)
for all pairs of digits (`C10_escape_x2`).  The pinned tree deviates (`hexval` accepts `G`–`Z`, the accumulator
wraps at 32 bits, `\p{script}` always adds the fold table, byte mode folds non-ASCII runes): for each deviation one
witness (`\UFFFFFFFF`, `\xZZ`, `\p{Greek}`, U+212A) on which the documented behaviour and the mirror of the current
code differ; the `…_refuted` theorems say what the mirror does there.

Reference parser: a rejected pattern is rejected with a byte range inside the pattern; the
canonical form used to compare ASTs preserves the language.
-/
namespace TmVerif.C10
open TmVerif.Charset TmVerif.Regex

theorem C10_newCharset_mem (c : Charset) (r : Int) : Mem r (newCharset c) ↔ Mem r c :=
  mem_newCharset c r

theorem C10_newCharset_normalized (c : Charset) (hv : Valid c) : Normalized (newCharset c) :=
  normalized_newCharset c hv

example : Valid [(5, 9), (1, 3), (4, 4)] := by
  intro p hp; simp at hp; rcases hp with rfl | rfl | rfl <;> decide

theorem C10_appendRange_mem (c : Charset) (lo hi r : Int) :
    Mem r (appendRange c lo hi) ↔ Mem r c ∨ (lo ≤ r ∧ r ≤ hi) :=
  mem_appendRange c lo hi r

theorem C10_invert_mem (max : Int) (c : Charset) (hc : Normalized c) (hw : Within 0 max c) (r : Int) :
    Mem r (invert max c) ↔ 0 ≤ r ∧ r ≤ max ∧ ¬ Mem r c :=
  (invertFrom_nf max 0 c hc hw).mem r

theorem C10_invert_normalized (max : Int) (c : Charset) (hc : Normalized c) (hw : Within 0 max c) :
    Normalized (invert max c) ∧ Within 0 max (invert max c) :=
  ⟨(invertFrom_nf max 0 c hc hw).norm, (invertFrom_nf max 0 c hc hw).within fun _ h => ⟨h.1, h.2.1⟩⟩

example : Normalized [(0, 9), (11, 255)] ∧ Within 0 255 [(0, 9), (11, 255)] ∧
    invert 255 [(0, 9), (11, 255)] = [(10, 10)] := by
  refine ⟨by decide, ?_, by decide⟩
  intro p hp; simp at hp; rcases hp with rfl | rfl <;> decide

theorem C10_subtract_mem (c oth : Charset) (hc : Normalized c) (ho : Normalized oth) (r : Int) :
    Mem r (subtract c oth) ↔ Mem r c ∧ ¬ Mem r oth :=
  (subtract_nf c oth hc ho).mem r

theorem C10_subtract_normalized (c oth : Charset) (hc : Normalized c) (ho : Normalized oth) :
    Normalized (subtract c oth) :=
  (subtract_nf c oth hc ho).norm

example : Normalized [(65, 90)] ∧ Normalized [(68, 70)] ∧ subtract [(65, 90)] [(68, 70)] = [(65, 67), (71, 90)] := by
  decide

theorem C10_intersect_mem (a b : Charset) (ha : Normalized a) (hb : Normalized b) (r : Int) :
    Mem r (intersect a b) ↔ Mem r a ∧ Mem r b :=
  (intersect_nf a b ha hb).mem r

example : Normalized [(1, 5), (9, 12)] ∧ Normalized [(4, 10)] := by decide

theorem C10_intersect_normalized (a b : Charset) (ha : Normalized a) (hb : Normalized b) :
    Normalized (intersect a b) :=
  (intersect_nf a b ha hb).norm

/-- Case folding with respect to a table of `SimpleFold` orbits: the set itself plus every member of an
orbit that meets the set (ASCII members only when `ascii`). -/
theorem C10_fold_mem (orbits : List (List Int)) (ascii : Bool) (c : Charset) (r : Int) :
    Mem r (fold orbits ascii c) ↔
      Mem r c ∨ ∃ o ∈ orbits, r ∈ o ∧ (∃ m ∈ o, Mem m c) ∧ (ascii = true → r < 0x80) :=
  mem_fold orbits ascii c r

theorem C10_fold_normalized (orbits : List (List Int)) (ascii : Bool) (c : Charset) (hc : Valid c) :
    Normalized (fold orbits ascii c) :=
  normalized_fold orbits ascii c hc

/-- Equal sets ⇒ equal lists. -/
theorem C10_normalized_ext (a b : Charset) (ha : Normalized a) (hb : Normalized b)
    (h : ∀ r, Mem r a ↔ Mem r b) : a = b :=
  normalized_ext a b ha hb h

example : Normalized [(1, 3), (5, 9)] ∧ Normalized [(1, 3), (5, 9)] := by decide

/-- The invariant is decidable by the checker the driver uses. -/
theorem C10_normalizedB_iff (c : Charset) : normalizedB c = true ↔ Normalized c := normalizedB_iff c

/-- `hexval` of the documented behaviour: a value exactly on `[0-9a-fA-F]`. -/
theorem C10_hexval_spec (r : Int) : hexval false r ≠ -1 ↔ isHexDigit r := hexval_spec r

theorem C10_hexval_value (r : Int) (h : isHexDigit r) :
    hexval false r = (if 48 ≤ r ∧ r ≤ 57 then r - 48 else if 97 ≤ r then r - 87 else r - 55) ∧
    0 ≤ hexval false r ∧ hexval false r < 16 := hexval_value r h

example : isHexDigit 70 ∧ hexval false 70 = 15 := by decide

/-- The full statement for a `hexval` with lax digits (the pinned tree, `case r >= 'A' && r <= 'Z'`). -/
def C10_hexval_spec_current_tree_full : Prop := ∀ r, hexval true r ≠ -1 ↔ isHexDigit r

/-- It is false: `'Z'` is accepted with value 35. -/
theorem C10_hexval_spec_current_tree_refuted : ¬ C10_hexval_spec_current_tree_full := by
  intro h
  have := (h 90).1 (by decide)
  revert this; decide

theorem C10_octval_spec (r : Int) : octval r ≠ -1 ↔ (48 ≤ r ∧ r ≤ 55) := octval_spec r

theorem C10_octval_value (r : Int) (h : 48 ≤ r ∧ r ≤ 55) : octval r = r - 48 := octval_value r h

/-- `\xHH` (documented behaviour, outside a class or inside, any mode, no folding): two hexadecimal
digits denote exactly the rune `16·h₁ + h₂`, and the rest of the input is untouched. -/
theorem C10_escape_x2 (env : Env) (bytes standalone : Bool) (h1 h2 : Nat) (rest : List Nat)
    (d1 : isHexDigit h1) (d2 : isHexDigit h2) :
    parseEscape env Variant.strict false bytes standalone (0x78 :: h1 :: h2 :: rest) =
      .ok ([(hexval false h1 * 16 + hexval false h2, hexval false h1 * 16 + hexval false h2)], rest) :=
  escape_x2 env bytes standalone h1 h2 rest d1 d2

example : isHexDigit (52 : Nat) ∧ isHexDigit (49 : Nat) := by decide

/-- `\UHHHHHHHH` beyond `unicode.MaxRune` is rejected by the documented behaviour … -/
theorem C10_escape_U_out_of_range_rejected (env : Env) :
    ∃ msg lo hi, refParse env false false [0x5C, 0x55, 0x46, 0x46, 0x46, 0x46, 0x46, 0x46, 0x46, 0x46] =
      .error msg lo hi := ⟨_, _, _, rfl⟩

/-- … while the mirror of the pinned tree (32-bit wrap-around) accepts `\UFFFFFFFF` as the rune `-1`. -/
theorem C10_escape_wrap_current_tree_refuted (env : Env) :
    parse env ⟨true, true, true, true⟩ false false [0x5C, 0x55, 0x46, 0x46, 0x46, 0x46, 0x46, 0x46, 0x46, 0x46] =
      .ok (.cc [(-1, -1)]) := rfl

/-- `\xZZ`: rejected by the documented behaviour, accepted as U+0253 by the mirror of the pinned tree. -/
theorem C10_escape_xZZ (env : Env) :
    (∃ msg lo hi, refParse env false false [0x5C, 0x78, 0x5A, 0x5A] = .error msg lo hi) ∧
    parse env ⟨true, true, true, true⟩ false false [0x5C, 0x78, 0x5A, 0x5A] = .ok (.cc [(0x253, 0x253)]) :=
  ⟨⟨_, _, _, rfl⟩, rfl⟩

/-- `\p{script}` without case folding is exactly the script's table (documented behaviour) … -/
theorem C10_namedSet_script_nofold (tabs : List NamedTable) (name : String) (t : NamedTable) (bytes : Bool)
    (h1 : (name == "Any") = false) (h2 : (name == "Ascii") = false) (hb : bytes = false)
    (hc : tabs.find? (fun t => t.name == name && t.kind == .category) = none)
    (hs : tabs.find? (fun t => t.name == name && t.kind == .script) = some t) :
    namedSet tabs false name false bytes = some t.table := by
  subst hb
  simp [namedSet, h1, h2, hc, hs]

example : ∃ tabs : List NamedTable, ∃ t, ("Greek" == "Any") = false ∧ ("Greek" == "Ascii") = false ∧
    tabs.find? (fun t => t.name == "Greek" && t.kind == .category) = none ∧
    tabs.find? (fun t => t.name == "Greek" && t.kind == .script) = some t :=
  ⟨[⟨"Greek", .script, [(0x370, 0x373)], [(0xB5, 0xB5)]⟩], ⟨"Greek", .script, [(0x370, 0x373)], [(0xB5, 0xB5)]⟩,
    by decide, by decide, rfl, rfl⟩

/-- … while the mirror of the pinned tree (FoldScript added unconditionally) puts U+00B5 into `\p{Greek}`. -/
theorem C10_namedSet_script_current_tree_refuted :
    namedSet [⟨"Greek", .script, [(0x370, 0x373)], [(0xB5, 0xB5)]⟩] true "Greek" false false =
      some [(0x370, 0x373), (0xB5, 0xB5)] ∧
    namedSet [⟨"Greek", .script, [(0x370, 0x373)], [(0xB5, 0xB5)]⟩] false "Greek" false false =
      some [(0x370, 0x373)] := by
  constructor <;> decide

/-- In byte mode a single escaped rune ≥ 0x80 is never case-folded (documented behaviour: "no case folding
for non-ASCII in bytes mode") … -/
theorem C10_runeSet_bytes_nonascii (env : Env) (r : Int) (h : r ≥ 0x80) :
    runeSet env Variant.strict true true r = [(r, r)] := by
  simp [runeSet, Variant.strict, h]

/-- … while the mirror of the pinned tree folds U+212A (KELVIN SIGN) to a set containing `'K'`. -/
theorem C10_runeSet_bytes_current_tree_refuted :
    Mem 75 (runeSet ⟨[[75, 107, 8490]], []⟩ ⟨true, true, true, true⟩ true true 8490) := by
  have : runeSet ⟨[[75, 107, 8490]], []⟩ ⟨true, true, true, true⟩ true true 8490 =
      fold [[75, 107, 8490]] true [(8490, 8490)] := by simp [runeSet]
  rw [this, mem_fold]
  right
  exact ⟨[75, 107, 8490], by simp, by simp, ⟨8490, by simp, by simp [Mem]⟩, by intro _; decide⟩

/-- A rejected pattern is rejected with a byte range inside the pattern (`0 ≤ lo` holds in `Nat`). -/
theorem C10_refParse_error_in_pattern (env : Env) (fold bytes : Bool) (pat : List Nat) (msg : String)
    (lo hi : Nat) (h : refParse env fold bytes pat = .error msg lo hi) : lo ≤ hi ∧ hi ≤ pat.length :=
  parse_error_in_pattern env Variant.strict fold bytes pat msg lo hi h

example (env : Env) : ∃ msg lo hi, refParse env false false [0x28] = .error msg lo hi :=
  ⟨_, _, _, rfl⟩

/-- The same for the mirror of any variant of the code. -/
theorem C10_parse_error_in_pattern (env : Env) (v : Variant) (fold bytes : Bool) (pat : List Nat)
    (msg : String) (lo hi : Nat) (h : parse env v fold bytes pat = .error msg lo hi) :
    lo ≤ hi ∧ hi ≤ pat.length :=
  parse_error_in_pattern env v fold bytes pat msg lo hi h

/-- The canonical form compared by the correspondence run denotes the same language (for every
interpretation `ρ` of the named references `{name}`): equal canonical forms ⇒ equal languages. -/
theorem C10_canon_lang (ρ : List Nat → List Int → Prop) (r : Regex) (w : List Int) :
    Lang ρ (canon r) w ↔ Lang ρ r w := canon_lang ρ r w

theorem C10_canon_eq_lang (ρ : List Nat → List Int → Prop) (r g : Regex) (h : canon r = canon g)
    (w : List Int) : Lang ρ r w ↔ Lang ρ g w := by
  rw [← canon_lang ρ r w, ← canon_lang ρ g w, h]

example : canon (.cat .eps (.alt (.ext [97]) .eps)) = canon (.cat (.alt (.ext [97]) .eps) (.rep .eps 0 (some 0))) := by
  decide

end TmVerif.C10
