import TmVerif.Proofs.DiffApply
import TmVerif.Proofs.DiffText
import TmVerif.Proofs.DiffMyersSearch
import TmVerif.Proofs.DiffMyersTotal
/-!
C27 — Line diffs are correct and minimal.

Model: `TmVerif/Model/Diff.lean` mirrors `/repo/util/diff/diff.go`. `lcsWith raw` is the Go `lcs`
with the Myers search `middle` replaced by an arbitrary oracle `raw` for the split point (the
snake is re-checked element by element, as in the Go code); `lcs = lcsWith middleRaw`.
`none` models `log.Fatal` / an out-of-range slice / exhausted fuel.
-/
namespace TmVerif.Diff
open scoped List
variable {α : Type} [DecidableEq α]

/-- Correctness of the edit script, for ANY split-point oracle and all inputs: whenever `lcs`
returns, applying its chunks to `a` (deleting `del` lines, inserting the `ins` lines `LineDiff`
prints, keeping `eq` lines) yields exactly `b`, and the script's cost is the number of lines
actually deleted and inserted. -/
theorem C27_script_transforms (raw : List α → List α → Option (Nat × Nat × Nat)) (a b : List α)
    (cs : List Chunk) (h : lcsWith raw a b = some cs) :
    applyEdits (toEdits cs b) a = some b ∧ editCost (toEdits cs b) = scriptCost cs :=
  valid_apply cs a b (lcsWith_valid raw a b cs h)

-- non-vacuity: the premise is satisfiable (here without ever consulting the oracle)
example : lcsWith (fun _ _ => none) [1, 2, 5] [1, 3, 5] = some [⟨0, 0, 1⟩, ⟨1, 1, 1⟩] := by decide

/-- The dynamic-programming reference is the length of a longest common subsequence: it is
attained by a common subsequence and no common subsequence is longer. -/
theorem C27_dpLcs_optimal (a b : List α) :
    (∃ s, s <+ a ∧ s <+ b ∧ s.length = dpLcs a b) ∧
    ∀ s, s <+ a → s <+ b → s.length ≤ dpLcs a b := by
  rw [dpLcs_eq]
  exact ⟨lcsRec_witness a b, fun s h1 h2 => lcsRec_upper a b s h1 h2⟩

/-- No way of editing `a` into `b` by deleting, inserting and keeping lines costs less than
`|a| + |b| - 2·dpLcs a b`: this is what "minimal" is measured against. -/
theorem C27_cost_lower_bound (es : List (Edit α)) (a b : List α) (h : applyEdits es a = some b) :
    a.length + b.length ≤ editCost es + 2 * dpLcs a b := by
  rw [dpLcs_eq]; exact editCost_lower es a b h

/-- Minimality, given that every split point the oracle returns lies on an optimal path
(`OptimalSplit`, decidable per instance; the driver evaluates it for the mirrored Myers search on
every `mid` case and checks `cost = |a| + |b| - 2·dpLcs a b` on every script the Go code returns). -/
theorem C27_script_minimal_partial (raw : List α → List α → Option (Nat × Nat × Nat))
    (hraw : OptimalSplit raw) (a b : List α) (cs : List Chunk) (h : lcsWith raw a b = some cs) :
    scriptCost cs + 2 * dpLcs a b = a.length + b.length := by
  rw [dpLcs_eq]; exact lcsWith_minimal raw hraw a b cs h

-- non-vacuity of the hypothesis
example : OptimalSplit (fun (_ _ : List Nat) => none) := by intro a b ai bi mx h; cases h

/-- The hypothesis of `C27_script_minimal_partial` holds for the real oracle: for ALL inputs, a
split point that the mirrored bidirectional Myers search (`middle` up to its re-check loop) returns
lies on a shortest edit path. That it always returns one is `middleRaw_spec`, on which
`C27_lcs_total` rests. This is about the mirror, which drops a store outside `v1`/`v2` where Go
would panic (Model/Diff.lean). (Proof: furthest-reaching invariant of the forward and of the reverse
rounds on the unbounded edit graph, soundness and completeness of the overlap test with the
`limit`/`start` trimming of the Go code, termination within `max+1` rounds.) -/
theorem C27_middle_optimal : OptimalSplit (middleRaw (α := α)) := optimalSplit_of_good middleRaw_spec

/-- Minimality of the mirror of `lcs`, all inputs: whenever it returns a script, the script's cost
is exactly `|a| + |b| - 2·dpLcs a b`, which by `C27_cost_lower_bound` no edit list can beat. -/
theorem C27_script_minimal (a b : List α) (cs : List Chunk) (h : lcs a b = some cs) :
    scriptCost cs + 2 * dpLcs a b = a.length + b.length :=
  C27_script_minimal_partial middleRaw C27_middle_optimal a b cs h

/-- The mirror of `lcs` returns for every input: the `log.Fatal` calls of `trace` and `middle`, an
out-of-range or corner split point, a negative coordinate and the fuel of the model are never
reached (the search finds its split within `max+1` rounds; the sub-problems of `trace` again have
no common first or last element and are strictly smaller). -/
theorem C27_lcs_total (a b : List α) : ∃ cs, lcs a b = some cs := lcsWith_total middleRaw_spec a b

/-- The full statement: for every pair of inputs the mirror of `lcs` returns a script, the script
turns `a` into `b`, and its cost is the minimum `|a| + |b| - 2·dpLcs a b`. -/
theorem C27_script_minimal_full :
    ∀ (β : Type) [DecidableEq β] (a b : List β),
      ∃ cs, lcs a b = some cs ∧ applyEdits (toEdits cs b) a = some b ∧
        scriptCost cs + 2 * dpLcs a b = a.length + b.length := by
  intro β _ a b
  obtain ⟨cs, h, hv, hmin⟩ := lcsWith_spec middleRaw_spec a b
  exact ⟨cs, h, (valid_apply cs a b hv).1, dpLcs_eq a b ▸ hmin⟩

/-- `LineDiff` (the mirror) returns for every pair of texts. -/
theorem C27_linediff_total (left right : List Char) : ∃ t, lineDiff left right = some t := by
  unfold lineDiff lineDiffHunks
  split
  · exact ⟨_, rfl⟩
  · obtain ⟨cs, h⟩ := C27_lcs_total (splitLines left) (splitLines right)
    simp only [h]
    exact ⟨_, rfl⟩

/-- The rendered diff is empty exactly when the texts are equal. -/
theorem C27_linediff_empty_iff_equal (left right : List Char) :
    lineDiff left right = some [] ↔ left = right :=
  lineDiff_nil_iff left right

/-- No run of more than 14 deleted or inserted lines in the script of `left`/`right`
(`hunk.add` renders at most 14 lines of a run and replaces the rest by a marker line). -/
def ShortRuns (left right : List Char) : Prop :=
  ∀ cs, lcs (splitLines left) (splitLines right) = some cs → ∀ c ∈ cs, c.del ≤ 14 ∧ c.ins ≤ 14

/-- The hunks apply: for texts whose script has no run of more than 14 deleted or of more than 14
inserted lines, the patch applier run on the hunks `LineDiff` writes, applied to the lines of the
first text, yields exactly the lines of the second text (line numbers and sizes in the hunk headers
are checked by `applyHunks`). Without the hypothesis the statement is false:
`C27_hunks_apply_full_fails`. -/
theorem C27_hunks_apply_partial (left right : List Char) (hs : List Hunk)
    (h : lineDiffHunks left right = some hs) (hshort : ShortRuns left right) :
    applyHunks hs (splitLines left) = some (splitLines right) := by
  rcases lineDiffHunks_cases left right hs h with ⟨rfl, rfl⟩ | ⟨_, cs, hl, rfl⟩
  · rfl
  · exact hunksOfChunks_apply _ _ cs (lcsWith_valid _ _ _ _ hl) (hshort cs hl)

/-- The same on the rendered TEXT: parsing the unified diff that `LineDiff` prints and applying its
hunks to the first text gives the second text (same hypothesis on run lengths). -/
theorem C27_patch_applies_partial (left right text : List Char)
    (h : lineDiff left right = some text) (hshort : ShortRuns left right) :
    applyPatch text left = some right := by
  obtain ⟨hs, hh, rfl⟩ := Option.map_eq_some_iff.mp h
  have hgood : ∀ x ∈ hs, GoodHunk x := by
    rcases lineDiffHunks_cases left right hs hh with ⟨_, rfl⟩ | ⟨_, cs, _, rfl⟩
    · simp
    · exact hunksOfChunks_good _ _ cs (splitLines_noNL left) (splitLines_noNL right)
  unfold applyPatch
  rw [parsePatch_render hs hgood]
  simp only
  rw [C27_hunks_apply_partial left right hs hh hshort]
  simp [joinLines_splitLines]

/-- the full statement, without the restriction on run lengths -/
def C27_hunks_apply_full : Prop :=
  ∀ (left right : List Char) (hs : List Hunk), lineDiffHunks left right = some hs →
    applyHunks hs (splitLines left) = some (splitLines right)

/-- witness: "x\ny" against "x", fifteen new lines, "y" -/
def elisionLeft : List Char := ['x', '\n', 'y']
def elisionRight : List Char :=
  ['x', '\n', 'a', '\n', 'b', '\n', 'c', '\n', 'd', '\n', 'e', '\n', 'f', '\n', 'g', '\n', 'h', '\n',
   'i', '\n', 'j', '\n', 'k', '\n', 'l', '\n', 'm', '\n', 'n', '\n', 'o', '\n', 'y']

/-- The full statement is FALSE for the mirror (and, by the byte-for-byte correspondence of the
rendering, for `diff.LineDiff`): fifteen inserted lines are elided and the hunk does not apply. -/
theorem C27_hunks_apply_full_fails : ¬ C27_hunks_apply_full := by
  intro hfull
  have h1 : (lineDiffHunks elisionLeft elisionRight).bind
      (fun hs => applyHunks hs (splitLines elisionLeft)) ≠ some (splitLines elisionRight) := by
    decide
  cases hl : lineDiffHunks elisionLeft elisionRight with
  | none => exact absurd hl (by decide)
  | some hs =>
    apply h1
    rw [hl]
    exact hfull _ _ hs hl

-- non-vacuity of `ShortRuns` on a text pair with a real change
example : ShortRuns ['a', '\n', 'b'] ['a', '\n', 'c'] := by
  intro cs h
  have : lcs (splitLines ['a', '\n', 'b']) (splitLines ['a', '\n', 'c']) = some [⟨0, 0, 1⟩, ⟨1, 1, 0⟩] := by
    decide
  rw [this] at h
  cases h
  decide

end TmVerif.Diff
