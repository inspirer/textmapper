import TmVerif.Proofs.LRXPending
import TmVerif.Props.C20
/-!
# C20 (and C19 note) — the listener stream WITH reported skipped tokens

Layer `Model/LRXPending.lean` over the runtime model: lexer-driven generated parsers
(`tokenStream = false`) that report skipped tokens (`%inject`ed space/comment tokens,
`invalid_token`): `fetchNext` → `pending`, `flush` after every shift, `reportIgnoredToken`, pending
reset at the start of `parse()`; no cancellation (`cancelAt = 0`).

Option combination of the theorem = the property's hypothesis "trims trailing whitespace from node
ranges": `TrimAll x` (`fixWhitespace = true` and `fixTrailingWS` on every rule — the generator omits
the call only where it is the identity; the driver replays every real run with the flag on all rules
and compares) and NO error recovery (`x.recovering = false`; a syntax error ends the parse without a
flush). Without trimming the statement is false: a node ending in an empty symbol extends to the next
token's offset and is reported BEFORE a comment that lies inside it.
-/
namespace TmVerif.C20
open TmVerif.TreeBuilder TmVerif.EventNesting TmVerif.LRX TmVerif.LRXPending

/-- **Nesting with ignored tokens.** For every parser without error recovery that trims trailing
whitespace, every input whose reported skipped tokens lie between the real tokens (`IgnWF`), every
fuel (accepted, rejected or unfinished runs): the listener stream INCLUDING the `reportIgnoredToken`
calls is well nested — every node inside `[0, endOff]`, any two nodes disjoint or nested, a node that
contains another one reported after it. -/
theorem C20_nested_with_ignored (x : XTables) (p : PInput) (input : Nat) (stop : Bool) (fuel : Nat)
    (hx : XWF x) (ht : TrimAll x) (hi : InputWF p.inp) (hg : IgnWF p) (hr : x.recovering = false) :
    WellNested p.inp.endOff (pstream (prun x p input stop fuel).2) :=
  prun_wellNested hx ht hi hg hr input stop fuel

/-- non-vacuity: a comment between two tokens and an invalid token before end-of-input -/
example : IgnWF { inp := { toks := #[⟨1, 0, 1⟩, ⟨2, 6, 7⟩], endOff := 10 },
                  ign := #[[], [⟨9, 2, 5⟩], [⟨8, 8, 9⟩]] } := by decide
example : TrimAll { t := { (default : LR.Tables) with ruleLen := #[2, 0] },
                    rules := #[{ ruleType := 1, fixWS := true }, { ruleType := 2, fixWS := true }],
                    fixWhitespace := true } := by decide

/-- **Projection** (all tables, all inputs, with or without recovery): erasing the ignored-token calls
from the layered run gives exactly the run of the underlying model `Model/LRX.lean` — same result,
same final configuration, same listener/handler calls. Hence everything proved about `xrun` (C02's
event specification, C19, C29 with `cancelAt = 0`) holds for the non-ignored part of the stream. -/
theorem C20_ignored_projection (x : XTables) (p : PInput) (input : Nat) (stop : Bool) (fuel : Nat) :
    (prun x p input stop fuel).1 = (xrun x p.inp input stop 0 fuel).1 ∧
    (prun x p input stop fuel).2.x = (xrun x p.inp input stop 0 fuel).2 ∧
    eraseIgn (prun x p input stop fuel).2.out = (xrun x p.inp input stop 0 fuel).2.evs :=
  prun_proj x p input stop fuel

/-- The tree built from the stream with ignored tokens is the correct tree. -/
theorem C20_tree_with_ignored (x : XTables) (p : PInput) (input : Nat) (stop : Bool) (fuel : Nat)
    (hx : XWF x) (ht : TrimAll x) (hi : InputWF p.inp) (hg : IgnWF p) (hr : x.recovering = false) :
    let evs := pstream (prun x p input stop fuel).2
    (idsList (build evs)).Perm (List.range evs.length) ∧
    (∀ t ∈ subtreesList (build evs), NodeOK evs t) ∧
    (∀ r ∈ build evs, parentOf evs r.id = none) ∧
    (build evs).Pairwise SibOrder :=
  C20_builder_correct p.inp.endOff _ (prun_wellNested hx ht hi hg hr input stop fuel)

/-- NOT proved (and the layer does not model it): the same under error recovery. Missing pieces, all
inside `recoverFromError` / `skipBrokenCode` of `go_parser.go.tmpl`: `flush(p.next)` for every token
skipped while recovering and on the two give-up exits, the partial `flush(symbol{errSymbol, s, e})`
that keeps the pending tokens ending after `e`, and — when `invalid_token` is reported — the
extension of the `error` entry's range `[s, e]` over pending invalid tokens, which changes the
underlying run itself (so the projection lemma cannot hold verbatim there). `run` stands for a model
of that runtime. -/
def C20_nested_with_ignored_recovering
    (run : XTables → PInput → Nat → Bool → Nat → List TreeBuilder.Ev) : Prop :=
  ∀ (x : XTables) (p : PInput) (input : Nat) (stop : Bool) (fuel : Nat),
    XWF x → TrimAll x → InputWF p.inp → IgnWF p → x.recovering = true →
    WellNested p.inp.endOff (run x p input stop fuel)

end TmVerif.C20
