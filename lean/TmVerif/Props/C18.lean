/-
C18 — generation is deterministic (Mode F + M, DESIGN.md §4).

Three shapes of loop are invariant under permutation of the enumeration of a Go map: folds of commuting updates,
sorting after collecting, searching a unique element. `C18_<loop>` derives `Loop.OrderIndependent` for every loop
model of Model/Determinism.lean from them; `C18_classified_loops_order_independent` ties the expectation table to
these. The obligations over the facts regenerated from /repo on every run say that every map-range site of the
current tree is classified and nothing else in the inventory changed (`decide` over Facts/Generated.lean): a new,
moved or edited loop breaks `C18_all_sites_covered`, and with it the check. Last, the record of the fixed
finding C18-opt-alias-collision (the old loop model is order dependent).
-/
import TmVerif.Facts.Generated
import TmVerif.Facts.ExpectC18
import TmVerif.Proofs.Determinism
namespace TmVerif.C18
open TmVerif.Determinism TmVerif.Facts

/-- Shape (a): a fold whose steps commute on the members of the list does not depend on their order. -/
theorem C18_fold_comm_perm {α σ : Type} (f : σ → α → σ) {xs ys : List α} (h : xs.Perm ys)
    (comm : ∀ a ∈ xs, ∀ b ∈ xs, ∀ s, f (f s a) b = f (f s b) a) (s : σ) :
    xs.foldl f s = ys.foldl f s :=
  List.Perm.foldl_eq' h comm s

example : [1, 2, 3].foldl (· + ·) 0 = [3, 1, 2].foldl (· + ·) 0 := by decide

/-- Shape (a), maps: point updates at pairwise distinct keys commute, whatever each update does with the
old value of its own key. -/
theorem C18_point_updates_perm {α κ ν : Type} [DecidableEq κ] (key : α → κ) (upd : α → Option ν → Option ν)
    (m : GoMap κ ν) {xs ys : List α} (hd : DistinctBy key xs) (h : xs.Perm ys) :
    pointUpdates key upd m xs = pointUpdates key upd m ys :=
  fold_distinct_perm _ hd h (fun _ _ s hk => s.alter_comm hk _ _) m

example : DistinctBy Prod.fst [(1, "a"), (2, "b")] := by decide

/-- Shape (a), sets: conditional inserts commute and are idempotent; no hypothesis. -/
theorem C18_cond_adds_perm {α κ : Type} [DecidableEq κ] (key : α → κ) (cond : α → Bool) (s : GoSet κ)
    {xs ys : List α} (h : xs.Perm ys) : condAdds key cond s xs = condAdds key cond s ys := by
  unfold condAdds
  apply C18_fold_comm_perm _ h
  intro a _ b _ s
  cases cond a <;> cases cond b <;> simp only [if_true, Bool.false_eq_true, if_false]
  exact s.add_comm _ _

/-- Shape (b), core: two ordered lists with the same elements are equal when the order is antisymmetric
on these elements. (No reflexivity, transitivity or totality is needed.) -/
theorem C18_sorted_perm_unique {α : Type} (le : α → α → Prop) :
    ∀ (l₁ l₂ : List α), (∀ a ∈ l₁, ∀ b ∈ l₁, le a b → le b a → a = b) →
      l₁.Perm l₂ → l₁.Pairwise le → l₂.Pairwise le → l₁ = l₂ :=
  sorted_perm_unique le

example : ([1, 2, 3] : List Nat).Pairwise (· ≤ ·) := by decide

/-- Shape (b): the slice sorted after collecting the items of a map is the same for every enumeration order. -/
theorem C18_collect_sort_perm {α β : Type} (le : β → β → Prop) (srt : List β → List β)
    (items : α → List β) {xs ys : List α} (hs : SortSpec srt le)
    (anti : ∀ a ∈ xs.flatMap items, ∀ b ∈ xs.flatMap items, le a b → le b a → a = b)
    (h : xs.Perm ys) : collectSort srt items xs = collectSort srt items ys :=
  sort_perm hs anti (h.flatMap_right items)

/-- Shape (c): the first match does not depend on the order when at most one member matches. -/
theorem C18_find_unique_perm {α : Type} (p : α → Bool) {xs ys : List α} (h : xs.Perm ys)
    (uniq : ∀ a ∈ xs, ∀ b ∈ xs, p a = true → p b = true → a = b) : xs.find? p = ys.find? p := by
  cases hx : xs.find? p with
  | none => exact (List.find?_eq_none.2 fun x hxy => List.find?_eq_none.1 hx x (h.mem_iff.2 hxy)).symm
  | some a =>
    -- `a` is in `ys` too, so `ys` has a first match, and that is `a`
    have ha := List.mem_of_find?_eq_some hx
    obtain ⟨b, hy⟩ := Option.isSome_iff_exists.1 (List.find?_isSome.2 ⟨a, h.mem_iff.1 ha, List.find?_some hx⟩)
    rw [hy, uniq a ha b (h.mem_iff.2 (List.mem_of_find?_eq_some hy)) (List.find?_some hx) (List.find?_some hy)]

example : [(1, 5), (2, 7)].find? (fun e => e.2 == 7) = [(2, 7), (1, 5)].find? (fun e => e.2 == 7) := by decide

theorem C18_lalrMarkerBits : Loop.lalrMarkerBits.OrderIndependent :=
  fun _ _ _ _ h => C18_cond_adds_perm _ _ _ h

theorem C18_lalrTrieRules : Loop.lalrTrieRules.OrderIndependent :=
  fun _ srt info _ _ hs hd h => C18_collect_sort_perm _ srt _ hs
    (anti_of_distinct_keys (fun e => (e.1, info e.1 e.2)) Prod.fst _ hd fun _ _ _ _ => Nat.le_antisymm) h

theorem C18_lalrTrieTerms : Loop.lalrTrieTerms.OrderIndependent :=
  fun srt _ _ hs hd h => C18_collect_sort_perm _ srt _ hs
    (anti_of_distinct_keys (fun e => e) Prod.fst _ hd fun _ _ _ _ => Nat.le_antisymm) h

theorem C18_expandUpdateArgRefs : Loop.expandUpdateArgRefs.OrderIndependent :=
  fun _ _ _ hd h => C18_point_updates_perm _ _ _ hd h

theorem C18_syntaxRearrangeArgRefs : Loop.syntaxRearrangeArgRefs.OrderIndependent :=
  fun _ _ _ _ _ hd h => C18_point_updates_perm _ _ _ hd h

theorem C18_grammarActionVarsString : Loop.grammarActionVarsString.OrderIndependent :=
  fun _ _ _ _ _ _ _ _ _ _ anti hs hn hr =>
    sort_perm hs (fun a _ b _ => anti a b) ((hn.flatMap_right _).append (hr.flatMap_right _))

theorem C18_compilerMayBeMissing : Loop.compilerMayBeMissing.OrderIndependent :=
  fun _ _ _ _ h => C18_cond_adds_perm _ _ _ h

theorem C18_compilerAddTypes : Loop.compilerAddTypes.OrderIndependent :=
  fun _ _ _ _ hd h => C18_point_updates_perm _ _ _ hd h

theorem C18_compilerPopRuleNames : Loop.compilerPopRuleNames.OrderIndependent :=
  fun _ _ _ hd h => C18_point_updates_perm _ _ _ hd h

theorem C18_lexerInlineCustom : Loop.lexerInlineCustom.OrderIndependent :=
  fun _ _ _ _ hd h => C18_point_updates_perm _ _ _ hd h

theorem C18_lexerTokenComments : Loop.lexerTokenComments.OrderIndependent :=
  fun _ _ _ hd h => C18_point_updates_perm _ _ _ hd h

theorem C18_sortedKeys : Loop.sortedKeys.OrderIndependent :=
  fun _ _ le srt _ _ anti hs h => C18_collect_sort_perm le srt _ hs (fun a _ b _ => anti a b) h

/-- non-vacuity: the hypotheses of `sortedKeys` are satisfiable (merge sort on `Nat` keys) and the conclusion is
the expected one on a concrete map with two enumeration orders -/
example : sortedKeys (fun l : List Nat => l.mergeSort (· ≤ ·)) [(3, "c"), (1, "a"), (2, "b")]
    = sortedKeys (fun l : List Nat => l.mergeSort (· ≤ ·)) [(2, "b"), (3, "c"), (1, "a")] :=
  C18_sortedKeys Nat String (· ≤ ·) _ _ _ (fun _ _ => Nat.le_antisymm) sortSpec_mergeSort (by decide)

theorem C18_genReverseLookup : Loop.genReverseLookup.OrderIndependent := by
  intro i xs ys hd h
  unfold Determinism.genReverseLookup searchFirst
  rw [C18_find_unique_perm _ h]
  intro a ha b hb pa pb
  exact nodup_key_inj hd a ha b hb ((beq_iff_eq.mp pa).trans (beq_iff_eq.mp pb).symm)

example : genReverseLookup 7 [(1, 5), (2, 7)] = genReverseLookup 7 [(2, 7), (1, 5)] :=
  C18_genReverseLookup 7 _ _ (by decide) (List.Perm.swap ..)

/-- Entries whose imports are not `less` than each other have the same path, hence the same key. -/
theorem C18_genGoImports : Loop.genGoImports.OrderIndependent := by
  intro π isStd lt srt xs ys tri hs hpath hd h
  refine C18_collect_sort_perm _ srt _ hs (anti_of_distinct_keys Prod.snd Prod.fst _ hd ?_) h
  intro x hx y hy h1 h2
  rw [← hpath x hx, ← hpath y hy]
  exact goImpLess_antisymm isStd lt tri _ _ h1 h2

/-- Once a pattern failed to parse the state stays `none`; otherwise the loop sets distinct keys. -/
theorem C18_shiftdfaPatterns : Loop.shiftdfaPatterns.OrderIndependent := by
  intro ρ ψ parse mk xs ys hd h
  refine fold_distinct_perm _ hd h (fun a b s hk => ?_) _
  cases s with
  | none => rfl
  | some m =>
    cases parse a.2 <;> cases parse b.2 <;> try rfl
    exact congrArg some (m.set_comm hk _ _)

theorem C18_templatesRemapArgRefs : Loop.templatesRemapArgRefs.OrderIndependent :=
  fun _ _ _ hd h => C18_point_updates_perm _ _ _ hd h

example : templatesRemapArgRefs (fun k => if k = 1 then some 9 else none) [(1, ⟨1, 4, 0⟩), (2, ⟨2, 5, 0⟩)] 1
    = some ⟨1, 9, 0⟩ := by decide

def claim : SiteClass → Prop
  | .orderIndependent _ loop _ => loop.OrderIndependent
  | .outsideProperty _ => True

/-- Every loop model is order independent (under the hypotheses spelled out in `Loop.OrderIndependent`). -/
theorem C18_every_loop_order_independent : ∀ l : Loop, l.OrderIndependent
  | .lalrMarkerBits => C18_lalrMarkerBits
  | .lalrTrieRules => C18_lalrTrieRules
  | .lalrTrieTerms => C18_lalrTrieTerms
  | .expandUpdateArgRefs => C18_expandUpdateArgRefs
  | .syntaxRearrangeArgRefs => C18_syntaxRearrangeArgRefs
  | .grammarActionVarsString => C18_grammarActionVarsString
  | .compilerMayBeMissing => C18_compilerMayBeMissing
  | .compilerAddTypes => C18_compilerAddTypes
  | .compilerPopRuleNames => C18_compilerPopRuleNames
  | .lexerInlineCustom => C18_lexerInlineCustom
  | .lexerTokenComments => C18_lexerTokenComments
  | .sortedKeys => C18_sortedKeys
  | .genReverseLookup => C18_genReverseLookup
  | .genGoImports => C18_genGoImports
  | .shiftdfaPatterns => C18_shiftdfaPatterns
  | .templatesRemapArgRefs => C18_templatesRemapArgRefs

/-- Every classified site's loop model is order independent (under the hypotheses spelled out in
`Loop.OrderIndependent`; sites classified `outsideProperty` claim nothing). -/
theorem C18_classified_loops_order_independent : ∀ e ∈ siteExpectations, claim e.cls := by
  intro e _
  cases h : e.cls with
  | orderIndependent _ l _ => exact C18_every_loop_order_independent l
  | outsideProperty _ => trivial

/-- Sites and table entries match in both directions; one evaluation, so that the kernel turns each string literal
into bytes once (the dear part of comparing strings). -/
theorem range_tables_match : (∀ s ∈ mapRangeSites, (lookupSite s.file s.func s.hash s.ctx).isSome = true) ∧
    ∀ e ∈ siteExpectations, (mapRangeSites.any fun s => e.isFor s) = true := by decide +kernel

/-- Every `for … range <map>` of the pipeline at the CURRENT tree (file, function, loop hash, and for the
shapes that depend on code after the loop the hash of the whole function) is classified. -/
theorem C18_all_sites_covered :
    ∀ s ∈ mapRangeSites, (lookupSite s.file s.func s.hash s.ctx).isSome = true := range_tables_match.1

/-- … and the table contains nothing else (no stale entries). -/
theorem C18_expectations_current :
    ∀ e ∈ siteExpectations, (mapRangeSites.any fun s => e.isFor s) = true := range_tables_match.2

/-- Every range operand could be typed, every file parsed. -/
theorem C18_inventory_complete : unresolvedRangeSites = [] ∧ loadProblems = [] := by decide +kernel

/-- No goroutine is started anywhere in the pipeline packages: the schedule / GOMAXPROCS quantifier is
vacuous for the modelled pipeline. -/
theorem C18_no_goroutines : ∀ s ∈ goStmtSites, s.what ≠ "go" := by decide +kernel

/-- The `go`/`select` inventory is exactly the expected list (one non-blocking cancellation poll). -/
theorem C18_go_select_sites_expected : goStmtSites = goStmtExpectations.map Prod.fst := by decide +kernel

/-- No write to package-level state outside `init` other than the expected ones: a generation cannot see
an earlier generation of the same process through a global (best-effort inventory: assignments only). -/
theorem C18_global_writes_expected :
    ∀ w ∈ globalWriteSites, w ∈ globalWriteExpectations.map Prod.fst := by decide +kernel

/-- Clock / randomness / environment / unordered-iterator references are confined to the expected
statistics code. -/
theorem C18_time_sites_expected : ∀ c ∈ timeSites, c ∈ timeExpectations.map Prod.fst := by decide +kernel

/-- No map iteration hidden behind `maps.Keys/Values/All`, reflection or `sync.Map.Range` other than the
expected debug printer: every enumeration of a map in the pipeline is a `range` statement of the inventory. -/
theorem C18_hidden_map_iteration_expected :
    ∀ c ∈ hiddenMapIterSites, c ∈ hiddenMapIterExpectations.map Prod.fst := by decide +kernel

/-- No package-level state of reference type (caches, registries) other than the expected read-only tables:
together with `C18_global_writes_expected`, nothing survives from one generation to the next. -/
theorem C18_package_state_expected :
    ∀ v ∈ packageVarSites, v ∈ packageVarExpectations.map Prod.fst := by decide +kernel

/-! ## The fixed finding C18-opt-alias-collision

Until /repo commit af67537 compiler/syntax.go `convertPart` copied `rhs.names` into `args.Names` inside the
map-range loop, trimming the opt suffix of the key. With `aliasIncludesOptSuffix = false` a rule naming both
`a` and `aopt` wrote both to `a`, and the generated action code for `$a` depended on the map order
(parser.go differed between runs of the witness grammar, now part of the harness's pool). The loop now only
collects the keys, which are sorted before use (`sortedKeys`). -/

/-- Order independence of the OLD loop for every enumeration of a map (distinct keys before renaming). False. -/
def C18_compilerCopyNames_old_loop_full : Prop :=
  ∀ (rename : String → String) (xs ys : List (String × List Nat)), DistinctBy Prod.fst xs →
    xs.Perm ys → compilerCopyNamesOld rename xs = compilerCopyNamesOld rename ys

/-- Witness (rule `S: a aopt 'z' { … $a … }`): names `a ↦ [1]`, `aopt ↦ [2]`, suffix `opt` trimmed; the two
enumeration orders give `a ↦ [2]` resp. `a ↦ [1]`. -/
theorem C18_compilerCopyNames_old_loop_order_dependent : ¬ C18_compilerCopyNames_old_loop_full := by
  intro h
  have := h (fun k => if k == "aopt" then "a" else k) [("a", [1]), ("aopt", [2])] [("aopt", [2]), ("a", [1])]
    (by decide) (List.Perm.swap ..)
  have := congrFun this "a"
  revert this
  decide

end TmVerif.C18
