import TmVerif.Proofs.EventsSim
/-!
C02 — the listener events of the generated parser reproduce the derivation.

Runtime side: `LRX.xrun` (model of `gen/templates/go_parser.go.tmpl` with `applyRule`,
`fixTrailingWS`, `reportRange`; tied to the real generated parsers by the differential harness)
emits listener events computed from the offsets stored in stack entries.
Specification side: `Events.eventsOf` rebuilds the derivation tree from the shift/reduce trace of
the core runtime `LR.run` and assigns events WITHOUT a stack (`Events.layout`: range = first to last
token of the annotated part, empty parts positioned at the following token, reports in order, then
the rule's own node, children before parents).

`C02_events_eq_eventsOf`: for every table set, token source, input symbol and fuel, an accepted run
of the extended runtime emits exactly `eventsOf`.  Hypotheses (all decidable, evaluated by the
driver on every accepted case of the real tables):
* `x.recovering = false` — error recovery rewrites the stack, the accepted input is then not a
  sentence and has no derivation tree;
* `reportsWF x` — every report range has `start ≤ stop` (for `start > stop` the generated code reads
  `rhs[start].offset, rhs[stop-1].endoffset` while the specification has no such part);
* `symsWF x inp`, `acceptShape x c` — at acceptance the stack is `[EOI…, S, terminals…, bottom]`
  (for generated tables `[EOI?, S, bottom]`): `eventsOf` is defined as the events of THE tree of the
  input symbol. The runtime accepts whenever the final state is reached, at any stack depth; the
  shape-free statement is `C02_events_eq_forest_layout` (events of all trees on the stack).
No hypothesis on token offsets is needed (ordering, `off ≤ endo`, … are irrelevant).
-/
namespace TmVerif.Events
open TmVerif.LR TmVerif.LRX

/-- **Simulation and forest.** No assumption on the shape of the accepting stack: if the
extended runtime accepts, the core runtime accepts with the same fuel, its shift/reduce trace is a
derivation forest, and laying that forest out stack-free gives (1) exactly the `(offset, endoffset)`
ranges stored in the stack entries above the bottom entry and (2) exactly the listener events
emitted, in order. -/
theorem C02_events_eq_forest_layout (x : XTables) (inp : Input) (input fuel : Nat) (c : XCfg)
    (hx : x.recovering = false) (hwf : reportsWF x = true)
    (hrun : xrun x inp input false 0 fuel = (XResult.accept, c)) :
    ∃ (cl : Cfg) (F : List PTree),
      run x.t inp input fuel = (Result.accept, cl) ∧
      buildForest x.t.ruleLen cl.evs.reverse [] = some F ∧
      forestLayout x F (inp.tok (consumed cl.evs)).off =
        some (c.stack.dropLast.map (fun e => (e.off, e.endo)), c.evs.reverse) := by
  obtain ⟨cl, F, h1, h2, h3⟩ := xrun_accept_inv hx hwf hrun
  exact ⟨cl, F, h1, h2, forestLayout_of_laid h3⟩

/-- **Main theorem.** For every table set, token source and accepted input, the listener events
the runtime emits from its stack offsets are exactly the events the stack-free specification assigns
to the derivation tree of the reduce sequence. -/
theorem C02_events_eq_eventsOf (x : XTables) (inp : Input) (input fuel : Nat) (c : XCfg)
    (hx : x.recovering = false) (hwf : reportsWF x = true) (hsym : symsWF x inp = true)
    (hrun : xrun x inp input false 0 fuel = (XResult.accept, c))
    (hshape : acceptShape x c = true) :
    eventsOf x inp input fuel = some c.evs.reverse := by
  obtain ⟨cl, F, h1, h2, h3⟩ := xrun_accept_inv hx hwf hrun
  obtain ⟨tree, l, h4, h5, h6⟩ := shape_events (symFacts hsym) h3 rfl hshape
  rw [eventsOf_eq h1 h2, h4]
  simp only [h5, Option.map_some, h6]

/-- **One reduction.** When the popped stack entries carry the ranges `layoutList` assigns to
the children (left to right) of the new node, the listener calls of `applyRule` are exactly the
report events followed by the rule's own node as computed by `layout`, and `(off, endo')` — the
range stored in the new stack entry (after `fixTrailingWS`) — is the node's range. -/
theorem C02_applyRule_matches_layout (x : XTables) (rule : Int) (stack : List Entry) (ln : Nat)
    (kids : List PTree) (after : Nat) (ll : LaidList) (off endo endo' : Nat) (evs : List XEv)
    (hrule : 0 ≤ rule) (hln : ln ≤ stack.length) (hwf : reportsWF x = true)
    (hll : layoutList x kids after = some ll)
    (hitems : ll.items = (stack.take ln).reverse.map (fun e => (e.off, e.endo)))
    (hoff : off = if ln = 0 then after else ((stack.take ln).getLast?.map (·.off)).getD 0)
    (hendo : endo = if ln = 0 then after else ((stack.take ln).head?.map (·.endo)).getD 0)
    (h : applyRuleEvents x rule ln off endo stack = some (evs, endo')) :
    layout x (.node rule.toNat kids) after = some ⟨off, endo', ll.evs ++ evs⟩ :=
  applyRule_layout x rule hrule stack ln hln kids after ll hll hitems hwf off endo endo' evs hoff hendo h

/-- **Post-order.** The events of a node are: the events of its children, left to right, then
its reports in declared order (each computed from the children's ranges only), then its own node. -/
theorem C02_layout_postorder (x : XTables) (rule : Nat) (kids : List PTree) (after : Nat) (l : Laid)
    (h : layout x (.node rule kids) after = some l) :
    ∃ (ll : LaidList) (reps : List XEv),
      layoutList x kids after = some ll ∧
      ((x.rules[rule]?).getD {}).reports.mapM (reportEvent x.fixWhitespace ll.items after) = some reps ∧
      l.evs = ll.evs ++ reps ++
        (if ((x.rules[rule]?).getD {}).ruleType ≠ 0 then
          [XEv.node ((x.rules[rule]?).getD {}).ruleType l.off l.endo] else []) := by
  cases hll : layoutList x kids after with
  | none => rw [layout_node_none x rule kids after hll] at h; cases h
  | some ll =>
    rw [layout_node x rule kids after ll hll rfl] at h
    obtain ⟨reps, hm, rfl⟩ := Option.map_eq_some_iff.1 h
    exact ⟨ll, reps, rfl, hm, rfl⟩

/-- … and the events of a child list are the concatenation of the children's events, each child
laid out in front of its right neighbour (the last one in front of `after`). -/
theorem C02_layoutList_events (x : XTables) (c : PTree) (rest : List PTree) (after : Nat) (ll : LaidList)
    (h : layoutList x (c :: rest) after = some ll) :
    ∃ (lr : LaidList) (lc : Laid),
      layoutList x rest after = some lr ∧
      layout x c (match lr.items.head? with | some (o, _) => o | none => after) = some lc ∧
      ll.items = (lc.off, lc.endo) :: lr.items ∧ ll.evs = lc.evs ++ lr.evs := by
  rw [layoutList_cons] at h
  obtain ⟨lr, hr, h⟩ := Option.bind_eq_some_iff.1 h
  obtain ⟨lc, hc, rfl⟩ := Option.map_eq_some_iff.1 h
  exact ⟨lr, lc, hr, hc, rfl, rfl⟩

/-! ### Non-vacuity

Grammar `S: (a -> T5) -> R7 ;` with end of input: terminals `0 = EOI`, `1 = a`, nonterminal `2 = S`;
states `0 -a-> 1` (reduce rule 0), `0 -S-> 2 -EOI-> 3` (final). Input `a` at `[0,1)`. -/
private def exT : Tables :=
  { nTerms := 2, action := #[-1, 0, -1, -2], lalr := #[], goto_ := #[0, 2, 4, 6],
    fromTo := #[2, 3, 0, 1, 0, 2], ruleLen := #[1], ruleSymbol := #[2], finalStates := #[3] }
private def exX : XTables :=
  { t := exT, rules := #[{ ruleType := 7, reports := [⟨5, 0, 1⟩], fixWS := true }], fixWhitespace := true }
private def exInp : Input := { toks := #[⟨1, 0, 1⟩], endOff := 2 }

example : ∃ c, xrun exX exInp 0 false 0 20 = (XResult.accept, c) ∧
    c.evs.reverse = [XEv.node 5 0 1, XEv.node 7 0 1] ∧
    eventsOf exX exInp 0 20 = some [XEv.node 5 0 1, XEv.node 7 0 1] := by
  have h1 : (xrun exX exInp 0 false 0 20).1 = XResult.accept := by decide +kernel
  have hrun : xrun exX exInp 0 false 0 20 = (XResult.accept, (xrun exX exInp 0 false 0 20).2) :=
    Prod.ext h1 rfl
  refine ⟨_, hrun, by decide +kernel, ?_⟩
  rw [C02_events_eq_eventsOf exX exInp 0 20 _ rfl (by decide +kernel) (by decide +kernel) hrun
    (by decide +kernel)]
  exact congrArg some (by decide +kernel)

/-! ### `acceptShape` and `reportsWF` cannot be dropped (for the specification `eventsOf` as defined)

`acceptShape`: tables whose final state is entered by shifting `a` (no reduction at all): the runtime
accepts with no events, `eventsOf` finds no tree. -/
private def exT2 : Tables :=
  { nTerms := 2, action := #[-1, -2], lalr := #[], goto_ := #[0, 0, 2, 2],
    fromTo := #[0, 1], ruleLen := #[], ruleSymbol := #[], finalStates := #[1] }

example : (xrun { t := exT2, rules := #[] } exInp 0 false 0 20).1 = XResult.accept ∧
    (xrun { t := exT2, rules := #[] } exInp 0 false 0 20).2.evs = [] ∧
    acceptShape { t := exT2, rules := #[] } (xrun { t := exT2, rules := #[] } exInp 0 false 0 20).2 = false ∧
    eventsOf { t := exT2, rules := #[] } exInp 0 20 = none := by
  decide +kernel

/-! `reportsWF`: `S: a a` with a report whose range is reversed (`start = 1 > stop = 0`): the runtime model
reads `rhs[1].offset, rhs[0].endoffset` (its `stop - 1` is cut off at 0; the generated code would read the entry
below the right-hand side); the specification has no such part. -/
private def exT3 : Tables :=
  { nTerms := 2, action := #[-1, -1, 0, -1, -2], lalr := #[], goto_ := #[0, 2, 6, 8],
    fromTo := #[3, 4, 0, 1, 1, 2, 0, 3], ruleLen := #[2], ruleSymbol := #[2], finalStates := #[4] }
private def exX3 : XTables := { t := exT3, rules := #[{ ruleType := 7, reports := [⟨5, 1, 0⟩] }] }
private def exInp3 : Input := { toks := #[⟨1, 0, 1⟩, ⟨1, 1, 2⟩], endOff := 2 }

example : (xrun exX3 exInp3 0 false 0 20).1 = XResult.accept ∧
    (xrun exX3 exInp3 0 false 0 20).2.evs.reverse = [XEv.node 5 1 1, XEv.node 7 0 2] ∧
    reportsWF exX3 = false ∧ acceptShape exX3 (xrun exX3 exInp3 0 false 0 20).2 = true ∧
    eventsOf exX3 exInp3 0 20 = none := by
  decide +kernel

end TmVerif.Events
