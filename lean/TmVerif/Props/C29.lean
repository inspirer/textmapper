import TmVerif.Proofs.LRXCancel
/-!
C29 — cancellation never yields a wrong parse.

Model: `Model/LRX.lean`. `xrun x inp input stop k fuel` is the generated parser's `parse` loop where the
context is cancelled inside the `k`-th listener call (`k = 0`: never); the parser polls the context on
a shift when `shiftCounter + 1` is a multiple of 512. Events are stored most-recent-first, so
"`l` is a prefix in time of `l0`" is `l <:+ l0`.
-/
namespace TmVerif.LRX
open TmVerif.LR

/-- The cancelled run either coincides with the uncancelled one (result, events and the whole final
configuration), or it returns the context's error and the listener/handler calls made before are an
initial segment (in time) of those of the uncancelled run. -/
theorem C29_cancel_sound (x : XTables) (inp : Input) (input : Nat) (stop : Bool) (k fuel : Nat) :
    xrun x inp input stop k fuel = xrun x inp input stop 0 fuel ∨
      ((xrun x inp input stop k fuel).1 = .cancelled ∧
        (xrun x inp input stop k fuel).2.evs <:+ (xrun x inp input stop 0 fuel).2.evs) := by
  unfold xrun
  split
  · exact .inl rfl
  · exact xrunLoop_cancel ..

/-- the same from an arbitrary configuration of the loop -/
theorem C29_cancel_sound_loop (x : XTables) (inp : Input) (fin : Int) (stop : Bool) (k fuel : Nat)
    (c : XCfg) :
    xrunLoop x inp fin stop k fuel c = xrunLoop x inp fin stop 0 fuel c ∨
      ((xrunLoop x inp fin stop k fuel c).1 = .cancelled ∧
        (xrunLoop x inp fin stop k fuel c).2.evs <:+ (xrunLoop x inp fin stop 0 fuel c).2.evs) :=
  xrunLoop_cancel ..

/-- Once the context is cancelled (`k` listener calls have been made: `c.nodeCount ≥ k`), the rest of the
run never moves `shiftCounter` beyond the next multiple of 512, and reaching it means `cancelled`:
at most 512 further shifts are attempted (for a cancellable parser every shift attempt increments
`shiftCounter`, unless the iteration panics). -/
theorem C29_cancel_bound (x : XTables) (inp : Input) (fin : Int) (stop : Bool) (k fuel : Nat)
    (c c' : XCfg) (r : XResult) (hc : x.cancellable = true) (hk : k ≠ 0) (hn : c.nodeCount ≥ k)
    (h : xrunLoop x inp fin stop k fuel c = (r, c')) :
    c'.shiftCounter ≤ (c.shiftCounter / 512 + 1) * 512 ∧
      (c'.shiftCounter = (c.shiftCounter / 512 + 1) * 512 → r = .cancelled) ∧
      c'.shiftCounter ≤ c.shiftCounter + 512 := by
  -- `hc` is not used: whatever the parser, the counter moves only in an iteration that polls
  have hb := xrunLoop_shiftCounter_bound x inp fin stop k hk fuel c ((c.shiftCounter / 512 + 1) * 512)
    (Nat.mul_mod_left _ _) (Nat.lt_mul_of_div_lt (Nat.lt_succ_self _) (by decide)) hn
  rw [h] at hb
  exact ⟨hb.1, hb.2, Nat.le_trans hb.1 (Nat.succ_mul _ _ ▸ Nat.add_le_add_right (Nat.div_mul_le_self _ _) _)⟩

theorem C29_never_cancelled_when_k_zero (x : XTables) (inp : Input) (input : Nat) (stop : Bool)
    (fuel : Nat) (c : XCfg) : xrun x inp input stop 0 fuel ≠ (.cancelled, c) :=
  fun h => (xrun_cancelled (congrArg Prod.fst h)).2 rfl

theorem C29_not_cancellable_never_cancelled (x : XTables) (inp : Input) (input : Nat) (stop : Bool)
    (k fuel : Nat) (c : XCfg) (hx : x.cancellable = false) :
    xrun x inp input stop k fuel ≠ (.cancelled, c) :=
  fun h => Bool.false_ne_true (hx.symm.trans (xrun_cancelled (congrArg Prod.fst h)).1)

/-! ### non-vacuity

A two-state parser for `L → ε {node 1} | L a` that shifts `a` for ever (default encoding): state 0
reduces the empty rule and goes to state 1, state 1 shifts `a` and stays. A run of `xrun` needs 512
shifts to reach the first poll; evaluating that in the kernel (`decide +kernel`) takes minutes, so the
examples start the loop from the configuration after 510 shifts instead. -/

private def exT : Tables :=
  { nTerms := 2, action := #[0, -1], lalr := #[], goto_ := #[0, 0, 2, 4], fromTo := #[1, 1, 0, 1],
    ruleLen := #[0], ruleSymbol := #[2], finalStates := #[99] }
private def exX : XTables := { t := exT, rules := #[{ ruleType := 1 }], cancellable := true }
private def exInp : Input := { toks := #[⟨1, 0, 1⟩, ⟨1, 1, 2⟩, ⟨1, 2, 3⟩, ⟨1, 3, 4⟩], endOff := 4 }
private def exC : XCfg :=
  { stack := [⟨2, 0, 0, 1⟩, ⟨0, 0, 0, 0⟩], state := 1, pos := 1, next := some ⟨1, 0, 1⟩,
    evs := [.node 1 0 0], shiftCounter := 510 }

/-- the hypotheses of `C29_cancel_bound` are satisfiable and its bound is attained: cancelled inside
the first listener call, the run makes one more shift (511) and is stopped by the poll at 512 -/
example : exX.cancellable = true ∧ exC.nodeCount ≥ 1 ∧
    (xrunLoop exX exInp 99 false 1 10 exC).1 = .cancelled ∧
    (xrunLoop exX exInp 99 false 1 10 exC).2.shiftCounter = (exC.shiftCounter / 512 + 1) * 512 := by
  decide +kernel

/-- the second alternative of `C29_cancel_sound` occurs: the uncancelled run goes on to the end of the
input (and fails there, this parser accepts nothing), the cancelled one stops with the same events -/
example : (xrunLoop exX exInp 99 false 0 10 exC).1 = .syntaxError 4 4 ∧
    (xrunLoop exX exInp 99 false 1 10 exC).1 = .cancelled ∧
    (xrunLoop exX exInp 99 false 1 10 exC).2.evs = (xrunLoop exX exInp 99 false 0 10 exC).2.evs := by
  decide +kernel

/-- a complete (short) run from `xinit`, cancelled inside the first listener call: the counter stays below
512, so there is no poll and the result is not `cancelled` -/
example : (xrun exX exInp 0 false 1 10).1 = .syntaxError 4 4 ∧
    (xrun exX exInp 0 false 1 10).2.evs = [.node 1 0 0] ∧
    (xrun exX exInp 0 false 1 10).2.shiftCounter = 5 := by
  decide +kernel

end TmVerif.LRX
