import TmVerif.Proofs.LSRange
import TmVerif.Proofs.LSDocs
import TmVerif.Proofs.LSChain
/-!
C23 — The language server stays consistent under any message history (property theorems only).

Model: `Model/LS.lean` (hand mirror of `/repo/ls/server.go` and of the handler chain installed by
`/repo/cmd/textmapper/ls.go`). The compiler and the parser are parameters (`Env.problems`, `Env.idents`):
the theorems hold for EVERY function from contents to problems / identifiers.
`Mode` selects the variant of the code: `Mode.current` is the pinned tree, the flags switch on the
repairs of fixes/C23-*.diff (the driver is told by a probe of the real server which variant is running).

Findings (each reproduced over the wire against the real `textmapper ls`):
 * outgoing positions are BYTE columns, the protocol (and `resolvePosition`, for incoming positions) uses
   UTF-16 code units: `C23_outgoing_is_utf16_full` is FALSE for the code as it is
   (`C23_outgoing_not_utf16`), it holds for ASCII lines (`C23_outgoing_is_utf16_partial`) and for the
   repaired code (`C23_outgoing_is_utf16_fixed`, `C23_location_is_utf16_fixed`);
 * `DidChange` with an empty change list kills the server (`C23_empty_change_crashes`);
 * a syntax error is published at line 4294967295, character 4294967295
   (`C23_syntax_error_outside_document`); in range after the repair (`C23_syntax_error_in_document_fixed`).
-/
namespace TmVerif.LS

/-- For every history in which no request kills the server, the answers are exactly those the abstract
map prescribes: a publish carries the URI and the version of ITS open/change request and the diagnostics
of ITS text; a definition request is answered from the LATEST content of the file (the text of the last
open/change of that file name not followed by a close), "not opened" when there is none. -/
theorem C23_refines_map (e : Env) (ops : List Op) (h : ∀ op ∈ ops, ¬ Crashes e op) :
    run e [] ops = (specRun e [] ops, true) :=
  run_spec e ops [] [] agrees_nil h

-- non-vacuity: a history with open / change of another spelling of the same file / definition / close
example : ∀ op ∈ [Op.openDoc ⟨0, 0⟩ 1 [97], .change ⟨0, 1⟩ 2 [[98]], .definition ⟨0, 0⟩ 0 0, .close ⟨0, 0⟩,
    .definition ⟨0, 0⟩ 0 0], ¬ Crashes ⟨Mode.current, fun _ => [], fun _ => []⟩ op := by
  intro op hop
  simp only [List.mem_cons, List.not_mem_nil, or_false] at hop
  rcases hop with rfl | rfl | rfl | rfl | rfl <;> simp [Crashes, typecheck, mapM?]

/-- The server survives a history iff no request of it `Crashes`: an empty change list (unrepaired code)
or a problem whose origin is not a valid slice of the text. -/
theorem C23_crash_iff (e : Env) (ops : List Op) :
    (run e [] ops).2 = true ↔ ∀ op ∈ ops, ¬ Crashes e op :=
  run_alive_iff e ops []

/-- The code as it is: a change notification without content changes terminates the server, whatever
happened before. -/
theorem C23_empty_change_crashes (e : Env) (h : e.mode.emptyIgnored = false) (before after : List Op)
    (u : Uri) (v : Int) : (run e [] (before ++ Op.change u v [] :: after)).2 = false :=
  Bool.eq_false_iff.2 fun hr => (C23_crash_iff e _).1 hr (Op.change u v []) (by simp) h

/-- With the empty-change repair, and a compiler whose problems are slices of the text, NO history kills
the server. -/
theorem C23_never_crashes_fixed (e : Env) (hm : e.mode.emptyIgnored = true)
    (hp : ∀ text, ∀ p ∈ e.problems text, p.SliceOk text) (ops : List Op) : (run e [] ops).2 = true := by
  rw [C23_crash_iff]
  have ht : ∀ text, typecheck e.mode text (e.problems text) ≠ none := by
    intro text
    apply mapM?_ne_none
    intro p hpm
    have := hp text p hpm
    cases p with
    | status o => exact diagRange_ne_none _ _ _ this
    | «syntax» off stop =>
      apply diagRange_ne_none
      simp only [originOf]
      split
      · rename_i hc; exact hc.2
      · simp
  intro op _
  fun_cases Crashes e op
  case case1 | case3 => exact ht _ -- a text is stored
  case case2 => exact ne_false_of_eq_true hm -- an empty change
  case case4 => exact id

/-- "answers go-to-definition … with locations of identifiers bearing the same name": every identifier
the reply is built from is one of the document's identifiers, of the kind and with the text of the one
under the cursor. -/
theorem C23_definition_same_name (c : Bytes) (ids : List Ident) (cursor : Nat) (i : Ident)
    (hi : i ∈ defTargets c ids cursor) :
    ∃ cur, ids.find? (fun i => decide (i.off ≤ cursor ∧ cursor ≤ i.stop)) = some cur ∧
      i ∈ ids ∧ i.kind = cur.kind ∧ i.text c = cur.text c := by
  revert hi
  -- the answer is `ret ++ refs` or `ret`, both parts of `same`
  fun_cases defTargets c ids cursor
  case case1 | case2 => nofun
  case case3 cur hf _ same ret refs _ =>
    intro hi
    have hs : i ∈ same := (List.mem_append.1 hi).elim (List.mem_filter.1 · |>.1) (List.mem_filter.1 · |>.1)
    exact ⟨cur, hf, by simpa [same] using hs⟩
  case case4 cur hf _ same ret _ =>
    intro hi
    exact ⟨cur, hf, by simpa [same] using (List.mem_filter.1 hi).1⟩

/-- For EVERY schedule of `CancelHandler(AsyncHandler(ReplyHandler(server)))` (every state reachable by
scheduler steps): the server methods have been executed in request order without gaps (`log = [0..n)`),
the server state is the one sequential execution of the first `n` requests produces, the notifications
on the wire (publishDiagnostics) are those of sequential execution in request order, and every reply on
the wire is the sequential answer to its request. (Replies themselves may be written late: `AsyncHandler`
releases the next request before the reply is written; they are matched by request number.) -/
theorem C23_publish_in_request_order {σ ρ ω : Type} (exec : σ → ρ → σ × ω) (reqs : List ρ) (s0 : σ)
    (s : Sys σ ω) (h : Reach exec reqs s0 s) :
    s.log = List.range s.log.length ∧ s.log.length ≤ reqs.length ∧
    s.st = seqState exec s0 (reqs.take s.log.length) ∧
    notesOf s.wire = (List.range s.log.length).filterMap
      (fun i => (seqOut exec s0 reqs i).map (Prod.mk i)) ∧
    ∀ i o, Wire.reply i o ∈ s.wire → seqOut exec s0 reqs i = some o := by
  obtain ⟨k, hk⟩ := inv_reach h
  refine ⟨hk.log_eq_range, hk.log_length_le, hk.hst, ?_, hk.hrep⟩
  have := hk.hnotes
  rw [hk.log_eq_range] at this
  simpa using this

/-- No schedule deadlocks: while a request is unanswered, some step is enabled. -/
theorem C23_chain_no_deadlock {σ ρ ω : Type} (exec : σ → ρ → σ × ω) (reqs : List ρ) (s0 : σ)
    (s : Sys σ ω) (h : Reach exec reqs s0 s) (hopen : ∃ i, i < reqs.length ∧ s.phase i ≠ .done) :
    ∃ s', Step exec reqs s s' := by
  obtain ⟨k, hk⟩ := inv_reach h
  exact inv_progress hk hopen

/-- When every request has been answered, all of them have been executed, in order, and the server is in
the state of the sequential run. -/
theorem C23_chain_complete {σ ρ ω : Type} (exec : σ → ρ → σ × ω) (reqs : List ρ) (s0 : σ)
    (s : Sys σ ω) (h : Reach exec reqs s0 s) (hdone : ∀ i, i < reqs.length → s.phase i = .done) :
    s.log = List.range reqs.length ∧ s.st = seqState exec s0 reqs := by
  obtain ⟨k, hk⟩ := inv_reach h
  have hlog := hk.log_of_all_done hdone
  refine ⟨hlog, ?_⟩
  rw [hk.hst, hlog]
  simp

-- non-vacuity: the states of a real schedule (deliver, start, execute request 0) are reachable
example : ∃ s : Sys Nat Nat, Reach (fun s (r : Nat) => (s + r, s)) [5, 7] 0 s ∧ s.log = [0] ∧ s.st = 5 := by
  refine ⟨_, .step (.step (.step .init (.deliver _ (by decide))) (.start _ 0 (by decide) rfl (Or.inl rfl)))
    (.exec _ 0 5 (by simp [setAt]) rfl), ?_, ?_⟩ <;> simp [Sys.init]

/-- `resolvePosition` inverts the specification of outgoing positions on every rune boundary. -/
theorem C23_resolvePosition_roundtrip (c : Bytes) (off : Nat) (h : RuneBoundary c off) :
    resolvePosition c (utf16Pos c off).1 (utf16Pos c off).2 = .ok off := by
  have := resolvePosition_boundary h 0
  rwa [Nat.add_zero, walkCols_zero] at this

-- non-vacuity: "é😀" + newline + "a": the boundary behind the emoji, at the end of line 0
example : RuneBoundary [0xC3, 0xA9, 0xF0, 0x9F, 0x98, 0x80, 10, 97] 6 :=
  ⟨[], [0xC3, 0xA9, 0xF0, 0x9F, 0x98, 0x80], [10, 97], 3, rfl, rfl, Or.inl rfl,
    .step _ 4 2 (by simp) (by decide) (.step _ 0 0 (by simp [decodeRune, lead, contBytes]) (by decide) (.zero _))⟩

/-- Exactness: `resolvePosition` answers `off` iff `off` is a rune boundary whose (line, UTF-16 column) is
the requested position. So it fails exactly when no rune boundary has that position: the line does not
exist, the column is beyond the end of the line, or it lies between the two code units of a pair. -/
theorem C23_resolvePosition_exact (c : Bytes) (line ch off : Nat) :
    resolvePosition c line ch = .ok off ↔ RuneBoundary c off ∧ utf16Pos c off = (line, ch) := by
  constructor
  · fun_cases resolvePosition c line ch
    case case1 => nofun -- no such line
    case case2 ret rest hl =>
      intro h
      obtain ⟨pre, rfl, rfl, rfl, hp⟩ := lineWalk_inv c line 0 ret rest hl
      obtain ⟨k, rfl, hb⟩ := Bnd_of_walkCols ch rest _ off h
      rw [Nat.zero_add]
      exact runeBoundary_of_Bnd hp hb
  · intro ⟨hb, hp⟩
    have := C23_resolvePosition_roundtrip c off hb
    rwa [hp] at this

/-- "line %v does not exist" exactly when the content has fewer newlines than the requested line number
(a content with `n` newlines has the lines `0..n`; the last one may be empty). -/
theorem C23_resolvePosition_noLine (c : Bytes) (line ch : Nat) :
    resolvePosition c line ch = .error .noLine ↔ nlCount c < line := by
  rw [← lineWalk_none_iff c line 0]
  simp only [resolvePosition]
  cases lineWalk line c 0 with
  | none => exact ⟨fun _ => rfl, fun _ => rfl⟩
  | some p => exact ⟨fun h => absurd h (walkCols_ne_noLine ch p.2 p.1), fun h => nomatch h⟩

/-- Inside a surrogate pair: one column beyond a rune boundary that is followed by a rune above 0xffff
is rejected with "between the utf-16 code units". -/
theorem C23_resolvePosition_midpair (c : Bytes) (off : Nat) (h : RuneBoundary c off)
    (hr : (decodeRune (c.drop off)).1 > 0xffff) :
    resolvePosition c (utf16Pos c off).1 ((utf16Pos c off).2 + 1) = .error .midPair := by
  have hgo : ¬ ((decodeRune (c.drop off)).1 = 10 ∨ (decodeRune (c.drop off)).2 = 0) := by
    rintro (h10 | h0)
    · omega
    · rw [(decodeRune_width_zero _).1 h0] at hr; exact absurd hr (by decide)
  rw [resolvePosition_boundary h 1, walkCols_step, if_neg hgo, if_neg (by simp [units, hr])]

/-- Beyond the end of the line: any column past a rune boundary that is followed by a newline or by the
end of the content is rejected with "invalid column". -/
theorem C23_resolvePosition_past_line_end (c : Bytes) (off m : Nat) (h : RuneBoundary c off)
    (hend : c.drop off = [] ∨ (c.drop off).head? = some 10) :
    resolvePosition c (utf16Pos c off).1 ((utf16Pos c off).2 + (m + 1)) = .error .badCol := by
  have hstop : (decodeRune (c.drop off)).1 = 10 ∨ (decodeRune (c.drop off)).2 = 0 := by
    rcases hend with h0 | h0
    · exact Or.inr (by rw [h0]; rfl)
    · obtain ⟨t, ht⟩ := List.head?_eq_some_iff.1 h0
      exact Or.inl (by rw [ht, decodeRune_ascii t (by decide)])
  rw [resolvePosition_boundary h (m + 1), walkCols_step, if_pos hstop]

/-- Ranges in the document, the code as it is (byte columns). For every problem whose origin comes from a
node of the parse tree of the text (`inDoc`, evaluated by the driver on every real origin), the published
range is `(line, byte column)` of the start offset and of an end offset that lies inside the text, at or
behind the start, on the same line. -/
theorem C23_ranges_in_document (m : Mode) (c : Bytes) (o : Origin) (hm : m.diagUtf16 = false)
    (hlen : c.length < 4294967296) (h : o.inDoc c = true) :
    diagRange m c o = some ⟨mkPos (lineCol c o.off.toNat), mkPos (lineCol c (o.off.toNat + rngLen c o))⟩ ∧
    o.off.toNat + rngLen c o ≤ c.length ∧
    (lineCol c (o.off.toNat + rngLen c o)).1 = (lineCol c o.off.toNat).1 ∧
    (lineCol c o.off.toNat).1 ≤ nlCount c := by
  obtain ⟨_, hr1, _, hr3, h3, h4⟩ := Origin.inDoc_stretch h
  refine ⟨?_, hr1, by rw [lineCol_along_line c o.off.toNat (rngLen c o) hr1 hr3], (lineCol_le c _).1⟩
  rw [diagRange_inDoc m c o h, if_neg (Bool.eq_false_iff.1 hm)]
  exact congrArg some (u32_range_bytes c _ (rngLen c o) hlen hr1 hr3 h3 h4)

-- non-vacuity: "S: a /* ééé */ nosuch ;" — the origin of `nosuch` (offset 18..24, line 1, column 19)
example : Origin.inDoc [83, 58, 32, 97, 32, 47, 42, 32, 0xC3, 0xA9, 0xC3, 0xA9, 0xC3, 0xA9, 32, 42, 47, 32,
    110, 111, 115, 117, 99, 104, 32, 59] ⟨18, 24, 1, 19⟩ = true := by decide

/-- Same for `id.Location`, the code as it is: an identifier of the parse tree of the text (inside the
text, without newline) is located at `(line, byte column)` of its start and of its end offset. -/
theorem C23_locations_in_document (m : Mode) (c : Bytes) (i : Ident) (hm : m.locUtf16 = false)
    (hlen : c.length < 4294967296) (h : i.inDoc c = true) :
    location m c i = ⟨mkPos (lineCol c i.off), mkPos (lineCol c i.stop)⟩ ∧
    (lineCol c i.stop).1 = (lineCol c i.off).1 := by
  obtain ⟨n, hst, hn, hnl, h4, h5⟩ := Ident.inDoc_stretch h
  have hl1 := lineCol_along_line c i.off n hn hnl
  unfold location Ident.text
  simp only [hm, Bool.false_eq_true, if_false]
  rw [hst, slice_length c hn, Nat.add_sub_cancel_left]
  exact ⟨u32_range_bytes c i.off n hlen hn hnl h4 h5, by rw [hl1]⟩

/-- The documented behaviour ("line and UTF-16 code unit offsets") for the code as it is: the published
range of a problem that starts on a rune boundary is the UTF-16 position of its start and of its end. -/
def C23_outgoing_is_utf16_full : Prop :=
  ∀ (c : Bytes) (o : Origin), c.length < 4294967296 → o.inDoc c = true → RuneBoundary c o.off.toNat →
    diagRange Mode.current c o =
      some ⟨mkPos (utf16Pos c o.off.toNat), mkPos (utf16Pos c (o.off.toNat + rngLen c o))⟩

/-- What holds for the code as it is: the statement above for problems whose line is ASCII up to the end
of the range (then byte columns and UTF-16 columns coincide). -/
theorem C23_outgoing_is_utf16_partial (c : Bytes) (o : Origin) (hlen : c.length < 4294967296)
    (h : o.inDoc c = true)
    (hascii : ∀ x ∈ slice c (o.off.toNat - (lineCol c o.off.toNat).2) (o.off.toNat + rngLen c o), x < 0x80) :
    diagRange Mode.current c o =
      some ⟨mkPos (utf16Pos c o.off.toNat), mkPos (utf16Pos c (o.off.toNat + rngLen c o))⟩ := by
  obtain ⟨hd, hr1, _, _⟩ := C23_ranges_in_document Mode.current c o rfl hlen h
  obtain ⟨_, _, _, hr3, _⟩ := Origin.inDoc_stretch h
  have hl1 := lineCol_along_line c o.off.toNat (rngLen c o) hr1 hr3
  have hstart : utf16Pos c o.off.toNat = lineCol c o.off.toNat :=
    utf16Pos_ascii c _ (Nat.le_trans (Nat.le_add_right _ _) hr1)
      fun x hx => hascii x (mem_slice_of_le c _ (Nat.le_add_right _ _) hx)
  have hend : utf16Pos c (o.off.toNat + rngLen c o) = lineCol c (o.off.toNat + rngLen c o) := by
    apply utf16Pos_ascii c _ hr1
    rw [hl1, Nat.add_sub_add_right]
    exact hascii
  rw [hd, hstart, hend]

-- non-vacuity of the ASCII case: "S: x" with a problem at `x`
example : Origin.inDoc [83, 58, 32, 120] ⟨3, 4, 1, 4⟩ = true ∧
    ∀ x ∈ slice [83, 58, 32, 120] (3 - (lineCol [83, 58, 32, 120] 3).2) (3 + rngLen [83, 58, 32, 120] ⟨3, 4, 1, 4⟩),
      x < 0x80 := by decide

/-- The code as it is does NOT have the documented behaviour: in the text "éa" the problem at `a` starts
at byte column 2; its UTF-16 column is 1. (Over the wire: `S: a /* ééé */ nosuch ;` is reported at
character 18, UTF-16 column 15.) -/
theorem C23_outgoing_not_utf16 : ¬ C23_outgoing_is_utf16_full := by
  intro h
  have hbnd : Bnd ([0xC3, 0xA9] ++ [97]) 2 1 := .step _ 0 0 (by simp) (by decide) (.zero _)
  have hu : utf16Pos [0xC3, 0xA9, 97] 2 = (0, 1) := (runeBoundary_of_Bnd (pre := []) (Or.inl rfl) hbnd).2
  have := h [0xC3, 0xA9, 97] ⟨2, 3, 1, 3⟩ (by decide) (by decide)
    ⟨[], [0xC3, 0xA9], [97], 1, rfl, rfl, Or.inl rfl, hbnd⟩
  rw [show diagRange Mode.current [0xC3, 0xA9, 97] ⟨2, 3, 1, 3⟩ = some ⟨⟨0, 2⟩, ⟨0, 3⟩⟩ by decide] at this
  -- the start column: the code says 2, the specification 1
  have h2 : some 2 = some (utf16Pos [0xC3, 0xA9, 97] 2).2 := congrArg (fun r => r.map (·.start.char)) this
  rw [hu] at h2
  exact absurd h2 (by decide)

/-- The repaired `typecheck` (fixes/C23-utf16-columns.diff) has the documented behaviour: start and end
of the published range are the UTF-16 positions of the start and end offsets. -/
theorem C23_outgoing_is_utf16_fixed (m : Mode) (hm : m.diagUtf16 = true) (c : Bytes) (o : Origin)
    (hlen : c.length < 4294967296) (h : o.inDoc c = true) (hb : RuneBoundary c o.off.toNat) :
    diagRange m c o =
      some ⟨mkPos (utf16Pos c o.off.toNat), mkPos (utf16Pos c (o.off.toNat + rngLen c o))⟩ := by
  obtain ⟨h0, hr1, hr2, hr3, h3, h4⟩ := Origin.inDoc_stretch h
  rw [diagRange_inDoc m c o h, if_pos hm]
  have hu := u32_range_utf16 c _ (rngLen c o) hlen hr1 hr3 h3 h4 hb
  rw [hr2, Int.toNat_of_nonneg h0] at hu
  exact congrArg some hu

-- non-vacuity: "éa", the problem at `a`, the repaired code answers UTF-16 column 1
example : diagRange Mode.fixed [0xC3, 0xA9, 97] ⟨2, 3, 1, 3⟩ = some ⟨⟨0, 1⟩, ⟨0, 2⟩⟩ := by
  simp [diagRange, Mode.fixed, utf16Col, slice, cutNL, utf16Len_cons, utf16Len_nil, decodeRune, lead,
    contBytes, units, toU32]

/-- The repaired `id.Location`: start and end are the UTF-16 positions of the identifier's offsets. -/
theorem C23_location_is_utf16_fixed (m : Mode) (hm : m.locUtf16 = true) (c : Bytes) (i : Ident)
    (hlen : c.length < 4294967296) (h : i.inDoc c = true) (hb : RuneBoundary c i.off) :
    location m c i = ⟨mkPos (utf16Pos c i.off), mkPos (utf16Pos c i.stop)⟩ := by
  obtain ⟨n, hst, hn, hnl, h4, h5⟩ := Ident.inDoc_stretch h
  unfold location Ident.text
  simp only [hm, if_true]
  rw [hst]
  exact u32_range_utf16 c i.off n hlen hn hnl h4 h5 hb

/-- The code as it is publishes a syntax error (a `tm.SyntaxError`, which carries no `SourceRange`) at
line 4294967295, character 4294967295 — outside every document. -/
theorem C23_syntax_error_outside_document (m : Mode) (hm : m.synFixed = false) (hd : m.diagUtf16 = false)
    (c : Bytes) (off stop : Int) :
    diagRange m c (originOf m c (.syntax off stop)) =
      some ⟨⟨4294967295, 4294967295⟩, ⟨4294967295, 4294967295⟩⟩ := by
  simp [originOf, hm, diagRange, hd, slice, cutNL, toU32]

/-- After fixes/C23-syntax-error-range.diff the origin of a syntax error inside the text is a
well-formed origin, so `C23_ranges_in_document` / `C23_outgoing_is_utf16_fixed` apply to it. -/
theorem C23_syntax_error_in_document_fixed (m : Mode) (hm : m.synFixed = true) (c : Bytes) (off stop : Nat)
    (h : off ≤ stop ∧ stop ≤ c.length) :
    (originOf m c (.syntax off stop)).inDoc c = true := by
  have hc : m.synFixed = true ∧ (0 : Int) ≤ off ∧ (off : Int) ≤ stop ∧ (stop : Int) ≤ c.length :=
    ⟨hm, Int.natCast_nonneg off, Int.ofNat_le.2 h.1, Int.ofNat_le.2 h.2⟩
  simp only [originOf, hc, and_self, if_true, Origin.inDoc, decide_eq_true_eq]

end TmVerif.LS
