/-
C17 — generation completes and the generated Go code builds. Claimed in part only (DESIGN.md §5: there is no model
of `go build`); this file carries the first decidable fragment (DESIGN.md §4 C17; the second is Props/C17Width.lean):

  definition/use guard consistency of the Go templates — for every identifier that template text declares at
  top level (func / type / var / const, methods and struct fields as `Recv.Name`) and every use of it in a file of
  the same generated package, under EVERY valuation of the guard atoms (option flags and grammar-shape predicates)
  that satisfies the implication table of Facts/ExpectC17.lean: if the use is generated then a declaration is.

The pairs come from Facts/GeneratedC17.lean, regenerated from gen/templates/go_*.go.tmpl and gen/templates.go by
tools/factgen/c17.go on every run; the quantifier over valuations is closed by the verified tableau
`Guards.checkImp` (Proofs/Guards.lean: sound for all valuations of all atoms), evaluated by the kernel; a use whose
guards contain those of a declaration site (`Guards.includes`; most uses are of this kind) is accepted without search.

Beside that obligation (`C17_guards_consistent_partial`): the exception lists are exact (`C17_known_inconsistent_exact`,
`C17_not_propositional_exact`), no identifier is declared twice (`C17_no_duplicate_definitions`), every generated
label is jumped to (`C17_labels_used`), and the hand-written tables and the inventory of declarations, uses and
template selection are the reviewed ones (`C17_tables_resolve`, `C17_all_definitions_classified`,
`C17_uses_and_selection_pinned`).

What this does NOT show: that generated code type-checks (argument counts, types, unused variables/imports,
identifiers produced by template actions, symbol names colliding with generated names, user code in semantic
actions). Those are searched by the build sweep of harness/cmd/tmh/c17.go only. The implications marked
`trusted` in the table are facts about compiler.Compile that are read off its code and sampled by the sweep.
-/
import TmVerif.Proofs.Guards
import TmVerif.Model.GuardPairs
namespace TmVerif.C17
open TmVerif.Guards TmVerif.Facts

/-- `v` satisfies the implication table. -/
def Axioms (v : Nat → Bool) : Prop := ∀ a ∈ axioms, eval v a.hyp = true → eval v a.concl = true

/-- A use `u` of an identifier with declaration sites `defs` is consistent: whenever the use is generated, some
declaration is generated too (an `.Options.IsEnabled "x"` guard of a declaration counts as true: the user supplies
what customImpl disables). -/
def Consistent (defs : List TmplDef) (u : TmplUse) : Prop :=
  ∀ v : Nat → Bool, Axioms v → eval v (useGuard u) = true → eval v (defGuardOf defs) = true

/-- The decision procedure is sound for every pair of guards, every implication table and every valuation. -/
theorem C17_checkImp_sound (axs : List Ax) (u d : GF) (h : checkImp axs u d = true) (v : Nat → Bool)
    (hax : ∀ a ∈ axs, eval v a.hyp = true → eval v a.concl = true) (hu : eval v u = true) : eval v d = true :=
  checkImp_sound axs u d h v hax hu

example : checkImp [⟨.atom 0, .atom 1⟩] (.and (.atom 2) (.atom 0)) (.or (.atom 1) (.atom 3)) = true := by decide
example : checkImp [⟨.atom 0, .atom 1⟩] (.atom 2) (.atom 1) = false := by decide

/-- The facts are grouped by identifier: group `i` holds ALL declaration sites and ALL use sites of the identifier
with name id `i` (and of no other). -/
theorem C17_groups_well_formed : groupsWellFormed = true := by decide +kernel

/-- THE OBLIGATION (partial: all pairs except exactly the listed ones). On the current tree every use of a
template-declared identifier, other than the uses listed in `c17KnownInconsistent` (findings, see
`C17_known_inconsistent_exact`) and `c17NotPropositional` (element-level, build sweep only), is consistent with
the declaration sites of that identifier under every valuation of the atoms that satisfies the implication
table. -/
theorem C17_guards_consistent_partial :
    ∀ g ∈ c17Groups, ∀ u ∈ g.uses, excluded u = false → Consistent g.defs u := by
  -- a use under the guards of a declaration site (`includes`) needs no search; the others go to the tableau
  have h1 : (c17Groups.all fun g =>
      let dg := defGuardOf g.defs
      g.uses.all fun u => includes (useGuard u) dg || excluded u || checkImp axioms (useGuard u) dg) = true := by
    decide +kernel
  intro g hg u hu hex v hax huse
  simp only [List.all_eq_true, Bool.or_eq_true] at h1
  rcases h1 g hg u hu with (h | h) | h
  · exact includes_sound h v huse
  · rw [hex] at h; cases h
  · exact checkImp_sound axioms _ _ h v hax huse

/-- The full statement: every use (outside the not-propositional ones) is consistent. It does NOT hold on the
current tree (`C17_guards_consistent_full_refuted`). -/
def C17_guards_consistent_full : Prop :=
  ∀ g ∈ c17Groups, ∀ u ∈ g.uses, isNotProp u = false → Consistent g.defs u

/-- Non-vacuity: the obligation covers uses. -/
example : (c17Uses.filter (fun u => !excluded u)).length ≥ 400 := by decide +kernel

/-- The hand-written tables of Facts/ExpectC17.lean talk about the atoms, identifiers, files and define blocks
they name: every id hint stands for the text written next to it (atoms of the implication table, the use sites
of the known-inconsistent and not-propositional entries and their counter-valuations), the classification table
lists exactly the atoms of the templates in id order, and ids are positions. A new or edited `{{if}}` pipeline, a
renamed identifier or a stale hint breaks this. -/
theorem C17_tables_resolve : idsAreOrdinals = true ∧ atomTextsFacts = atomTextsExpected ∧
    axiomTextsWritten = axiomTextsHinted ∧ knownTextsWritten = knownTextsHinted ∧
    notPropTextsWritten = notPropTextsHinted :=
  ⟨by decide +kernel, rfl, rfl, rfl, rfl⟩

/-- Every entry of `c17KnownInconsistent` (through its hint: name id, file, define block, valuation) matches at
least one use of that identifier, and every use it matches is REALLY inconsistent: the listed valuation (plus every
`.Options.IsEnabled` atom) satisfies the implication table and the use guard and falsifies the guard of every
declaration. So the exception list cannot hide a consistent pair, and a repaired template breaks this theorem
(the entry then has to go). -/
theorem C17_known_inconsistent_exact : ∀ k ∈ c17KnownIds, ∃ g, c17Groups[k.1]? = some g ∧
    (∃ u ∈ g.uses, useIs u k.1 k.2.1 k.2.2.1 = true) ∧
    ∀ u ∈ g.uses, useIs u k.1 k.2.1 k.2.2.1 = true →
      ∃ v : Nat → Bool, Axioms v ∧ eval v (useGuard u) = true ∧ eval v (defGuardOf g.defs) = false := by
  have h : c17KnownIds.all knownEntryOk = true := by decide +kernel
  intro k hk
  have hk' := List.all_eq_true.mp h k hk
  simp only [knownEntryOk, defGuard] at hk'
  cases hg : c17Groups[k.1]? with
  | none => simp [hg] at hk'
  | some g =>
    refine ⟨g, rfl, ?_⟩
    simp only [hg, Option.map_some, Option.getD_some, Bool.and_eq_true, Bool.not_eq_true',
      List.all_eq_true] at hk'
    obtain ⟨hne, hall⟩ := hk'
    constructor
    · obtain ⟨u, hu⟩ := List.isEmpty_eq_false_iff_exists_mem.mp hne
      exact ⟨u, List.mem_filter.mp hu⟩
    · intro u hu hm
      exact refutes_sound axioms _ _ _ (hall u (by simp [List.mem_filter, hu, hm]))

/-- The findings, at the level of guards: the full statement is false on the current tree (witness: the first
entry of the table — the use of `NodeFlags` in parser.go, define block `reportIgnoredToken`, under a valuation with
`.Lexer.UsedFlags` true and `.Parser.UsedFlags`, the guard of the declaration, false; finding C17-lexer-flags,
DESIGN.md §9.3). -/
theorem C17_guards_consistent_full_refuted : ¬ C17_guards_consistent_full := by
  intro hfull
  have hk0 : c17KnownIds.head?.isSome = true := by decide +kernel
  obtain ⟨k, hk⟩ := Option.isSome_iff_exists.mp hk0
  have hmem : k ∈ c17KnownIds := List.mem_of_head? hk
  obtain ⟨g, hg, ⟨u, hu, hm⟩, hall⟩ := C17_known_inconsistent_exact k hmem
  obtain ⟨v, hax, huse, hdef⟩ := hall u hu hm
  -- the two exception lists share no identifier, so `u` is not among the not-propositional uses
  have hnp : c17KnownIds.all (fun k => !c17NotPropIds.any (fun (n, _, _) => n == k.1)) = true := by decide +kernel
  have hnp' : isNotProp u = false := by
    have h1 := List.all_eq_true.mp hnp k hmem
    simp only [Bool.not_eq_true', List.any_eq_false, beq_iff_eq] at h1
    -- an entry matching `u` would carry `u`'s name, which is that of `k`
    exact List.any_eq_false.2 fun ⟨n, f, t⟩ hx hn => h1 _ hx ((useIs_name hn).symm.trans (useIs_name hm))
  have := hfull g (List.mem_of_getElem? hg) u hu hnp' v hax huse
  rw [hdef] at this; cases this

/-- The uses listed as not propositional are exactly of that kind: each entry matches a use, and every
declaration of the identifier sits under an element-level guard (`[local-def] …`), which no use guard can imply. -/
theorem C17_not_propositional_exact : c17NotPropIds.all notPropEntryOk = true := by decide +kernel

/-- No identifier is declared twice: two declaration sites of one name (in files of one package) are never
generated together, under every valuation satisfying the implication table. -/
theorem C17_no_duplicate_definitions : ∀ grp ∈ c17Groups, ∀ g h : GF,
    List.Sublist [g, h] (grp.defs.map defSiteGuardRaw) →
    ∀ v : Nat → Bool, Axioms v → ¬ (eval v g = true ∧ eval v h = true) := by
  have hd : noDuplicates = true := by decide +kernel
  intro grp hgrp g h hsub v hax ⟨hg, hh⟩
  have hgo := List.all_eq_true.mp hd grp hgrp
  have := checkImp_sound axioms _ _ (noDupGo_sublist hgo hsub) v hax (by simp [eval, hg, hh])
  simp [GF.ff, eval] at this

/-- Labels (`restart:`, `recovered:`, `flushed:`; named `Func#label`, their uses are the `goto`s of that
function): besides `goto → label` (part of `C17_guards_consistent_partial`), every generated label is jumped to —
Go rejects an unused label — under every valuation satisfying the implication table. -/
theorem C17_labels_used : ∀ n ∈ c17LabelNames, ∃ g, c17Groups[n]? = some g ∧ ∀ d ∈ g.defs,
    ∀ v : Nat → Bool, Axioms v → eval v (defSiteGuardRaw d) = true → ∃ u ∈ g.uses, eval v (useGuard u) = true := by
  have h : labelsUsed = true := by decide +kernel
  intro n hn
  have hn' := List.all_eq_true.mp h n hn
  cases hg : c17Groups[n]? with
  | none => simp [hg] at hn'
  | some g =>
    refine ⟨g, rfl, ?_⟩
    simp only [hg, List.all_eq_true] at hn'
    intro d hd v hax hdv
    obtain ⟨f, hf, hv⟩ := eval_disj v _ (checkImp_sound axioms _ _ (hn' d hd) v hax hdv)
    obtain ⟨u, hu, rfl⟩ := List.mem_map.mp hf
    exact ⟨u, hu, hv⟩

example : c17LabelNames.length ≥ 5 := by decide +kernel

/-- Completeness of the inventory: the declaration sites found in the templates — package.name, file,
define block, kind and guard — are exactly the pinned ones. A new, removed or moved declaration or an edited guard
around one breaks this. -/
theorem C17_all_definitions_classified : c17DefSigs = c17ExpectedDefSigs := rfl

/-- … and the use sites (digest over identifier, file, define block and guard of each), the function
`language.templates` and the `languages["go"]` table that decide which template produces which file, the way
gen.Generate combines templates, and the template helpers of grammar/gen.go quoted by the implication table are
the reviewed ones; and the extractor understood everything it read. -/
theorem C17_uses_and_selection_pinned : c17Hashes = c17ExpectedHashes ∧ c17Problems = [] := ⟨rfl, rfl⟩

end TmVerif.C17
