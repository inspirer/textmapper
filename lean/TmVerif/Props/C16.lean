import TmVerif.Proofs.ActionRefs
import TmVerif.Proofs.Basic -- for `DecidableEq Except`, which the `decide` example on `action` needs
/-!
C16 — Semantic action references bind to the right symbols. Beside the property theorems: `resolve_spec`,
`resolve_cases` and `evalLoc_slot`, stated with `refPositions` and `StackHolds`, which are defined here.

Objects (all in `Model/ActionRefs.lean`, tied to `/repo` by the correspondence run of `./check C16`):
`build es` mirrors `traverse` of `compiler.generateTables` on the leaves `es` of one EXPANDED rule
(references with their source position, state markers, commands): it yields the stack-relevant
right-hand side `rhs` (with the nullable nonterminals of extracted mid-rule commands), `actualPos`
(= `Remap`), `numRefs`/`SymRefCount`, and for every extracted command its `SymRefCount`/`MaxPos`.
`resolve` mirrors `ActionVars.Resolve`, `locate`/`renderLoc`/`action` mirror `goParserAction`,
`stackAt stack k` is Go's `stack[len(stack)-k]`, `evalLoc` is the value of the generated expression.

Hypotheses, all decidable and checked by the harness on every compiled rule / executed action:
`StackHolds` (the LR invariant: the top `SymRefCount` stack entries are the entries of the rule's
prefix), `Scoped` (a command's `MaxPos` bounds the positions before it).
-/
namespace TmVerif.ActionRefs

/-- `Remap[pos] = i` exactly when `pos` is a real position (> 0) and `i` is the index, among the symbols
of the expanded rule that occupy a stack slot (extracted mid-rule nonterminals included, state markers
not), of the LAST symbol carrying position `pos`. -/
theorem C16_remap_spec (es : List Elem) (pos i : Nat) :
    (build es).actualPos.lookup pos = some i ↔
      0 < pos ∧ (build es).rhs[i]? = some (RSym.sym pos) ∧
        ∀ j, i < j → (build es).rhs[j]? ≠ some (RSym.sym pos) :=
  (inv_build es).map pos i

/-- positions of one expanded rule are pairwise distinct (each source symbol occurs at most once) -/
@[reducible] def PosDistinct (es : List Elem) : Prop :=
  ∀ (i j p : Nat), 0 < p → (build es).rhs[i]? = some (RSym.sym p) → (build es).rhs[j]? = some (RSym.sym p) → i = j

/-- With distinct positions (true for every expansion of a source rule; checked by the harness):
`Remap[pos] = i` iff the `i`-th stack symbol of the expanded rule is the reference allocated `pos`. -/
theorem C16_remap_spec_distinct (es : List Elem) (hd : PosDistinct es) (pos i : Nat) :
    (build es).actualPos.lookup pos = some i ↔ 0 < pos ∧ (build es).rhs[i]? = some (RSym.sym pos) := by
  rw [C16_remap_spec]
  constructor
  · rintro ⟨h0, h1, _⟩; exact ⟨h0, h1⟩
  · rintro ⟨h0, h1⟩
    exact ⟨h0, h1, fun j hj hc => Nat.ne_of_lt hj (hd i j pos h0 h1 hc)⟩

/-- `Remap` is injective: two positions are never mapped to the same stack index (so `reverseLookup`
does not depend on Go's map iteration order). -/
theorem C16_remap_injective (es : List Elem) (p q i : Nat)
    (hp : (build es).actualPos.lookup p = some i) (hq : (build es).actualPos.lookup q = some i) : p = q := by
  have h1 := ((C16_remap_spec es p i).mp hp).2.1
  have h2 := ((C16_remap_spec es q i).mp hq).2.1
  rw [h1] at h2
  injection h2 with h2; injection h2

/-- `SymRefCount` of the end-of-rule action (`numRefs`) is the number of stack symbols of the rule, and the
`k`-th extracted mid-rule nonterminal sits at stack index `SymRefCount` of its own action environment. -/
theorem C16_symRefCount_spec (es : List Elem) :
    (build es).numRefs = (build es).rhs.length ∧
    ∀ (k : Nat) (m : Mid), (build es).mids[k]? = some m → (build es).rhs[m.symRefCount]? = some (RSym.mid k) :=
  ⟨(inv_build es).num, (inv_build es).mids⟩

example : (build [.ref 1, .cmd 2, .ref 2, .ref 0, .marker, .ref 4, .cmd 5]).rhs =
    [.sym 1, .mid 0, .sym 2, .sym 0, .sym 4] ∧
    (build [.ref 1, .cmd 2, .ref 2, .ref 0, .marker, .ref 4, .cmd 5]).actualPos.lookup 4 = some 4 ∧
    (build [.ref 1, .cmd 2, .ref 2, .ref 0, .marker, .ref 4, .cmd 5]).mids = [⟨1, 2⟩] := by decide

/-- the source positions a reference text denotes: `$N` (zero-based) is position `N+1` when it is below
`MaxPos`; a name denotes the positions recorded for the alias -/
def refPositions (v : Vars) (val : Str) : Option (List Nat) :=
  match atoi val with
  | some n => if 1 ≤ n + 1 ∧ n + 1 < (v.maxPos : Int) then some [(n + 1).toNat] else none
  | none =>
    match v.names.lookup val with
    | some (p :: ps) => some (p :: ps)
    | _ => none

/-- `r` is what `Resolve` answers for a reference denoting the positions `ps`: no position survives in this expansion
(is a key of `Remap`) and both indices are −1, or `r` spans from the FIRST surviving position (in source order) to the
LAST one, with their `Remap` indices. -/
@[reducible] def Spans (v : Vars) (ps : List Nat) (r : Reference) : Prop :=
  ((∀ p ∈ ps, v.remap.lookup p = none) ∧ r.index = -1 ∧ r.endIndex = -1) ∨
  ((∃ pre post, ps = pre ++ r.pos :: post ∧ (∀ p ∈ pre, v.remap.lookup p = none)) ∧
   (∃ pre post, ps = pre ++ r.endPos :: post ∧ (∀ p ∈ post, v.remap.lookup p = none)) ∧
   (∃ i j : Nat, v.remap.lookup r.pos = some i ∧ v.remap.lookup r.endPos = some j ∧
     r.index = i ∧ r.endIndex = j))

theorem resolve_spec (v : Vars) (val : Str) :
    match refPositions v val with
    | none => ∃ e, resolve v val = .error e
    | some ps => ∃ r, resolve v val = .ok r ∧ Spans v ps r := by
  fun_cases resolve v val
  -- `$N`: the one position `N+1`, when in range
  case case1 n hat pos h =>
    simp only [refPositions, hat]
    rw [if_neg (by omega)]
    exact ⟨_, rfl⟩
  case case2 n hat pos h p =>
    simp only [refPositions, hat]
    rw [if_pos (by omega)]
    refine ⟨_, rfl, ?_⟩
    unfold remapIdx Spans
    cases hlk : v.remap.lookup p with
    | none => exact .inl ⟨by simpa using hlk, rfl, rfl⟩
    | some i => exact .inr ⟨⟨[], [], rfl, by simp⟩, ⟨[], [], rfl, by simp⟩, i, i, rfl, rfl, rfl, rfl⟩
  -- a name: the positions that are keys of `Remap` are `activeOf v ps`
  case case5 hat p0 l hn hact =>
    simp only [refPositions, hat, hn]
    exact ⟨_, rfl, .inl ⟨fun p hp =>
      Option.not_isSome_iff_eq_none.mp (List.filter_eq_nil_iff.mp hact p hp), rfl, rfl⟩⟩
  case case6 hat p0 l hn a as hact =>
    simp only [refPositions, hat, hn]
    obtain ⟨pre, post, h1, hpre, ha, -⟩ := List.filter_eq_cons_iff.mp hact
    obtain ⟨pre', post', h1', hb, hpost⟩ := filter_getLast _ _ _ _ hact
    obtain ⟨i, hi⟩ := Option.isSome_iff_exists.mp ha
    obtain ⟨j, hj⟩ := Option.isSome_iff_exists.mp hb
    exact ⟨_, rfl, .inr ⟨⟨pre, post, h1, fun p hp => Option.not_isSome_iff_eq_none.mp (hpre p hp)⟩,
      ⟨pre', post', h1', fun p hp => Option.not_isSome_iff_eq_none.mp (hpost p hp)⟩,
      i, j, hi, hj, by simp [remapIdx, hi], by simp [remapIdx, hj]⟩⟩
  -- an unknown name, or one without positions
  all_goals simp only [refPositions, *]; exact ⟨_, rfl⟩

/-- `Resolve` succeeds exactly on the references that denote at least one position of the source rule. -/
theorem C16_resolve_defined (v : Vars) (val : Str) :
    (∃ r, resolve v val = .ok r) ↔ (refPositions v val).isSome = true := by
  have h := resolve_spec v val
  generalize refPositions v val = ps at h ⊢
  cases ps with
  | none =>
    obtain ⟨e, he⟩ := h
    exact ⟨fun ⟨r, hr⟩ => (nomatch he.symm.trans hr), fun hc => (nomatch hc)⟩
  | some ps => exact ⟨fun _ => rfl, fun _ => h.imp fun _ hr => hr.1⟩

theorem resolve_cases (v : Vars) (val : Str) (r : Reference) (ps : List Nat)
    (hr : resolve v val = .ok r) (hps : refPositions v val = some ps) : Spans v ps r := by
  have h := resolve_spec v val
  rw [hps] at h
  obtain ⟨r', hr', hcases⟩ := h
  rwa [Except.ok.inj (hr'.symm.trans hr)] at hcases

/-- Absent references: `Resolve` returns index −1 (and end index −1) exactly when NO position of the
reference survives in this expansion, i.e. none of them is a key of `Remap`. -/
theorem C16_resolve_absent (v : Vars) (val : Str) (r : Reference) (ps : List Nat)
    (hr : resolve v val = .ok r) (hps : refPositions v val = some ps) :
    (r.index = -1 ↔ ∀ p ∈ ps, v.remap.lookup p = none) ∧ (r.index = -1 → r.endIndex = -1) := by
  rcases resolve_cases v val r ps hr hps with ⟨hall, hi, he⟩ | ⟨⟨pre, post, rfl, -⟩, -, i, j, hlk, -, hi, -⟩
  · exact ⟨⟨fun _ => hall, fun _ => hi⟩, fun _ => he⟩
  · have hne : r.index ≠ -1 := by omega
    refine ⟨⟨fun h => absurd h hne, fun h => ?_⟩, fun h => absurd h hne⟩
    rw [h r.pos (by simp)] at hlk; cases hlk

/-- Present references: when some position survives, `Resolve` returns the span from the FIRST surviving
position of the reference (in source order) to the LAST one, with their `Remap` indices. -/
theorem C16_resolve_present (v : Vars) (val : Str) (r : Reference) (ps : List Nat)
    (hr : resolve v val = .ok r) (hps : refPositions v val = some ps) (hne : r.index ≠ -1) :
    (∃ pre post, ps = pre ++ r.pos :: post ∧ (∀ p ∈ pre, v.remap.lookup p = none)) ∧
    (∃ pre post, ps = pre ++ r.endPos :: post ∧ (∀ p ∈ post, v.remap.lookup p = none)) ∧
    (∃ i j : Nat, v.remap.lookup r.pos = some i ∧ v.remap.lookup r.endPos = some j ∧
      r.index = i ∧ r.endIndex = j) :=
  (resolve_cases v val r ps hr hps).resolve_left fun h => hne h.2.1

example : resolve ⟨[(cs "x", [2, 3])], 5, [(1, 0), (3, 1)], 2, [], []⟩ (cs "x") = .ok ⟨3, 3, 1, 1⟩ ∧
    resolve ⟨[(cs "x", [2, 3])], 5, [(1, 0), (4, 1)], 2, [], []⟩ (cs "x") = .ok ⟨2, 3, -1, -1⟩ ∧
    resolve ⟨[], 5, [(1, 0), (4, 1)], 2, [], []⟩ (cs "3") = .ok ⟨4, 4, 1, 1⟩ := ⟨rfl, rfl, rfl⟩

/-- the LR invariant at a reduction: the top `n` entries of the parser stack are `entries` -/
def StackHolds {β : Type} (stack entries : List β) (n : Nat) : Prop :=
  ∃ below, stack = below ++ entries ∧ entries.length = n

/-- The slot arithmetic: with the top `SymRefCount = n` stack entries being the entries of the rule's
symbols, `stack[len(stack) − (n − i)]` is the entry of the `i`-th symbol. -/
theorem C16_slot_spec {β : Type} (stack entries : List β) (n i : Nat)
    (hs : StackHolds stack entries n) (hi : i < n) :
    stackAt stack ((n : Int) - i) = entries[i]? := by
  obtain ⟨below, rfl, hn⟩ := hs
  subst hn
  exact stackAt_append below entries i hi

example : StackHolds [10, 20, 30, 40] [30, 40] 2 ∧ stackAt [10, 20, 30, 40] ((2 : Int) - 0) = some 30 :=
  ⟨⟨[10, 20], rfl, rfl⟩, by decide⟩

theorem evalLoc_slot {α : Type} (v : Vars) (stack entries : List (Entry α)) (lhs : Entry α)
    (hs : StackHolds stack entries v.symRefCount) (pos i : Nat) (hi : i < v.symRefCount) :
    ∃ e, entries[i]? = some e ∧
      evalLoc v stack lhs (.span i i pos) .value = .ok (.val e.value) ∧
      evalLoc v stack lhs (.span i i pos) .offset = .ok (.num e.off) ∧
      evalLoc v stack lhs (.span i i pos) .endoffset = .ok (.num e.endoff) := by
  have hslot := C16_slot_spec stack entries v.symRefCount i hs hi
  have hie : i < entries.length := by rw [hs.choose_spec.2]; exact hi
  rw [List.getElem?_eq_getElem hie] at hslot
  exact ⟨entries[i], List.getElem?_eq_getElem hie, by simp [evalLoc, hslot, entryOut],
    by simp [evalLoc, hslot, entryOut], by simp [evalLoc, hslot, entryOut]⟩

/-- End-of-rule actions: for the environment built by `traverse` (`Remap = actualPos`,
`SymRefCount = numRefs`), a position with `Remap[pos] = i` evaluates — value, offset and end offset — to the
stack entry of the `i`-th right-hand-side symbol, and that symbol is the reference allocated `pos`. -/
theorem C16_bind_end {α : Type} (es : List Elem) (v : Vars)
    (hv : v.remap = (build es).actualPos) (hn : v.symRefCount = (build es).numRefs)
    (stack entries : List (Entry α)) (lhs : Entry α)
    (hs : StackHolds stack entries v.symRefCount) (pos i : Nat) (hl : v.remap.lookup pos = some i) :
    (build es).rhs[i]? = some (RSym.sym pos) ∧
    ∃ e, entries[i]? = some e ∧
      evalLoc v stack lhs (.span i i pos) .value = .ok (.val e.value) ∧
      evalLoc v stack lhs (.span i i pos) .offset = .ok (.num e.off) ∧
      evalLoc v stack lhs (.span i i pos) .endoffset = .ok (.num e.endoff) := by
  rw [hv] at hl
  have hsym := ((C16_remap_spec es pos i).mp hl).2.1
  have hi : i < v.symRefCount := by
    rw [hn, (inv_build es).num]
    exact (List.getElem?_eq_some_iff.mp hsym).1
  exact ⟨hsym, evalLoc_slot v stack entries lhs hs pos i hi⟩

/-- Mid-rule actions: the extracted nonterminal of the `k`-th mid-rule command is placed after
`m.symRefCount` symbols; under `Scoped` every position the command can name (`pos < MaxPos`) that is in
`Remap` lies BEFORE the nonterminal, and with the stack holding the entries of that prefix the computed slot
is the entry of the referenced symbol. -/
theorem C16_bind_mid {α : Type} (es : List Elem) (hsc : Scoped es) (k : Nat) (m : Mid)
    (hm : (build es).mids[k]? = some m) (v : Vars)
    (hv : v.remap = (build es).actualPos) (hn : v.symRefCount = m.symRefCount)
    (stack entries : List (Entry α)) (lhs : Entry α)
    (hs : StackHolds stack entries v.symRefCount) (pos i : Nat) (hpos : pos < m.maxPos)
    (hl : v.remap.lookup pos = some i) :
    i < m.symRefCount ∧ (build es).rhs[m.symRefCount]? = some (RSym.mid k) ∧
    (build es).rhs[i]? = some (RSym.sym pos) ∧
    ∃ e, entries[i]? = some e ∧
      evalLoc v stack lhs (.span i i pos) .value = .ok (.val e.value) ∧
      evalLoc v stack lhs (.span i i pos) .offset = .ok (.num e.off) ∧
      evalLoc v stack lhs (.span i i pos) .endoffset = .ok (.num e.endoff) := by
  rw [hv] at hl
  obtain ⟨h0, hsym, -⟩ := (C16_remap_spec es pos i).mp hl
  -- a reference at or after the nonterminal would be outside the command's scope
  have hlt : i < m.symRefCount := Nat.lt_of_not_le fun hle =>
    (minv_build es hsc m (List.mem_of_getElem? hm) i pos hle hsym).elim (Nat.ne_of_gt h0)
      (Nat.not_le.mpr hpos)
  exact ⟨hlt, (C16_symRefCount_spec es).2 k m hm, hsym,
    evalLoc_slot v stack entries lhs hs pos i (hn ▸ hlt)⟩

example : Scoped [.ref 1, .cmd 2, .ref 2, .cmd 3] ∧
    (build [.ref 1, .cmd 2, .ref 2, .cmd 3]).mids[0]? = some ⟨1, 2⟩ := by
  refine ⟨?_, by decide⟩
  simp [Scoped]

/-- A reference whose symbol is absent from the expansion is rewritten to the text `nil` (value / sym) or
`-1` (offset / endoffset), without declaration, and evaluates to nil / −1 on every stack. -/
theorem C16_absent_renders_nil {α : Type} (v : Vars) (id : Str) (prop : Prp)
    (h : locate v id = .ok .absent) :
    renderRef v id prop = .ok ⟨none, if prop = .value ∨ prop = .sym then cs "nil" else cs "-1"⟩ ∧
    ∀ (stack : List (Entry α)) (lhs : Entry α),
      evalRef v stack lhs id prop = .ok (if prop = .value ∨ prop = .sym then .nil else .neg1) := by
  refine ⟨?_, fun stack lhs => ?_⟩
  · unfold renderRef; rw [h]
    cases prop <;> rfl
  · unfold evalRef; rw [h]
    cases prop <;> rfl

/-- the ids that the `switch` of `goParserAction` hands to `Resolve` unchanged -/
def plainId (id : Str) : Prop :=
  id ≠ cs "left()" ∧ id ≠ cs "leftRaw()" ∧ id ≠ cs "first()" ∧ id ≠ cs "last()" ∧ stripSelf id = .ok id

/-- For an ordinary reference (`$N`, `$name`) `goParserAction` treats it as absent exactly when `Resolve`
returns index −1. -/
theorem C16_locate_absent_iff (v : Vars) (id : Str) (hp : plainId id) :
    locate v id = .ok .absent ↔ ∃ r, resolve v id = .ok r ∧ r.index = -1 := by
  obtain ⟨h1, h2, h3, h4, h5⟩ := hp
  unfold locate
  have e1 : (id == cs "left()") = false := by simpa using h1
  have e2 : (id == cs "leftRaw()") = false := by simpa using h2
  have e3 : ¬ (id == cs "first()" ∨ id == cs "last()") := by simp [h3, h4]
  simp only [e1, e2, e3, if_false, Bool.false_eq_true, h5, bind, Except.bind]
  cases hr : resolve v id with
  | error e => simp
  | ok r =>
    have hR : (∃ r', Except.ok r = Except.ok (ε := Err) r' ∧ r'.index = -1) ↔ r.index = -1 :=
      ⟨fun ⟨_, e, h⟩ => Except.ok.inj e ▸ h, fun h => ⟨r, rfl, h⟩⟩
    rw [hR]
    simp only
    -- of the three outcomes only the `index == -1` branch is `.absent`; the first is taken only with `index ≥ 0`
    split
    next hc =>
      have hne : r.index ≠ -1 := by omega
      split <;> simp [hne]
    next =>
      split
      next h => simpa using h
      next h => simpa using h

/-- The text produced for a present, single-symbol, untyped reference names exactly the slot of
`C16_slot_spec`: `stack[len(stack)-(SymRefCount-index)]` followed by `.value` / `.sym.offset` /
`.sym.endoffset`; a typed position adds the declaration `nn<i>, _ := <slot>.value.(T)` and uses `nn<i>`. -/
theorem C16_present_renders_slot (v : Vars) (i : Nat) (pos : Nat) :
    renderLoc v (.span i i pos) .offset = .ok ⟨none, slotText v i ++ cs ".sym.offset"⟩ ∧
    renderLoc v (.span i i pos) .endoffset = .ok ⟨none, slotText v i ++ cs ".sym.endoffset"⟩ ∧
    (typeOf v pos = [] → renderLoc v (.span i i pos) .value = .ok ⟨none, slotText v i ++ cs ".value"⟩) ∧
    (typeOf v pos ≠ [] → renderLoc v (.span i i pos) .value =
      .ok ⟨some ((i : Int), cs "nn" ++ showInt i ++ cs ", _ := " ++ slotText v i ++ cs ".value.(" ++ typeOf v pos ++ cs ")\n"),
           cs "nn" ++ showInt i⟩) ∧
    slotText v i = cs "stack[len(stack)-" ++ showInt ((v.symRefCount : Int) - i) ++ cs "]" := by
  refine ⟨by simp [renderLoc], by simp [renderLoc], fun h => ?_, fun h => ?_, rfl⟩
  · simp [renderLoc, h]
  · simp [renderLoc, h]

example : action ⟨[(cs "a", [2])], 3, [(1, 0)], 1, [(1, cs "int")], []⟩ (cs "$$ = $0 + $a + ${a.offset}") =
    .ok (cs "nn0, _ := stack[len(stack)-1].value.(int)\nlhs.value = nn0 + nil + -1") := by decide +kernel

end TmVerif.ActionRefs
