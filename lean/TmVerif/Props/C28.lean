import TmVerif.Proofs.IdentDup
/-!
C28 — Symbol names map to valid target identifiers.

`produce` mirrors `ident.Produce` (all four styles) on byte strings; `TmName` is the set of spellings
the tm lexer admits as a symbol name (`ID`, `quoted_id`, `scon`); `ValidIdent` is `[A-Za-z_][A-Za-z0-9_]*`
minus `_` (an ASCII identifier valid in Go, C++ and TypeScript, non-empty and not Go's blank identifier).
`Good` is the exact side condition: the theorem pair `C28_produce_valid_partial` / `C28_produce_invalid` shows
that on lexer-admitted names `Produce` yields a valid identifier IF AND ONLY IF `Good` holds, so the
property as stated ("every admitted name") is FALSE for the complement of `Good`
(`C28_produce_bad_witnesses`): `_`, `__`, `_-_`, `''`, `""` … — finding 8 of DESIGN §6, confirmed on
the real `ident.Produce` and `compiler.Compile` by the harness (no error is reported for them).

Then the same pair for explicit lexeme IDs `name (ID)` (`lexemeId`, side condition `goodExplicit`), and duplicate-ID
detection as sequenced by `compiler.Compile` (`compileSyms`): complete for the symbols the resolver registers
(`C28_dup_detect_partial`), sound (`C28_dup_sound`), and missing for mid-rule nonterminals (`C28_midrule_bad_witness`).
-/
namespace TmVerif.Ident

/-- the statement of the property without the side condition; refuted by `C28_produce_bad_witnesses` -/
def C28_produce_valid_full : Prop :=
  ∀ name style, TmName name → ValidIdent (produce name style)

/-- Every spelling the tm lexer admits, in every style, is turned into a non-empty, non-blank identifier
that is valid in Go, C++ and TypeScript — provided `Good name style` (quoted with non-empty contents, or
containing a letter/digit, or `UpperCase` with two underscores). -/
theorem C28_produce_valid_partial (name : Str) (style : Style) (htm : TmName name)
    (hg : Good name style) : ValidIdent (produce name style) :=
  (validIdent_produce name style htm).trans hg

example : TmName (cs ['a','-','b']) ∧ Good (cs ['a','-','b']) .upperUnderscores ∧
    produce (cs ['a','-','b']) .upperUnderscores = cs ['A','_','B'] := by decide +kernel
example : TmName (cs ['\'','+','+','\'']) ∧ Good (cs ['\'','+','+','\'']) .camelCase ∧
    produce (cs ['\'','+','+','\'']) .camelCase = cs ['P','l','u','s','P','l','u','s'] := by decide +kernel

/-- `Good` is exact: a lexer-admitted name outside `Good` yields `""` or `"_"`. -/
theorem C28_produce_invalid (name : Str) (style : Style) (htm : TmName name)
    (hg : ¬ Good name style) : ¬ ValidIdent (produce name style) :=
  fun hv => hg ((validIdent_produce name style htm).symm.trans hv)

example : TmName [95] ∧ ¬ Good [95] .upperCase := by decide +kernel

/-- Concrete failures of the unconditional property: the token name `_` gets the ID `_` (style
`UpperCase`, used for terminals), the nonterminal name `_` gets the empty ID (style `CamelCase`), the
quoted terminals `''` and `""` get the empty ID; all four spellings are admitted by the tm lexer. -/
theorem C28_produce_bad_witnesses :
    (TmName [95] ∧ produce [95] .upperCase = [95] ∧ ¬ ValidIdent (produce [95] .upperCase)) ∧
    (TmName [95] ∧ produce [95] .camelCase = [] ∧ ¬ ValidIdent (produce [95] .camelCase)) ∧
    (TmName [95, 45, 95] ∧ produce [95, 45, 95] .camelLower = [] ∧ produce [95, 45, 95] .upperUnderscores = []) ∧
    (TmName [39, 39] ∧ produce [39, 39] .upperCase = []) ∧
    (TmName [34, 34] ∧ produce [34, 34] .upperCase = []) ∧
    ¬ C28_produce_valid_full := by
  refine ⟨by decide +kernel, by decide +kernel, by decide +kernel, by decide +kernel, by decide +kernel, ?_⟩
  intro h
  exact absurd (h [95] .upperCase (by decide)) (by decide)

/-- Reserved words. `Produce` does not consult any keyword list. For the three styles used for symbol
IDs in generated code (`UpperCase` for terminals, `CamelCase` for nonterminals, `UpperUnderscores`) the
result never starts with a lower-case letter, so it cannot be a keyword of Go, C++ or TypeScript (all of
which start with a lower-case letter). `CamelLower` (used for field names in syntax/types.go) does
produce keywords: `Produce("if", CamelLower) = "if"`. -/
theorem C28_not_lower_start (name : Str) (style : Style) (hs : style ≠ .camelLower) (c : Nat)
    (hc : (produce name style).head? = some c) : isLowerA c = false :=
  produce_head name style hs c hc

example : produce (cs ['i','f']) .camelLower = cs ['i','f'] ∧
    produce (cs ['\'','i','f','\'']) .camelLower = cs ['i','f'] ∧
    produce (cs ['i','f']) .camelCase = cs ['I','f'] := by decide +kernel

/-- Casing style of terminal IDs: the `UpperCase` (and `UpperUnderscores`) result contains no lower-case
letter, for every byte string. -/
theorem C28_upper_style (name : Str) (style : Style)
    (hs : style = .upperCase ∨ style = .upperUnderscores) (c : Nat) (hc : c ∈ produce name style) :
    isLowerA c = false :=
  (produce_chars name style c hc).2 hs

example : produce (cs ['t','h','i','n','A','r','r','o','w']) .upperCase =
    cs ['T','H','I','N','A','R','R','O','W'] := by decide +kernel

/-! Explicit lexeme IDs `name (ID)` (compiler/lexer.go, both the regular and the flex-mode path): the
clause is an `identifier` token (`ID` pattern incl. keywords, never quoted); `lexemeId` mirrors what the
compiler does with it. -/

/-- exact side condition for an explicit ID: it has a lower-case letter (then it goes through
`Produce(UpperCase)`), or it is used verbatim and has no `-` and is not the blank identifier -/
def goodExplicit (id : Str) : Bool := id.any isLowerA || (!id.contains 45 && id != [95])

theorem validIdent_lexemeId (id : Str) (hid : isID id = true) :
    validIdent (lexemeId id) = goodExplicit id := by
  unfold lexemeId goodExplicit
  cases hl : id.any isLowerA with
  | true =>
    obtain ⟨b, hb, hbl⟩ := List.any_eq_true.1 hl
    have : id.any isAlnum = true := List.any_eq_true.2 ⟨b, hb, wordChar_alnum (by rw [hbl]; rfl)⟩
    rw [if_pos rfl, validIdent_produce_id id .upperCase hid, good, this, Bool.or_true, Bool.true_or]
    rfl
  | false => exact validIdent_isID id hid

/-- the statement without the side condition; refuted by `C28_explicit_id_bad_witnesses` -/
def C28_explicit_id_valid_full : Prop := ∀ id, isID id = true → ValidIdent (lexemeId id)

/-- An admitted explicit ID yields a valid identifier without lower-case letters, provided
`goodExplicit`. -/
theorem C28_explicit_id_valid_partial (id : Str) (hid : isID id = true) (hg : goodExplicit id = true) :
    ValidIdent (lexemeId id) ∧ ∀ c ∈ lexemeId id, isLowerA c = false := by
  refine ⟨(validIdent_lexemeId id hid).trans hg, fun c hc => ?_⟩
  unfold lexemeId at hc
  split at hc
  · exact (produce_chars id .upperCase c hc).2 (Or.inl rfl)
  · next hl => exact Bool.eq_false_iff.2 fun h => hl (List.any_eq_true.2 ⟨c, hc, h⟩)

example : isID (cs ['f','a','t','-','A','r','r','o','w']) = true ∧
    goodExplicit (cs ['f','a','t','-','A','r','r','o','w']) = true ∧
    lexemeId (cs ['f','a','t','-','A','r','r','o','w']) = cs ['F','A','T','A','R','R','O','W'] := by decide +kernel

/-- `goodExplicit` is exact. -/
theorem C28_explicit_id_invalid (id : Str) (hid : isID id = true) (hg : goodExplicit id = false) :
    ¬ ValidIdent (lexemeId id) :=
  Bool.eq_false_iff.1 ((validIdent_lexemeId id hid).trans hg)

/-- Concrete failures for explicit IDs: `(A-B)` and `(_)` are admitted `identifier` tokens, are taken
verbatim and are not valid identifiers. -/
theorem C28_explicit_id_bad_witnesses :
    (isID (cs ['A','-','B']) = true ∧ lexemeId (cs ['A','-','B']) = cs ['A','-','B'] ∧
      ¬ ValidIdent (lexemeId (cs ['A','-','B']))) ∧
    (isID [95] = true ∧ lexemeId [95] = [95] ∧ ¬ ValidIdent (lexemeId [95])) ∧
    ¬ C28_explicit_id_valid_full := by
  refine ⟨by decide +kernel, by decide +kernel, ?_⟩
  intro h
  exact absurd (h (cs ['A','-','B']) (by decide)) (by decide)

/-- the statement for ALL symbols of the compiled grammar, mid-rule nonterminals included; refuted by
`C28_midrule_bad_witness` -/
def C28_dup_detect_full : Prop :=
  ∀ d : Decls, ¬ (allIds d).Nodup → (compileSyms d).errs ≠ []

/-- Duplicate detection (mirror of `resolver.addToken` / `syntaxLoader.collectNonterms` /
`resolver.addNonterms` as sequenced by `compiler.Compile`, regular and flex-mode lexer sections): whenever
two symbols registered by the resolver — terminals incl. `eoi`/`invalid_token`, and the nonterminals of
the instantiated and expanded model (template instances, groups, lists, optionals; given as input
`Decls.final`) — receive the same ID, an error is reported. Partial: the mid-rule action nonterminals
(`u$1`) are appended without any check. -/
theorem C28_dup_detect_partial (d : Decls) (h : ¬ (finalIds d).Nodup) : (compileSyms d).errs ≠ [] := by
  by_cases hemp : (collectNonterms (tokenPhase d) d.nonterms [] (tokenPhase d).errs).2.isEmpty = true
  · intro he
    have := (hasDup_compileSyms d hemp).2 h
    rw [he] at this
    cases this
  · -- `compileSyms` stops before `addNonterms` and returns the errors reported so far, of which there are some
    rw [compileSyms_stopped d hemp]
    simpa [List.isEmpty_iff] using hemp

example : ¬ (finalIds ⟨[(cs ['a','_','b'], [], false), (cs ['A','_','B'], [], false)], [], false, none, []⟩).Nodup := by
  decide +kernel
-- `whitespace` then `white-space … (space)`: the later one is a space terminal, still a collision
example : ¬ (finalIds ⟨[(cs ['w','s'], [], false), (cs ['w','-','s'], [], true)], [], false, none, []⟩).Nodup ∧
    (compileSyms ⟨[(cs ['w','s'], [], false), (cs ['w','-','s'], [], true)], [], false, none, []⟩).errs ≠ [] := by
  decide +kernel
-- template instance `x_B` (ID `XB`) against the terminal `XB`
example : ¬ (finalIds ⟨[(cs ['X','B'], [], false)], [cs ['i','n','p','u','t'], cs ['x']], false,
    some [cs ['i','n','p','u','t'], cs ['x','_','B']], []⟩).Nodup := by decide +kernel

/-- …and a "get the same ID" error is reported only when two source-declared symbols or two registered
symbols do collide. -/
theorem C28_dup_sound (d : Decls) (h : hasDup (compileSyms d).errs = true) :
    ¬ (declaredIds d).Nodup ∨ ¬ (finalIds d).Nodup := by
  by_cases hemp : (collectNonterms (tokenPhase d) d.nonterms [] (tokenPhase d).errs).2.isEmpty = true
  · exact Or.inr ((hasDup_compileSyms d hemp).1 h)
  · -- stopped before `addNonterms`: the `dup` is of the token phase (two terminals share an ID) or of
    -- `collectNonterms` (the ID of an accepted nonterminal is registered already, so by a terminal)
    left
    have hinv := tokenPhase_inv d
    obtain ⟨new, more, hc, hm⟩ := collect_facts (tokenPhase d) d.nonterms [] (tokenPhase d).errs
    rw [declaredIds, compileSyms_stopped d hemp]
    rw [compileSyms_stopped d hemp] at h
    simp only [hc, List.nil_append] at h ⊢
    rw [hasDup_append, Bool.or_eq_true] at h
    rcases h with h | h
    · intro hn
      exact (hinv.dup_iff.1 h) (List.nodup_append.1 hn).1
    · obtain ⟨n, hn, hl⟩ := List.any_eq_true.1 (hm ▸ h)
      intro hnd
      exact (List.nodup_append.1 hnd).2.2 _ ((hinv.ids_iff _).1 hl) (produce n .camelCase)
        (List.mem_map_of_mem hn) rfl

example : hasDup (compileSyms ⟨[(cs ['a'], [], false)], [cs ['i','n','p','u','t'], cs ['A']], false, none, []⟩).errs = true := by
  decide +kernel

/-- Concrete failure of duplicate detection (confirmed on the real `compiler.Compile`): the terminal
`u_1` and the mid-rule nonterminal `u$1` of `u : a { … } b c ;` both get the ID `U_1`, no error. -/
theorem C28_midrule_bad_witness :
    let d : Decls := ⟨[(cs ['a'], [], false), (cs ['u','_','1'], [], false)], [cs ['i','n','p','u','t'], cs ['u']],
      false, none, [cs ['u','$','1']]⟩
    ¬ (allIds d).Nodup ∧ (compileSyms d).errs = [] ∧
      ¬ ((compileSyms d).syms.map (·.id)).Nodup ∧ ¬ C28_dup_detect_full := by
  intro d
  have h1 : ¬ (allIds d).Nodup := by decide
  have h2 : (compileSyms d).errs = [] := by decide
  exact ⟨h1, h2, by decide, fun h => h d h1 h2⟩

end TmVerif.Ident
