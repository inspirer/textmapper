import TmVerif.Proofs.LRCheckMin
/-!
C06 — state minimisation preserves behaviour from every entry point.
`simCheck` is the certificate check run on the real unminimized/minimized tables of every sampled
grammar. The theorems state what an accepted certificate guarantees, for all tables — per related
pair of states, and (`C06_runs_equal`) for whole runs of the runtime model `Model/LR.lean` on every
input.
-/
namespace TmVerif.LRCheck
open TmVerif.LR

/-- Entry points: the parser for input `i` starts in state `i` in both tables, and these are
related (a renumbering that moved an entry state is rejected). -/
theorem C06_entries_related (t t' : Tables) (acts : Array Int) (n : Nat) (rel : Array (Option Nat))
    (rs : List (List Nat)) (h : simCheck t t' acts n rel rs = true) (i : Nat) (hi : i < n) :
    relAt rel i = some i :=
  simCheck_entry h hi

/-- Related states move together: on every symbol either both have no transition or both have one
and the targets are related again. -/
theorem C06_transitions_related (t t' : Tables) (acts : Array Int) (n : Nat)
    (rel : Array (Option Nat)) (rs : List (List Nat)) (h : simCheck t t' acts n rel rs = true)
    (s s' : Nat) (hs : s < t.nStates) (hr : relAt rel s = some s') (x : Nat) (hx : x < t.nSyms) :
    gotoSim t t' rel s s' x = true :=
  (simCheck_state h hs hr).1 x hx

/-- Related states act alike on every terminal: same shift (to related states), reduction of a rule
of the same class (same left-hand side, length and action), or error. -/
theorem C06_actions_related (t t' : Tables) (acts : Array Int) (n : Nat)
    (rel : Array (Option Nat)) (rs : List (List Nat)) (h : simCheck t t' acts n rel rs = true)
    (s s' : Nat) (hs : s < t.nStates) (hr : relAt rel s = some s') (a : Nat) (ha : a < t.nTerms) :
    obsSim t t' acts rel (obsDefault t s a) (obsDefault t' s' a) = true :=
  (simCheck_state h hs hr).2 a ha

/-- Acceptance coincides on everything a run from input `i` can reach: the set `rs[i]` contains the
entry state, is closed under transitions, and on it "is the final state of input `i`" is preserved
by the relation. -/
theorem C06_acceptance_related (t t' : Tables) (acts : Array Int) (n : Nat)
    (rel : Array (Option Nat)) (rs : List (List Nat)) (h : simCheck t t' acts n rel rs = true)
    (i : Nat) (hi : i < n) :
    (rs.getD i []).contains i = true ∧ reachClosed t (rs.getD i []) = true ∧
    ∃ f f', t.finalStates[i]? = some f ∧ t'.finalStates[i]? = some f' ∧
      ∀ s ∈ rs.getD i [], ∃ s', relAt rel s = some s' ∧ ((f == (s : Int)) = (f' == (s' : Int))) := by
  obtain ⟨h1, h2, f, f', hf, hf', hset⟩ := simCheck_input h hi
  exact ⟨h1, h2, f, f', hf, hf', fun s hs => (hset s hs).2⟩

/-! ### whole runs

`run { t with optimized := false } inp i fuel` is the parse loop of the generated parser (default
encoding) started at input `i`. Side conditions on the tables, decidable and evaluated by the driver
on every real pair of tables (answer `hypothesis-fails …` otherwise): `tablesWf` of both table sets,
`sameRules t t'` (the minimiser leaves `RuleLen`/`RuleSymbol`/the number of terminals alone). On the
input: `inputOk` (token symbols are terminals), which no driver evaluates. -/

/-- meaning of `traceSim`: the traces have the same length and correspond event by event —
the same token shifted, or two rules of one class (same left-hand side, length, action id)
reduced over the same range -/
theorem C06_traceSim_spec (t : Tables) (acts : Array Int) : ∀ (evs evs' : List Ev),
    traceSim t acts evs evs' = true ↔
      evs.length = evs'.length ∧
      ∀ (k : Nat) (e e' : Ev), evs[k]? = some e → evs'[k]? = some e' →
        (∃ s o en, e = Ev.shift s o en ∧ e' = Ev.shift s o en) ∨
        (∃ r r' o en, e = Ev.reduce r o en ∧ e' = Ev.reduce r' o en ∧
          ruleClassEq t acts r r' = true)
  | [], [] => ⟨fun _ => ⟨rfl, fun _ _ _ h => nomatch h⟩, fun _ => rfl⟩
  | [], _ :: _ => ⟨nofun, fun h => nomatch h.1⟩
  | _ :: _, [] => ⟨nofun, fun h => nomatch h.1⟩
  | e0 :: es, e0' :: es' => by
    rw [traceSim, Bool.and_eq_true, evSim_iff, C06_traceSim_spec t acts es es', List.length_cons,
      List.length_cons, Nat.succ_inj]
    constructor
    · rintro ⟨h0, hl, hk⟩
      refine ⟨hl, fun k e e' he he' => ?_⟩
      cases k with
      | zero => cases he; cases he'; exact h0
      | succ k => exact hk k e e' he he'
    · rintro ⟨hl, hk⟩
      exact ⟨hk 0 e0 e0' rfl rfl, hl, fun k e e' he he' => hk (k + 1) e e' he he'⟩

/-- An accepted certificate lifts to whole runs: started at any input `i < n`, on every token
sequence and with every fuel, the unminimized and the minimized tables produce the same result
(accept, syntax error at the same token, panic, out of fuel) and corresponding traces. -/
theorem C06_runs_equal (t t' : Tables) (acts : Array Int) (n : Nat) (rel : Array (Option Nat))
    (rs : List (List Nat)) (h : simCheck t t' acts n rel rs = true)
    (hwf : tablesWf t = true) (hwf' : tablesWf t' = true) (hsr : sameRules t t' = true)
    (inp : Input) (hin : inputOk t inp = true) (i : Nat) (hi : i < n) (fuel : Nat) :
    (run { t with optimized := false } inp i fuel).1 = (run { t' with optimized := false } inp i fuel).1 ∧
    traceSim t acts (run { t with optimized := false } inp i fuel).2.evs
      (run { t' with optimized := false } inp i fuel).2.evs = true :=
  run_rel h hwf hwf' hsr hin hi fuel

/-- in particular both tables accept the same token sequences from every entry point -/
theorem C06_same_language (t t' : Tables) (acts : Array Int) (n : Nat) (rel : Array (Option Nat))
    (rs : List (List Nat)) (h : simCheck t t' acts n rel rs = true)
    (hwf : tablesWf t = true) (hwf' : tablesWf t' = true) (hsr : sameRules t t' = true)
    (inp : Input) (hin : inputOk t inp = true) (i : Nat) (hi : i < n) (fuel : Nat) :
    (run { t with optimized := false } inp i fuel).1 = .accept ↔
    (run { t' with optimized := false } inp i fuel).1 = .accept := by
  rw [(C06_runs_equal t t' acts n rel rs h hwf hwf' hsr inp hin i hi fuel).1]

/-! ### non-vacuity: real tables of `S : a S | a b ;` before and after `MinimizeDFA`
(a case of a quick run; the minimiser merges the two reduce states 2 and 3, the rules 0 and 1 have
the same left-hand side, length and action id) -/

def exT : Tables :=
  { nTerms := 3, action := #[-1, -1, 1, 0, -1, -2], lalr := #[], goto_ := #[0, 2, 6, 8, 12, 12],
    fromTo := #[4, 5, 0, 1, 1, 1, 1, 2, 0, 4, 1, 3], ruleLen := #[2, 2, 2],
    ruleSymbol := #[3, 3, 4], finalStates := #[5] }

def exT' : Tables :=
  { nTerms := 3, action := #[-1, -1, 0, -1, -2], lalr := #[], goto_ := #[0, 2, 6, 8, 12, 12],
    fromTo := #[3, 4, 0, 1, 1, 1, 1, 2, 0, 3, 1, 2], ruleLen := #[2, 2, 2],
    ruleSymbol := #[3, 3, 4], finalStates := #[4] }

def exRel : Array (Option Nat) := #[some 0, some 1, some 2, some 2, some 3, some 4]

/-- `a a b` -/
def exInp : Input := ⟨#[⟨1, 0, 1⟩, ⟨1, 1, 2⟩, ⟨2, 2, 3⟩], 3⟩

example : simCheck exT exT' #[0, 0, 0] 1 exRel [[0, 1, 2, 3, 4, 5]] = true ∧
    tablesWf exT = true ∧ tablesWf exT' = true ∧ sameRules exT exT' = true ∧
    inputOk exT exInp = true := by
  decide +kernel

/-- both accept `a a b`; the traces differ (rule 1 then rule 0 against rule 0 twice) but
correspond up to rule classes -/
example : (run { exT with optimized := false } exInp 0 20).1 = .accept ∧
    (run { exT' with optimized := false } exInp 0 20).1 = .accept ∧
    (run { exT with optimized := false } exInp 0 20).2.evs =
      [.shift 0 3 3, .reduce 0 0 3, .reduce 1 1 3, .shift 2 2 3, .shift 1 1 2, .shift 1 0 1] ∧
    (run { exT' with optimized := false } exInp 0 20).2.evs =
      [.shift 0 3 3, .reduce 0 0 3, .reduce 0 1 3, .shift 2 2 3, .shift 1 1 2, .shift 1 0 1] := by
  decide +kernel

end TmVerif.LRCheck
