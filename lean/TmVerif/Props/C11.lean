import TmVerif.Proofs.LexRunRefine
/-!
C11 — Generated Go lexers tokenize exactly as the lexer rules specify (property theorems only).

Model: `Model/LexRun.lean` — `next` mirrors the `Lexer.Next` that go_lexer.go.tmpl generates (rune/byte
reading, `tmRuneClass`/`mapRune`, DFA stepping with `backupToken/backupOffset`, keyword hash switch,
space restart, invalid-token forced progress, EOI, line/lineOffset/column, `rewind`, `State`);
`specNext`/`specOnce` is the documented tokenization in terms of `lex.Tables.Scan` (`scanG`).
The tie of the model to the real templates is the differential run of `./check C11`.

Deviations of the current tree are explicit `Variant` flags of the model; the theorems below state
the documented behaviour for the fixed variant and carry the counterexample for the current one:
* `colFix` — `Column()`: `C11_positions_spec` / `C11_positions_spec_partial` /
  `C11_column_current_tree_counterexample`;
* `hashFix` — keywords of byte-mode lexers: `C11_hash_switch_correct` /
  `C11_bytes_hash_current_tree_counterexample`, and through `HashOk` `C11_next_refines_scan` /
  `C11_bytes_keyword_current_tree_counterexample`.
-/
namespace TmVerif.LexRun
open TmVerif.LexTables

/-- Mirror of `asStringSwitch`/`stringHash` and of the generated
`switch hash & mask { case V: if hash == H && "kw" == text … }`: looking up the matched text with the
hash accumulated at run time returns `m[text]` — the keyword's action iff the text is a keyword — for
any keyword map (collisions in a bucket included), in rune mode, or in byte mode when the generator
hashes bytes (fixes/C11-bytes-hash.diff) or the text is ASCII. -/
theorem C11_hash_switch_correct (sb hashFix : Bool) (m : List (List UInt8 × Int)) (text : List UInt8)
    (h : sb = false ∨ hashFix = true ∨ IsAscii text) :
    (asStringSwitch (stringHash (hashFix && sb)) m).lookup (runtimeHash sb text) text = mapLookup m text := by
  rw [runtime_hash_eq sb hashFix text h]
  exact lookup_correct _ m text

/-- Whatever the hash, a hit of the switch is the entry of the text (a wrong keyword is never returned). -/
theorem C11_hash_switch_sound (hashf : List UInt8 → Nat) (m : List (List UInt8 × Int)) (hash : Nat)
    (text : List UInt8) (x : Int) (h : (asStringSwitch hashf m).lookup hash text = some x) :
    mapLookup m text = some x := lookup_sound hashf m hash text x h

/-- The statement without the side condition (the current tree: `stringHash` over runes for every lexer). -/
def C11_hash_switch_correct_full : Prop :=
  ∀ (sb : Bool) (m : List (List UInt8 × Int)) (text : List UInt8),
    (asStringSwitch (stringHash false) m).lookup (runtimeHash sb text) text = mapLookup m text

/-- Current tree, byte mode: the keyword `é` (bytes C3 A9) is in the map but the lookup with the
byte-wise run-time hash misses it — the generated lexer returns the class token instead. -/
theorem C11_bytes_hash_current_tree_counterexample : ¬ C11_hash_switch_correct_full := by
  intro h
  have := h true [([0xC3, 0xA9], 5)] [0xC3, 0xA9]
  revert this
  decide

-- non-vacuity: a rune-mode lookup with a colliding bucket
example : (asStringSwitch (stringHash false) [([97], 3), ([121], 7), ([0xC3, 0xA9], 5)]).lookup
    (runtimeHash false [121]) [121] = some 7 := by decide

/-- Tables of the grammar `tokenColumn = true; ws: /[ \n]+/ (space); id: /[a-z]+/` as compiled by
the real generator (token ids: invalid_token 1, ws 2, id 3). -/
def probeSpec (v : Variant) : Spec where
  t := { scanBytes := false,
         symbolMap := #[⟨0, 1⟩, ⟨10, 2⟩, ⟨11, 1⟩, ⟨32, 2⟩, ⟨33, 1⟩, ⟨97, 3⟩, ⟨123, 1⟩],
         numSymbols := 4, stateMap := #[0],
         dfa := #[-2, -2, 2, 1, -4, -4, -4, 1, -3, -3, 2, -3], backtrack := #[] }
  cm := ⟨((List.range 123).map fun i => if i = 10 ∨ i = 32 then (2 : Int) else if 97 ≤ i then 3 else 1).toArray,
         false, #[], 1⟩
  opts := ⟨true, false, true, false, true⟩
  v := v
  multiState := false
  ruleToken := none
  invalidToken := 1
  spaceActions := [2]
  classActions := []

/-- Template after fixes/C11-column.diff: the token returned by `Next` lies at or
after the previous position inside the input; `Line()` is `1 +` the number of newlines before its
first byte; `Column()` is the number of bytes since the last newline before it (or the start of the
input) `+ 1`. -/
theorem C11_positions_spec (sp : Spec) (hw : tablesWF sp [] = true) (hfix : sp.v.colFix = true)
    (l : Lexer) (hp : PInv sp.opts sp.v l) (hv : ValidState sp l) (tok : Int) (l' : Lexer)
    (h : next sp l = some (tok, l')) :
    l.offset ≤ l'.tokenOffset ∧ l'.tokenOffset ≤ l'.offset ∧ l'.offset ≤ l.source.length ∧
    (sp.opts.tokenLine = true → l'.tokenLine = 1 + (countNL (l.source.take l'.tokenOffset) : Int)) ∧
    (sp.opts.tokenColumn = true → ∃ ls : Nat, ls ≤ l'.tokenOffset ∧
      l'.tokenColumn = (l'.tokenOffset : Int) - ls + 1 ∧
      (ls = 0 ∨ l.source[ls - 1]? = some 10) ∧ ∀ i : Nat, ls ≤ i → i < l'.tokenOffset → l.source[i]? ≠ some 10) := by
  have h2 := next_spec sp (wfacts_of_tablesWF sp hw) l hp hv tok l' h
  obtain ⟨p1, p2, p3, p4⟩ := h2.positions
  refine ⟨p1, p2, p3, p4, fun hc => ?_⟩
  have hcol := h2.col hc (Or.inr hfix)
  simp only [hfix, if_true] at hcol
  rw [h2.source] at hcol
  obtain ⟨s1, s2, s3⟩ := lineStart_spec l.source l'.tokenOffset (Nat.le_trans p2 p3)
  exact ⟨_, s1, hcol, s2, s3⟩

/-- The column clause (the line start as `lineStart`) for EVERY variant of the template, the current
tree included. -/
def C11_positions_spec_full : Prop :=
  ∀ (sp : Spec), tablesWF sp [] = true → ∀ (l : Lexer), PInv sp.opts sp.v l → ValidState sp l →
    ∀ (tok : Int) (l' : Lexer), next sp l = some (tok, l') → sp.opts.tokenColumn = true →
      l'.tokenColumn = (l'.tokenOffset : Int) - (lineStart l.source l'.tokenOffset : Int) + 1

/-- What holds for every variant (the current tree included): offsets and `Line()` as documented;
`Column()` (with `tokenLine`) is the documented value or one more. -/
theorem C11_positions_spec_partial (sp : Spec) (hw : tablesWF sp [] = true)
    (l : Lexer) (hp : PInv sp.opts sp.v l) (hv : ValidState sp l) (tok : Int) (l' : Lexer)
    (h : next sp l = some (tok, l')) :
    l.offset ≤ l'.tokenOffset ∧ l'.tokenOffset ≤ l'.offset ∧ l'.offset ≤ l.source.length ∧
    (sp.opts.tokenLine = true → l'.tokenLine = 1 + (countNL (l.source.take l'.tokenOffset) : Int)) ∧
    (sp.opts.tokenColumn = true → sp.opts.tokenLine = true →
      l'.tokenColumn = (l'.tokenOffset : Int) - (lineStart l.source l'.tokenOffset : Int) + 1 ∨
      l'.tokenColumn = (l'.tokenOffset : Int) - (lineStart l.source l'.tokenOffset : Int) + 2) := by
  have h2 := next_spec sp (wfacts_of_tablesWF sp hw) l hp hv tok l' h
  obtain ⟨p1, p2, p3, p4⟩ := h2.positions
  refine ⟨p1, p2, p3, p4, fun hc ht => ?_⟩
  have hcol := h2.col hc (Or.inl ht)
  rw [h2.source] at hcol
  split at hcol
  · exact Or.inl hcol
  · exact hcol

theorem probeSpec_wf (v : Variant) : tablesWF (probeSpec v) [] = true := by
  refine (tablesWF_variant (probeSpec Variant.current) v []).trans ?_
  -- `Array.all` fetches element by element, and in the kernel each fetch walks the computed class map
  -- (`(List.range 123).map …`) from its head: quadratic. On `toList` the test is one walk.
  simp only [tablesWF, Tables.wf, classMapInRange, ← Array.all_toList]
  decide +kernel

set_option maxRecDepth 100000 in
/-- Current tree: on `"a\nb"` the lexer of `probeSpec` reports column 2 for `b` (the template stores
the offset of the newline itself in `lineOffset`); the documented column is 1. -/
theorem C11_column_current_tree_counterexample : ¬ C11_positions_spec_full := by
  intro h
  have hw := probeSpec_wf Variant.current
  have hi := init_pinv (probeSpec Variant.current).opts Variant.current [97, 10, 98]
  -- the first token `a`; the lexer after it has the invariant (`p1`) by `next_spec`, `PInv` is not evaluated
  have e1 : next (probeSpec Variant.current) (init (probeSpec Variant.current).opts Variant.current [97, 10, 98]) =
      some (3, ⟨[97, 10, 98], 10, 1, 2, 0, 1, 1, 0, 1, 0⟩) := by decide +kernel
  have p1 := (next_spec _ (wfacts_of_tablesWF _ hw) _ hi.1 (validState_of_single rfl _) _ _ e1).pinv
  have e2 : next (probeSpec Variant.current) ⟨[97, 10, 98], 10, 1, 2, 0, 1, 1, 0, 1, 0⟩ =
      some (3, ⟨[97, 10, 98], -1, 3, 3, 2, 2, 2, 1, 2, 0⟩) := by decide +kernel
  have := h (probeSpec Variant.current) hw _ p1 (validState_of_single rfl _) _ _ e2 rfl
  revert this
  decide +kernel

-- non-vacuity of `C11_positions_spec`: the fixed variant of the probe tables is well-formed and reports column 1
set_option maxRecDepth 100000 in
example : tablesWF (probeSpec Variant.fixed) [] = true ∧
    (tokenize (probeSpec Variant.fixed) 3 (init (probeSpec Variant.fixed).opts Variant.fixed [97, 10, 98])).map
      (fun ts => ts.map fun t => (t.tok, t.start, t.stop, t.line, t.col)) =
    some [(3, 0, 1, 1, 1), (3, 2, 3, 2, 1), (0, 3, 3, 2, 2)] :=
  ⟨probeSpec_wf _, by decide +kernel⟩

/-- `scanLoopG` with "no match" = action 0 IS the body of `lex.Tables.Scan` (`LexTables.scanLoop`);
for tables whose rule ids were replaced by token ids "no match" is the `invalid_token` id. -/
theorem C11_scanG_zero_is_scan (t : Tables) : ∀ (cs : List (Int × Nat)) (index : Nat) (state : Int) (size : Nat)
    (action : Int), scanLoopG t 0 cs index state size action = scanLoop t cs index state size action := by
  intro cs
  induction cs with
  | nil =>
    intro index state size action
    simp only [scanLoopG, scanLoop, Int.sub_zero]
    cases getI t.dfa (state * t.numSymbols) <;> rfl
  | cons c rest ih =>
    intro index state size action
    simp only [scanLoopG, scanLoop, Int.sub_zero, ih]
    rfl

/-- For well-formed tables whose generated class lookup agrees with the symbol map
(`classMapOkUpTo` up to `charBound`, which the driver evaluates: all runes, or all bytes), without
`{eoi}` transitions (`eoiFinal`) and with matching keyword hashes (`HashOk`: rune mode, or
fixes/C11-bytes-hash.diff, or ASCII keywords),
the inlined loop of `Next` with its `backupToken/backupOffset/backupHash` bookkeeping, the hash switch
and `rewind` returns exactly the token the specification defines: iterate `Tables.Scan` from the
current offset in the current start condition, skip matches of space rules, replace a class-rule
match by the keyword with the same TEXT, "no match" → `invalid_token` over the scanned prefix (one
character when it is empty), EOI at the end of the input. -/
theorem C11_next_refines_scan (sp : Spec) (hw : tablesWF sp [] = true)
    (hc : classMapOkUpTo sp (charBound sp.opts.scanBytes) = true) (he : eoiFinal sp.t = true)
    (hk : HashOk sp) (l : Lexer) (hp : PInv sp.opts sp.v l) (hv : ValidState sp l) :
    ∃ tok l', next sp l = some (tok, l') ∧
      specNext sp l.source l.state l.offset = some (tok, l'.tokenOffset, l'.offset) ∧
      PInv sp.opts sp.v l' ∧ ValidState sp l' ∧ l'.source = l.source ∧ l'.state = l.state := by
  have w := wfacts_of_tablesWF sp hw
  obtain ⟨tok, l', h1, h2⟩ := next_total sp w l hp hv
  refine ⟨tok, l', h1, nextLoop_refines sp w (classOk_of_upTo sp hc) he hk _ l hp hv tok l' h1, h2.pinv,
    hv.of_state_eq h2.state, h2.source, h2.state⟩

/-- One pass of `Next` (from `restart:` to `goto restart` / `return`) is one step of the specification. -/
theorem C11_pass_refines_scan (sp : Spec) (hw : tablesWF sp [] = true)
    (hc : classMapOkUpTo sp (charBound sp.opts.scanBytes) = true) (he : eoiFinal sp.t = true)
    (hk : HashOk sp) (l : Lexer) (hp : PInv sp.opts sp.v l) (hv : ValidState sp l) (out : Outcome)
    (h : nextOnce sp l = some out) : specOnce sp l.source l.state l.offset = some (absOut out) :=
  nextOnce_refines sp (wfacts_of_tablesWF sp hw) (classOk_of_upTo sp hc) he hk l hp hv out h

/-- The statement without the hash side condition (current tree: byte-mode lexers with non-ASCII
keywords included). -/
def C11_next_refines_scan_full : Prop :=
  ∀ (sp : Spec), tablesWF sp [] = true → classMapOkUpTo sp (charBound sp.opts.scanBytes) = true →
    eoiFinal sp.t = true → ∀ (l : Lexer), PInv sp.opts sp.v l → ValidState sp l →
    ∀ tok l', next sp l = some (tok, l') → specNext sp l.source l.state l.offset = some (tok, l'.tokenOffset, l'.offset)

/-- Tables of `scanBytes = true; ws: /[ \n]+/ (space); id: /[a-z\x80-\xff]+/ (class); 'if'; 'été'`
as compiled by the real generator (tokens: invalid_token 1, ws 2, id 3, if 4, été 5). -/
def bytesSpec (v : Variant) : Spec where
  t := { scanBytes := true,
         symbolMap := #[⟨0, 1⟩, ⟨10, 2⟩, ⟨11, 1⟩, ⟨32, 2⟩, ⟨33, 1⟩, ⟨97, 3⟩, ⟨123, 1⟩, ⟨128, 3⟩],
         numSymbols := 4, stateMap := #[0],
         dfa := #[-2, -2, 2, 1, -4, -4, -4, 1, -3, -3, 2, -3], backtrack := #[] }
  cm := ⟨((List.range 128).map fun i => if i = 10 ∨ i = 32 then (2 : Int) else if 97 ≤ i ∧ i < 123 then 3 else 1).toArray,
         false, #[], 3⟩
  opts := ⟨true, false, false, true, true⟩
  v := v
  multiState := false
  ruleToken := none
  invalidToken := 1
  spaceActions := [2]
  classActions := [(3, [([0x69, 0x66], 4), ([0xC3, 0xA9, 0x74, 0xC3, 0xA9], 5)])]

theorem bytesSpec_wf (v : Variant) : tablesWF (bytesSpec v) [] = true := by
  refine (tablesWF_variant (bytesSpec Variant.current) v []).trans ?_
  simp only [tablesWF, Tables.wf, classMapInRange, ← Array.all_toList]
  decide +kernel

theorem bytesSpec_classOk (v : Variant) : classMapOkUpTo (bytesSpec v) (charBound true) = true := by
  refine (classMapOkUpTo_variant (bytesSpec Variant.current) v _).trans ?_
  rw [classMapOkUpTo_walk _ _ (by decide +kernel)]
  decide +kernel

set_option maxRecDepth 100000 in
/-- Current tree: the byte-mode lexer of `bytesSpec` returns the class token `id` (3) for the text
`été`, the rules specify the keyword (5). -/
theorem C11_bytes_keyword_current_tree_counterexample : ¬ C11_next_refines_scan_full := by
  intro h
  have hw := bytesSpec_wf Variant.current
  have hc : classMapOkUpTo (bytesSpec Variant.current) (charBound (bytesSpec Variant.current).opts.scanBytes) = true :=
    bytesSpec_classOk Variant.current
  have he : eoiFinal (bytesSpec Variant.current).t = true := by decide +kernel
  have hi := init_pinv (bytesSpec Variant.current).opts Variant.current [0xC3, 0xA9, 0x74, 0xC3, 0xA9]
  have e : next (bytesSpec Variant.current) (init (bytesSpec Variant.current).opts Variant.current [0xC3, 0xA9, 0x74, 0xC3, 0xA9]) =
      some (3, ⟨[0xC3, 0xA9, 0x74, 0xC3, 0xA9], -1, 5, 5, 0, 1, 1, 0, 1, 0⟩) := by decide +kernel
  have := h _ hw hc he _ hi.1 (validState_of_single rfl _) _ _ e
  revert this
  decide +kernel

set_option maxRecDepth 100000 in
-- non-vacuity of `C11_next_refines_scan`: the hypotheses hold for the fixed variant of `bytesSpec`, where `été` IS the keyword
example : tablesWF (bytesSpec Variant.fixed) [] = true ∧
    classMapOkUpTo (bytesSpec Variant.fixed) (charBound (bytesSpec Variant.fixed).opts.scanBytes) = true ∧
    eoiFinal (bytesSpec Variant.fixed).t = true ∧
    (next (bytesSpec Variant.fixed) (init (bytesSpec Variant.fixed).opts Variant.fixed [0xC3, 0xA9, 0x74, 0xC3, 0xA9])).map (·.1) = some 5 :=
  ⟨bytesSpec_wf _, bytesSpec_classOk _, by decide +kernel, by decide +kernel⟩

example : HashOk (bytesSpec Variant.fixed) := Or.inr (Or.inl rfl)

end TmVerif.LexRun
