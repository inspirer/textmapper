import TmVerif.Model.LRRef
/-!
C04 — precedence and associativity resolve conflicts as documented.
Theorems about the decision logic of the reference (`resolvePrec`, `cellAddRule`, `cellFold`), which
mirrors `lalr/compile.go: resolvePrec / ruleAction / populateTables` and is compared cell by cell
with the real tables on every run. All statements are for every grammar, rule and terminal.
-/
namespace TmVerif.LRRef
open TmVerif.CFG

/-- A rule's precedence is its `%prec` terminal when it has one. -/
theorem C04_rulePrec_explicit (g : Grammar) (rule : Nat) (h : (g.rules.getD rule default).prec ≠ 0) :
    rulePrecOf g rule = (g.rules.getD rule default).prec := by
  simp only [rulePrecOf]; rw [if_pos h]

theorem find_last_terminal (p : Nat → Bool) (α β : List Nat) (a : Nat) (ha : p a = true)
    (hβ : ∀ s ∈ β, ¬ p s = true) : (α ++ a :: β).reverse.find? p = some a := by
  rw [List.reverse_append, List.reverse_cons, List.append_assoc, List.find?_append,
    List.find?_eq_none.2 fun x hx => hβ x (List.mem_reverse.1 hx)]
  simp [ha]

/-- … else its last terminal: for a right-hand side `α a β` with `a` a terminal and `β` free of
terminals the rule's precedence is `a` (EOI, symbol 0, does not count as a terminal here). -/
theorem C04_rulePrec_last_terminal (g : Grammar) (rule : Nat)
    (h : (g.rules.getD rule default).prec = 0) (α β : List Nat) (a : Nat)
    (hrhs : (g.rules.getD rule default).rhs = α ++ a :: β)
    (ha : 0 < a ∧ a < g.nTerms) (hβ : ∀ s ∈ β, ¬ (0 < s ∧ s < g.nTerms)) :
    rulePrecOf g rule = a := by
  simp only [rulePrecOf]
  rw [if_neg (by rw [h]; simp), hrhs, find_last_terminal]
  · simp [ha.1, ha.2]
  · intro s hs h'
    simp only [gt_iff_lt, Bool.and_eq_true, decide_eq_true_eq] at h'
    exact hβ s hs h'

/-- Higher precedence wins (later `%left/%right/%nonassoc` declarations bind tighter). -/
theorem C04_higher_reduces (g : Grammar) (rule term red sh : Nat)
    (hr : rulePrecOf g rule ≠ 0) (ht : term ≠ 0)
    (h1 : precGroup g (rulePrecOf g rule) = some red) (h2 : precGroup g term = some sh)
    (h : red > sh) : resolvePrec g rule term = Res.reduce := by
  unfold resolvePrec; simp [hr, ht, h1, h2, h]

theorem C04_lower_shifts (g : Grammar) (rule term red sh : Nat)
    (hr : rulePrecOf g rule ≠ 0) (ht : term ≠ 0)
    (h1 : precGroup g (rulePrecOf g rule) = some red) (h2 : precGroup g term = some sh)
    (h : red < sh) : resolvePrec g rule term = Res.shift := by
  unfold resolvePrec
  simp [hr, ht, h1, h2, h, Nat.lt_asymm h]

/-- Equal precedence follows the associativity: left reduces, right shifts, nonassoc is an error. -/
theorem C04_equal_assoc (g : Grammar) (rule term grp : Nat) (p : Prec)
    (hr : rulePrecOf g rule ≠ 0) (ht : term ≠ 0)
    (h1 : precGroup g (rulePrecOf g rule) = some grp) (h2 : precGroup g term = some grp)
    (hp : g.prec[grp]? = some p) :
    resolvePrec g rule term =
      (if p.assoc = 0 then Res.reduce else if p.assoc = 1 then Res.shift
       else if p.assoc = 2 then Res.error else Res.conflict) := by
  unfold resolvePrec
  simp only [hr, ht, h1, h2, hp, Bool.or_self, Bool.false_eq_true, ↓reduceIte, gt_iff_lt,
    Nat.lt_irrefl, Option.map_some, Option.getD_some, decide_false]
  split <;> simp_all

theorem C04_resolvePrec_undecided (g : Grammar) (rule term : Nat)
    (h : rulePrecOf g rule = 0 ∨ term = 0 ∨ precGroup g (rulePrecOf g rule) = none ∨ precGroup g term = none) :
    resolvePrec g rule term = Res.conflict := by
  unfold resolvePrec
  rcases h with h | h | h | h
  · simp [h]
  · simp [h]
  · simp only [h]; split <;> rfl
  · simp only [h]
    split
    · rfl
    · cases precGroup g (rulePrecOf g rule) <;> rfl

/-- One shift and one reduction compete for a cell: the cell follows the resolution; an undecided
choice defaults to shift and is counted as one shift/reduce conflict; a `%nonassoc` decision is an
explicit error entry. -/
theorem C04_shift_reduce_cell (g : Grammar) (term rule : Nat) :
    let st := cellFold g term true [rule]
    match resolvePrec g rule term with
    | .reduce => cellOf st = .reduce rule ∧ isSR st = false ∧ isRR st = false
    | .shift => cellOf st = .shift ∧ isSR st = false ∧ isRR st = false
    | .error => cellOf st = .errExplicit ∧ isSR st = false ∧ isRR st = false
    | .conflict => cellOf st = .shift ∧ isSR st = true ∧ isRR st = false := by
  simp only [cellFold, List.foldl_cons, List.foldl_nil, ↓reduceIte, cellAddRule]
  cases h : resolvePrec g rule term <;> simp [cellOf, isSR, isRR, ambAdd]

/-- Two reductions and no shift: the earlier rule (the first in rule order) is kept and one
reduce/reduce conflict is counted. -/
theorem C04_reduce_reduce_cell (g : Grammar) (term r1 r2 : Nat) :
    let st := cellFold g term false [r1, r2]
    cellOf st = .reduce r1 ∧ isRR st = true ∧ isSR st = false := by
  simp [cellFold, cellAddRule, cellOf, isSR, isRR, ambAdd]

/-- Once a cell is an unresolved conflict, further candidates never change its action. -/
theorem C04_conflict_sticky (g : Grammar) (term : Nat) (st : CellState) (cs : Bool)
    (h : st.amb = some (cs, .conflict)) (hact : st.action ≠ -2) (rule : Nat) :
    (cellAddRule g term st rule).action = st.action ∧
    (cellAddRule g term st rule).amb = some (cs, .conflict) := by
  unfold cellAddRule
  simp [hact, h, ambAdd]

-- non-vacuity: a concrete grammar E : E + E | E * E | a with %left + ; %left * ;
private def exG : Grammar :=
  { nTerms := 4, nSyms := 5,
    rules := #[⟨4, [4, 1, 4], 0⟩, ⟨4, [4, 2, 4], 0⟩, ⟨4, [3], 0⟩],
    inputs := #[⟨4, true⟩], prec := #[⟨0, [1]⟩, ⟨0, [2]⟩] }
example : rulePrecOf exG 0 = 1 ∧ resolvePrec exG 0 2 = .shift ∧ resolvePrec exG 1 1 = .reduce ∧
    resolvePrec exG 0 1 = .reduce := by decide

end TmVerif.LRRef
