import TmVerif.Model.LRK
import TmVerif.Proofs.LRCompleteK
import TmVerif.Proofs.LRSoundK
/-!
C07 — LALR(k) resolution.
* `C01_lr_sound` does NOT apply to tables with lookahead automata: its certificate `certOk`
  quantifies over `actOf t noDeep`, which is undefined on a deep-lookahead cell, so `certOk` is
  false for every such table. `C07_lr_sound_k` is the same theorem for the certificate `certKOk`
  (Model/LRSoundK.lean), which checks every decision a lookahead automaton can produce.
* `C07_lr_complete_k`: for tables passing the LR(k)-item certificate `complKOk`
  (Model/LRCompleteK.lean) every sentence is accepted by the runtime's real deep-lookahead decoding;
  `C07_lr_exact_k`: with both certificates, acceptance ⇔ sentence.
* `C07_trieWalk_deepLA`, `C07_deepLA_fuel_mono`, `C07_deepLA_result_not_pointer` are about the
  third check of the driver, `checkTries`: its walk over a lookahead automaton (`trieWalk`, run on
  every LALR(k) lookahead string of every conflicting rule) inspects exactly the decision the
  generated parser takes at run time (`deepLA` = `resolveDeepLA`), for every table, token source
  and position. The soundness and completeness theorems do not rest on them: `complKOk` has a walk
  of its own (`trieWalkZ`, stopping at EOI), tied to `deepLA` in Proofs/LRCompleteK.lean.
-/
namespace TmVerif.LRK
open TmVerif.LR

/-- If the validator's walk over the nested lists decides `r` on the token string `x`, then the
runtime, reading those tokens from a copy of the lexer, decides `r` too: with the fuel of the walk
and so, by `C07_deepLA_fuel_mono`, with any larger one (the runtime's is the input length + 2). -/
theorem C07_trieWalk_deepLA (t : Tables) (inp : Input) :
    ∀ (fuel : Nat) (action : Int) (pos : Nat) (x : Str) (r : Int),
      trieWalk t fuel action x = some r →
      (∀ i (h : i < x.length), (inp.tok (pos + i)).sym = (x[i] : Nat)) →
      deepLA t inp fuel pos action = some r := by
  intro fuel action pos x r
  fun_induction trieWalk t fuel action x generalizing pos
  -- a pointer and a token: one lookup, and the walk goes on
  case case4 fuel action ha a rest act hl ih =>
    intro h hx
    rw [deepLA_succ, if_pos ha, (toks_cons hx).1, hl]
    exact ih (pos + 1) h (toks_cons hx).2
  -- no pointer
  case case5 fuel action _ ha => rintro ⟨⟩ _; rw [deepLA_succ, if_neg ha]
  all_goals nofun

/-- More fuel never changes a decision of the runtime's deep lookahead. -/
theorem C07_deepLA_fuel_mono (t : Tables) (inp : Input) :
    ∀ (fuel : Nat) (pos : Nat) (action r : Int),
      deepLA t inp fuel pos action = some r → deepLA t inp (fuel + 1) pos action = some r :=
  deepLA_induct (P := fun fuel pos x r => deepLA t inp (fuel + 1) pos x = some r)
    (fun _ _ _ h => by rw [deepLA_succ, if_neg h])
    (fun _ _ _ _ _ hx hy _ ih => by rw [deepLA_succ, if_pos hx, hy]; exact ih)

/-- A decision is never a pointer: the runtime loop `for action < -2` ends with a real action. -/
theorem C07_deepLA_result_not_pointer (t : Tables) (inp : Input) :
    ∀ (fuel : Nat) (pos : Nat) (action r : Int),
      deepLA t inp fuel pos action = some r → ¬ r < -2 :=
  deepLA_induct (P := fun _ _ _ r => ¬ r < -2) (fun _ _ _ h => h) (fun _ _ _ _ _ _ _ _ ih => ih)

/-! ## Soundness, completeness and exactness for tables with deep lookahead -/
section exact
open TmVerif.CFG TmVerif.LRSound TmVerif.LRSoundK TmVerif.LRCompleteK

/-- Soundness for tables with lookahead automata: whenever `certKOk g t cert = true`, every run of
the runtime model (deep lookahead decoded by `deepLA` = `resolveDeepLA`) that ends in `accept` has
consumed a prefix of the token string that is a sentence of input `i`, the whole string for an
input with the end-of-input requirement. -/
theorem C07_lr_sound_k (g : Grammar) (t : Tables) (cert : Cert) (inp : Input) (i fuel : Nat)
    (c : Cfg) (hc : certKOk g t cert = true)
    (htok : ∀ tk ∈ inp.toks.toList, 0 < tk.sym ∧ tk.sym < (t.nTerms : Int))
    (hi : i < g.inputs.size)
    (hrun : run t inp i fuel = (Result.accept, c)) :
    ∃ n, n ≤ inp.toks.size ∧
      Sentence g i ((inp.toks.toList.take n).map (fun tk => tk.sym.toNat)) ∧
      ((∃ gi, g.inputs[i]? = some gi ∧ gi.eoi = true) → n = inp.toks.size) := by
  have hcf := certFactsK hc
  exact run_accept_sentence (justifiedK hcf) edge_memK (decodeOkK hcf htok) htok hi
    (finalOk_eq_finalOnK ▸ hcf.finals i hi) hrun

/-- Completeness for LALR(k) tables: whenever `complKOk g t k cc = true`, for every token string
that is a sentence of input `i` the runtime model accepts (with enough fuel) — each reduction that
needs more than one token of lookahead being chosen by the walk of `resolveDeepLA` over the nested
lists of the real tables. For an input without the end-of-input requirement the run may stop after
a shorter prefix (a sentence too, by `C07_lr_sound_k`). -/
theorem C07_lr_complete_k (g : Grammar) (t : Tables) (k : Nat) (cc : KCert) (inp : Input) (i : Nat)
    (hc : complKOk g t k cc = true)
    (htok : ∀ tk ∈ inp.toks.toList, 0 < tk.sym ∧ tk.sym < (t.nTerms : Int))
    (hsent : Sentence g i (inp.toks.toList.map (fun tk => tk.sym.toNat))) :
    ∃ fuel c, run t inp i fuel = (Result.accept, c) :=
  LRCompleteK.complete_accept (kFacts hc) htok hsent

/-- Completeness for inputs without the end-of-input requirement: if SOME prefix of the token
string is a sentence, the runtime model accepts. -/
theorem C07_lr_complete_k_prefix (g : Grammar) (t : Tables) (k : Nat) (cc : KCert) (inp : Input)
    (i n : Nat) (gi : GInput) (hc : complKOk g t k cc = true)
    (htok : ∀ tk ∈ inp.toks.toList, 0 < tk.sym ∧ tk.sym < (t.nTerms : Int))
    (hgi : g.inputs[i]? = some gi) (heoi : gi.eoi = false)
    (hsent : Sentence g i ((inp.toks.toList.take n).map (fun tk => tk.sym.toNat))) :
    ∃ fuel c, run t inp i fuel = (Result.accept, c) :=
  LRCompleteK.accept_word (kFacts hc) htok hsent (LRComplete.reads_take inp n) fun gi' hgi' h => by
    cases hgi.symm.trans hgi'
    cases heoi.symm.trans h

/-- Exactly the language, for LALR(k) tables: with both certificates the runtime model accepts
(for some fuel) iff the token string is a sentence (input with end-of-input) resp. has a prefix
that is a sentence (input without). -/
theorem C07_lr_exact_k (g : Grammar) (t : Tables) (k : Nat) (cert : Cert) (cc : KCert)
    (inp : Input) (i : Nat) (gi : GInput)
    (hs : certKOk g t cert = true) (hc : complKOk g t k cc = true)
    (htok : ∀ tk ∈ inp.toks.toList, 0 < tk.sym ∧ tk.sym < (t.nTerms : Int))
    (hgi : g.inputs[i]? = some gi) :
    (∃ fuel c, run t inp i fuel = (Result.accept, c)) ↔
      if gi.eoi then Sentence g i (inp.toks.toList.map (fun tk => tk.sym.toNat))
      else ∃ n, n ≤ inp.toks.size ∧
        Sentence g i ((inp.toks.toList.take n).map (fun tk => tk.sym.toNat)) :=
  accept_iff_sentence hgi (fun hi fuel c => C07_lr_sound_k g t cert inp i fuel c hs htok hi)
    (C07_lr_complete_k g t k cc inp i hc htok)
    (fun heoi n => C07_lr_complete_k_prefix g t k cc inp i n gi hc htok hgi heoi)

/-! Non-vacuity: the real tables of `lalr.Compile` with `Lookahead: 2` for
`S: A a c | B T d ; T: a ; A: e ; B: e ;` (terminals 1 `a`, 2 `c`, 3 `d`, 4 `e`; nonterminals 5 `S`,
6 `A`, 7 `B`, 8 `T`). After `e` the state has the two reductions `A: e` and `B: e`, both followed
by `a`: its cell on `a` points to a nested list that decides on the second token (`c` → `A: e`,
`d` → `B: e`; `UsedLADepth = 2`). Both certificates (computed by `mkKCert` / `computePastK`) hold;
`certOk` of C01 does not; `e a d` and `e a c` are accepted because they are sentences. -/
private def kG : Grammar :=
  { nTerms := 5, nSyms := 9,
    rules := #[⟨5, [6, 1, 2], 0⟩, ⟨5, [7, 8, 3], 0⟩, ⟨8, [1], 0⟩, ⟨6, [4], 0⟩, ⟨7, [4], 0⟩],
    inputs := #[⟨5, true⟩] }
private def kT : Tables :=
  { nTerms := 5, action := #[-1,-3,-1,-1,-1,2,-1,0,1,-1,-2], lalr := #[1,-7,-1,-2,2,3,3,4,-1,-2],
    goto_ := #[0,2,6,8,10,12,14,16,18,20], fromTo := #[9,10,2,4,3,5,4,7,6,8,0,1,0,9,0,2,0,3,3,6],
    ruleLen := #[3,3,1,1,1], ruleSymbol := #[5,5,8,6,7], finalStates := #[10] }
private def kCC : KCert :=
  { items := #[[⟨0, 0, [[0, 0]]⟩, ⟨1, 0, [[0, 0]]⟩, ⟨3, 0, [[1, 2]]⟩, ⟨4, 0, [[1, 3]]⟩,
                ⟨5, 0, [[0, 0]]⟩],
               [⟨3, 1, [[1, 2]]⟩, ⟨4, 1, [[1, 3]]⟩], [⟨0, 1, [[0, 0]]⟩],
               [⟨1, 1, [[0, 0]]⟩, ⟨2, 0, [[3, 0]]⟩], [⟨0, 2, [[0, 0]]⟩], [⟨2, 1, [[3, 0]]⟩],
               [⟨1, 2, [[0, 0]]⟩], [⟨0, 3, [[0, 0]]⟩], [⟨1, 3, [[0, 0]]⟩], [⟨5, 1, [[0, 0]]⟩],
               [⟨5, 2, [[0, 0]]⟩]],
    first := #[[], [], [], [], [], [[4, 1]], [[4]], [[4]], [[1]]] }
private def kCert : Cert :=
  { past := #[[], [4], [6], [7], [1, 6], [1, 7], [8, 7], [2, 1, 6], [3, 8, 7], [5], [0, 5]],
    reach := #[[10, 8, 7, 6, 5, 4, 3, 2, 9, 1, 0]] }
private def kInp : Input := { toks := #[⟨4, 0, 1⟩, ⟨1, 1, 2⟩, ⟨3, 2, 3⟩], endOff := 3 }

private theorem kComplOk : complKOk kG kT 2 kCC = true := by decide +kernel
private theorem kCertOk : certKOk kG kT kCert = true := by decide +kernel
private theorem kTokOk : ∀ tk ∈ kInp.toks.toList, 0 < tk.sym ∧ tk.sym < (kT.nTerms : Int) := by
  decide +kernel

example : complKOk kG kT 2 kCC = true ∧ (mkKCert kG kT 2).toOption = some kCC ∧
    certKOk kG kT kCert = true ∧ certOk kG kT kCert = false ∧
    cellPtr kT 1 1 = some (-7) :=
  ⟨kComplOk, by decide +kernel, kCertOk, by decide +kernel, by decide +kernel⟩

private theorem kSent : Sentence kG 0 (kInp.toks.toList.map (fun tk => tk.sym.toNat)) :=
  ⟨⟨5, true⟩, rfl, Derives.rule ⟨5, [7, 8, 3], 0⟩ [4, 1, 3] (by decide)
    (.cons 7 _ [4] _ (Derives.rule ⟨7, [4], 0⟩ [4] (by decide)
        (.cons 4 _ [4] _ (.term 4 (by decide)) .nil))
      (.cons 8 _ [1] _ (Derives.rule ⟨8, [1], 0⟩ [1] (by decide)
          (.cons 1 _ [1] _ (.term 1 (by decide)) .nil))
        (.cons 3 _ [3] _ (.term 3 (by decide)) .nil)))⟩

example : ∃ fuel c, run kT kInp 0 fuel = (Result.accept, c) :=
  C07_lr_complete_k kG kT 2 kCC kInp 0 kComplOk kTokOk kSent

/-- the runtime really takes the deep decision: on `e a d` the reduction after `e` is `B: e`
(rule 4), on `e a c` it is `A: e` (rule 3) -/
example : (run kT kInp 0 40).1 = Result.accept ∧
    (run kT kInp 0 40).2.evs.reverse.head? = some (Ev.shift 4 0 1) ∧
    (run kT kInp 0 40).2.evs.reverse[1]? = some (Ev.reduce 4 0 1) ∧
    (run kT { kInp with toks := #[⟨4, 0, 1⟩, ⟨1, 1, 2⟩, ⟨2, 2, 3⟩] } 0 40).2.evs.reverse[1]?
      = some (Ev.reduce 3 0 1) := by
  decide +kernel

example : (∃ fuel c, run kT kInp 0 fuel = (Result.accept, c)) ↔
    Sentence kG 0 (kInp.toks.toList.map (fun tk => tk.sym.toNat)) := by
  exact C07_lr_exact_k kG kT 2 kCert kCC kInp 0 ⟨5, true⟩ kCertOk kComplOk kTokOk rfl

/-- a wrong lookahead automaton is rejected by the completeness check: with the two decisions of
the nested list swapped (`c` → `B: e`, `d` → `A: e`) condition (R) fails. -/
example : complKOk kG { kT with lalr := #[1,-7,-1,-2,2,4,3,3,-1,-2] } 2 kCC = false := by
  decide +kernel

end exact

end TmVerif.LRK
