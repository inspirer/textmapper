import TmVerif.Proofs.Bison
/-!
C30 — Bison export describes the grammar Textmapper parses (property theorems only).

`render g` mirrors `gen/templates/bison.go.tmpl` (+ `ExprString`, `RulesByNonterm`, `TokensWithoutPrec`)
on the grammar the tables are built from; `parseY` reads the rules and precedence declarations off the
TEXT of a `.y` file (it is the function the check applies to the real generated files). Hypotheses,
all decidable and evaluated by the driver on every real grammar:

* `IdsWF names` — every spelling is one symbol token of the format (non-empty, no blank, no brace, does
  not start with `%` or `/`, is not `:` `|` `;`) and no two symbols share a spelling;
* `MarkersWF markers` — state-marker names contain no blank and no brace (they are printed as `/*.m*/`);
* `OrderKept rules` — grouping the rules by left-hand side (`RulesByNonterm`) does not reorder them.

`C30_collision_witness` / `C30_order_witness` show that the first and the last cannot be dropped.
-/
namespace TmVerif.Bison

/-- The format loses nothing: reading the exported text back yields exactly the expanded rules (in
order, with left-hand side, right-hand-side symbols and `%prec`) and the precedence declarations (in
order, with associativity and terminals) the tables were built from. -/
theorem C30_parseY_render (g : Gram) (hn : IdsWF g.names) (hm : MarkersWF g.markers)
    (ho : OrderKept g.rules) : parseY (render g) = some (rulesOf g, precOf g) := by
  unfold parseY render parseChars
  rw [String.toList_ofList, lexY_render hn.1 hm, parseToks_toks hn.1 ho]

/-- a grammar with every feature: two inputs (one no-eoi), three precedence levels, a marker, an empty
rule, `%prec`, a marker-only rule -/
def exampleGram : Gram :=
  { names := [['E','O','I'], ['I','N','V'], ['P','L','U','S'], ['M','U','L','T'], ['I','D'],
              ['S'], ['E','$','1'], ['L','-','o','p','t']],
    markers := [['m','1']],
    numTokens := 5,
    inputs := [⟨5, false⟩, ⟨6, true⟩],
    prec := [⟨.left, [2]⟩, ⟨.right, [3]⟩, ⟨.nonassoc, [4, 1]⟩],
    rules := [⟨5, [.sym 6, .marker 0, .sym 7], 0⟩, ⟨6, [.sym 6, .sym 2, .sym 6], 0⟩,
              ⟨6, [.sym 3, .sym 6], 2⟩, ⟨6, [.sym 4], 0⟩, ⟨7, [], 0⟩, ⟨7, [.marker 0], 3⟩] }

example : IdsWF exampleGram.names ∧ MarkersWF exampleGram.markers ∧ OrderKept exampleGram.rules ∧
    inRange exampleGram = true := by decide +kernel

example : (rulesOf exampleGram).length = 6 ∧ (precOf exampleGram).length = 3 := by decide

/-- `render` is injective up to what the property talks about: two grammars with the same exported
text have the same (spelled-out) rule list and precedence declarations. -/
theorem C30_render_injective (g₁ g₂ : Gram)
    (hn₁ : IdsWF g₁.names) (hm₁ : MarkersWF g₁.markers) (ho₁ : OrderKept g₁.rules)
    (hn₂ : IdsWF g₂.names) (hm₂ : MarkersWF g₂.markers) (ho₂ : OrderKept g₂.rules)
    (h : render g₁ = render g₂) : rulesOf g₁ = rulesOf g₂ ∧ precOf g₁ = precOf g₂ := by
  have e₁ := C30_parseY_render g₁ hn₁ hm₁ ho₁
  have e₂ := C30_parseY_render g₂ hn₂ hm₂ ho₂
  rw [h, e₂] at e₁
  simpa using e₁.symm

/-- Over one symbol table: the same exported text means the same rules (as symbol indices, state
markers aside — they are not symbols) and the same precedence table. -/
theorem C30_render_injective_idx (g₁ g₂ : Gram) (hnames : g₁.names = g₂.names)
    (hn : IdsWF g₁.names) (hm₁ : MarkersWF g₁.markers) (ho₁ : OrderKept g₁.rules)
    (hm₂ : MarkersWF g₂.markers) (ho₂ : OrderKept g₂.rules)
    (hr₁ : inRange g₁ = true) (hr₂ : inRange g₂ = true)
    (h : render g₁ = render g₂) :
    g₁.rules.map eraseMarkers = g₂.rules.map eraseMarkers ∧ g₁.prec = g₂.prec := by
  have hn₂ : IdsWF g₂.names := hnames ▸ hn
  obtain ⟨hrules, hprec⟩ := C30_render_injective g₁ g₂ hn hm₁ ho₁ hn₂ hm₂ ho₂ h
  exact ⟨by rw [rules_eq_unRuleN hn.2 hr₁, rules_eq_unRuleN hn₂.2 hr₂, hrules, hnames],
    by rw [prec_eq_unPrecN hn.2 hr₁, prec_eq_unPrecN hn₂.2 hr₂, hprec, hnames]⟩

/-- non-vacuity: all hypotheses hold for a concrete pair, and the conclusion separates them -/
example : render { exampleGram with prec := [] } ≠ render exampleGram := by
  intro h
  have := (C30_render_injective_idx { exampleGram with prec := [] } exampleGram rfl (by decide +kernel) (by decide +kernel)
    (by decide +kernel) (by decide +kernel) (by decide +kernel) (by decide +kernel) (by decide +kernel) h).2
  exact absurd this (by decide +kernel)

/-- `IdsWF` cannot be weakened to "every spelling is a token": with a nonterminal spelled like a
terminal's ID (the real compiler accepts the nonterminal name `CHAR_A` next to the terminal `'a'`,
whose ID is `CHAR_A`) two different grammars have the same export. -/
theorem C30_collision_witness :
    ∃ g₁ g₂ : Gram, g₁.names = g₂.names ∧ g₁.names.all goodName = true ∧ render g₁ = render g₂ ∧
      g₁.rules.map eraseMarkers ≠ g₂.rules.map eraseMarkers := by
  let names : List Word := [['E','O','I'], ['C','H','A','R','_','A'], ['S'], ['C','H','A','R','_','A']]
  refine ⟨⟨names, [], 2, [⟨2, false⟩], [], [⟨2, [.sym 1], 0⟩, ⟨3, [.sym 1], 0⟩]⟩,
    ⟨names, [], 2, [⟨2, false⟩], [], [⟨2, [.sym 3], 0⟩, ⟨3, [.sym 1], 0⟩]⟩, rfl, by decide +kernel, ?_, by decide +kernel⟩
  exact congrArg String.ofList (by decide +kernel)

/-- `OrderKept` cannot be dropped: the template groups rules by left-hand side, so a rule list in
which the rules of a nonterminal are not contiguous is exported like its regrouped permutation. -/
theorem C30_order_witness :
    ∃ g₁ g₂ : Gram, g₁.names = g₂.names ∧ IdsWF g₁.names ∧ render g₁ = render g₂ ∧
      OrderKept g₂.rules ∧ g₁.rules ≠ g₂.rules := by
  let names : List Word := [['E','O','I'], ['a'], ['A'], ['B']]
  refine ⟨⟨names, [], 2, [⟨2, false⟩], [], [⟨2, [.sym 1], 0⟩, ⟨3, [.sym 1], 0⟩, ⟨2, [.sym 3], 0⟩]⟩,
    ⟨names, [], 2, [⟨2, false⟩], [], [⟨2, [.sym 1], 0⟩, ⟨2, [.sym 3], 0⟩, ⟨3, [.sym 1], 0⟩]⟩,
    rfl, by decide +kernel, ?_, by decide +kernel, by decide +kernel⟩
  exact congrArg String.ofList (by decide +kernel)

end TmVerif.Bison
