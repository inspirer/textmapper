import TmVerif.Proofs.AstApprox
import TmVerif.Proofs.AstAccess
/-!
# C21 — typed AST accessors match the trees the parser builds (Mode V)

Model: `Model/AstTypes.lean`.  What is proved here, for EVERY annotated grammar `g`, every field table
`types` (`syntax.Types.RangeTypes[*].Fields` after category expansion) and every derivation:

* `C21_approx_sound` — the child sequences of `T` nodes are inside the regular approximation
  (`C21_accepts_complete`: the procedure that tests observed sequences accepts all of its words);
* `C21_accessor_model`, `C21_find_first`, `C21_accessor_typed`, `C21_accessor_no_panic` — the generated
  `Child/Next/Children/NextAll` chain is "first match after the previous step's match", its results
  are children whose type is in the field's selector (so the type assertion / `To…Node` conversion of
  the template cannot fail);
* `C21_checkRe_sound`, `C21_checkFields_sound`, `C21_checkTypes_sound` — when the validator accepts the real `Parser.Types`,
  then at EVERY node of EVERY derivation tree of `g` (all sentences): required accessors return a
  present node, results are typed as declared, and every child is returned by some accessor;
* `C21_nodes_nonempty` — an accepted grammar has no node that can span zero tokens.

Quantifiers: sentences / derivation trees / nodes are closed by theorem; grammars are sampled
(the check runs the validator on the real compiler's output for generated grammars).
What ties the model to `/repo` by correspondence only (not by theorem): `layout` (reported ranges →
nesting), the offset-based tree builder of `go_ast_parse.go.tmpl` producing exactly the nesting of the
annotations when no node is empty (`seqs` cases: observed child sequences ∈ `L(approx)`), and
`access` = the generated accessor code (`access` cases).
-/
namespace TmVerif.C21
open TmVerif.AstTypes TmVerif.AstTypes.Re

/-- **`ChildSeq g T w → L (approx g alph fuel T) w`**, for any inlining fuel and any closed alphabet assignment. -/
theorem C21_approx_sound (g : AGrammar) (alph : List (List Nat)) (fuel T : Nat) (w : List Nat)
    (hw : wfGrammar g = true) (hc : alphClosed g alph = true) (h : ChildSeq g T w) :
    L (approx g alph fuel T) w :=
  approx_sound fuel hw hc h

/-- The decision procedure used for observed sequences accepts every word of the language. -/
theorem C21_accepts_complete (r : Re) (w : List Nat) (h : L r w) : r.accepts w = true :=
  accepts_of_L h

/-- **Accessor model**: the literal mirror of the template's nil-safe call chain
(`n.Child(s₀).Next(s₁)…` then `Child/Next/Children/NextAll` with the field's own selector) equals the
one-pass scan: step `k` matches the first child after the match of step `k-1`. -/
theorem C21_accessor_model (acc : Acc) (w : List Nat) :
    access acc w = scan acc.chain acc.last acc.isList w :=
  access_eq_scan acc w

/-- `Child`/`Next` return the FIRST selected child at or after the start index (or nil when none is). -/
theorem C21_find_first (sel : Sel) (w : List Nat) (k : Nat) :
    (∀ p, findFrom sel w k = some p →
      k ≤ p ∧ (∃ a, w[p]? = some a ∧ a ∈ sel) ∧ ∀ q, k ≤ q → q < p → ∀ a, w[q]? = some a → a ∉ sel) ∧
    (findFrom sel w k = none → ∀ q, k ≤ q → ∀ a, w[q]? = some a → a ∉ sel) :=
  ⟨fun _ h => ⟨(findFrom_mem h).1, (findFrom_mem h).2,
      fun _ hkq hqp => findFrom_first hkq fun _ h' => Option.some.inj (h.symm.trans h') ▸ hqp⟩,
    fun h _ hkq => findFrom_first hkq fun _ h' => nomatch h.symm.trans h'⟩

/-- Whatever an accessor returns is a child of the receiver whose type lies in the field's selector. -/
theorem C21_accessor_typed (acc : Acc) (w : List Nat) (p : Nat) (h : p ∈ access acc w) :
    ∃ a, w[p]? = some a ∧ a ∈ acc.last :=
  access_typed acc w p h

/-- Some accessor result is a child whose type is outside the (expanded) selector: the generated conversion
`To<Lang>Node(child).(<Category>)` (or `T{child}`) fails for such a node.  (A nil child is converted to `NilNode`,
which the template makes a member of every category the grammar declares: of all but the synthetic `TokenSet` that
`ExtractTypes` adds.) -/
def Panics (acc : Acc) (w : List Nat) : Prop :=
  ∃ p ∈ access acc w, ∀ a, w[p]? = some a → a ∉ acc.last

/-- No accessor returns such a node. -/
theorem C21_accessor_no_panic (acc : Acc) (w : List Nat) : ¬ Panics acc w := by
  rintro ⟨p, hp, hbad⟩
  obtain ⟨a, ha, hs⟩ := access_typed acc w p hp
  exact hbad a ha hs

/-- Per node type: an accepted expression has only good child sequences. -/
theorem C21_checkRe_sound (accs : List Acc) (re : Re) (h : checkRe accs re = true)
    (w : List Nat) (hw : L re w) : Good accs w :=
  checkRe_sound accs re h w hw

/-- **Soundness of the validator (field part).** If `checkFields` accepts, then for every node type
`T = i+1` its accessors are well formed and for EVERY child sequence `w` of a `T` node in any derivation
tree of `g`: required accessors are present, results are typed as declared (no panic), every child is
covered. -/
theorem C21_checkFields_sound (g : AGrammar) (alph : List (List Nat)) (types : Types)
    (h : checkFields g alph types = true) (i : Nat) (hi : i < types.length) :
    ∃ accs, mkAccs (types.getD i []) = some accs ∧
      ∀ w, ChildSeq g (i + 1) w → Good accs w ∧ ∀ acc ∈ accs, ¬ Panics acc w := by
  unfold checkFields at h
  simp only [Bool.and_eq_true] at h
  obtain ⟨⟨hwf, hal⟩, hall⟩ := h
  have hi' := List.all_eq_true.mp hall i (List.mem_range.mpr hi)
  cases hm : mkAccs (types.getD i []) with
  | none => rw [hm] at hi'; cases hi'
  | some accs =>
    rw [hm] at hi'
    refine ⟨accs, rfl, fun w hw => ⟨?_, fun acc _ => C21_accessor_no_panic acc w⟩⟩
    exact checkRe_sound accs _ hi' w (approx_sound _ hwf hal hw)

/-- **Soundness of the validator**: what it accepts has the field guarantees of `C21_checkFields_sound` (that no node
can be empty is `C21_nodes_nonempty`). -/
theorem C21_checkTypes_sound (g : AGrammar) (alph : List (List Nat)) (nul : List Bool) (types : Types)
    (h : checkTypes g alph nul types = true) (i : Nat) (hi : i < types.length) :
    ∃ accs, mkAccs (types.getD i []) = some accs ∧
      ∀ w, ChildSeq g (i + 1) w → Good accs w ∧ ∀ acc ∈ accs, ¬ Panics acc w := by
  unfold checkTypes at h
  simp only [Bool.and_eq_true] at h
  exact C21_checkFields_sound g alph types h.1.1 i hi

/-- An accepted grammar has no empty node: every rule type and every nested reported range spans at
least one token in every derivation (the offset-based tree builder misplaces empty nodes). -/
theorem C21_nodes_nonempty (g : AGrammar) (alph : List (List Nat)) (nul : List Bool) (types : Types)
    (h : checkTypes g alph nul types = true) (r : ARule) (hr : r ∈ g.rules) :
    (r.ruleType ≠ 0 → ∀ n, Toks g (.seq r.body) n → 0 < n) ∧
    (∀ t kids, (t, kids) ∈ r.body.occs → ∀ n, Toks g (.seq kids) n → 0 < n) := by
  unfold checkTypes at h
  simp only [Bool.and_eq_true] at h
  exact nodes_nonempty h.1.2 h.2 hr

/-! ## Non-vacuity

`S → a (N → T2) b → T1 ; N → c (d → T3)?` with fields `T1: [T2] required`, `T2: [T3] optional`, `T3: —`. -/

def exG : AGrammar :=
  { nTerms := 5
    rules := [
      { lhs := 5, body := .sym 1 (.node 2 (.sym 6 .nil) (.sym 2 .nil)), ruleType := 1 },
      { lhs := 6, body := .sym 3 .nil },
      { lhs := 6, body := .sym 3 (.node 3 (.sym 4 .nil) .nil) } ] }

def exTypes : Types :=
  [ [{ sel := [2], required := true, isList := false, fetchAfter := -1 }],
    [{ sel := [3], required := false, isList := false, fetchAfter := -1 }],
    [] ]

def exAlph : List (List Nat) := computeAlph exG 7
def exNul : List Bool := computeNullable exG 7

example : checkTypes exG exAlph exNul exTypes = true := by decide +kernel

/-- a required field that one alternative lacks is rejected -/
example : checkTypes exG exAlph exNul
    [ [{ sel := [2], required := true, isList := false, fetchAfter := -1 }],
      [{ sel := [3], required := true, isList := false, fetchAfter := -1 }], [] ] = false := by decide +kernel

/-- a child type no accessor selects is rejected -/
example : checkTypes exG exAlph exNul [ [], [{ sel := [3], required := false, isList := false, fetchAfter := -1 }], [] ] = false := by
  decide +kernel

/-- `[T2]` is a child sequence of `T1`. -/
example : ChildSeq exG 1 [2] := by
  refine Or.inl ⟨_, List.mem_cons_self, rfl, by decide, ?_⟩
  have h1 : Yield exG (.sym 1) [] := Yield.term 1 (by decide)
  have h2 : Yield exG (.sym 2) [] := Yield.term 2 (by decide)
  have h3 : Yield exG (.sym 3) [] := Yield.term 3 (by decide)
  have h6 : Yield exG (.sym 6) [] :=
    Yield.untyped { lhs := 6, body := .sym 3 .nil } [] (by simp [exG]) rfl
      (Yield.consSym 3 .nil [] [] h3 Yield.nil)
  exact Yield.consSym 1 _ [] [2] h1
    (Yield.consNode 2 _ _ [] [] (Yield.consSym 6 .nil [] [] h6 Yield.nil)
      (Yield.consSym 2 .nil [] [] h2 Yield.nil))

example : access { chain := [[2]], last := [2], required := true, isList := false } [1, 2, 3, 2] = [3] := by decide
example : access { chain := [], last := [2, 3], required := false, isList := true } [1, 2, 3, 2] = [1, 2, 3] := by decide
example : access { chain := [[5]], last := [2], required := false, isList := false } [1, 2, 3, 2] = [] := by decide

end TmVerif.C21
