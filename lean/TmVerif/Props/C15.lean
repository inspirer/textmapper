import TmVerif.Proofs.TokenSets
/-!
C15 — Token sets equal their fixpoint definitions (property theorems only).

The DEFINITION is Model/TokenSets.lean: `rhsMem cx c x u t` — "terminal `t` belongs to the right-hand side
of the equation of the unknown `u` under the assignment `x`, complemented subexpressions being read from
`c`" (the textbook equations for any/first/last/precede/follow over the rules reachable from the first
eoi input, and union/intersection/complement/reference for set expressions); `solve sg = some (cx, x)` —
the assignment the specification computes; `setSpec sg` — the terminals of the top-level set expressions,
or `error` when a complement depends on itself (`complCycle`).

What is proved, for every set grammar:
* `C15_nullable_spec`     the mirror of syntax/nullable.go marks exactly the symbols that derive ε (`CFG.Derives`);
* `C15_setSpec_closed`    every equation holds at the computed assignment (complements read the assignment itself);
* `C15_setSpec_least`     the computed assignment is contained in every assignment that is closed under the
                          equations in which the complemented subexpressions keep the computed values: the least
                          solution of the positive system that is left when the complements are held constant;
* `C15_reachable_spec`    "reachable from the first eoi input" is graph reachability (non-empty paths, verified
                          Warshall closure of C26) from that input's nonterminal;
* `C15_complCycle_spec`   `error` ⇔ some complement's argument mentions an unknown from which the enclosing
                          top-level expression is reachable in the dependency graph of the equations;
* `C15_setSpec_ok` / `C15_setSpec_error`  what the two answers of `setSpec` mean in these terms.
The real `ResolveSets` is compared with `setSpec` on every generated grammar by the check (sets are finite,
the comparison is exact).
-/
namespace TmVerif.TokenSets
open TmVerif.CFG TmVerif.Graph

/-- The mirror of `syntax.Nullable` on an expanded model: a symbol is marked iff it derives the empty
string. (`hlhs`: left-hand sides are nonterminals — true of every compiled grammar; `SG.wfB` checks the upper
bound only.) -/
theorem C15_nullable_spec (g : Grammar) (nl : List Bool) (h : nullable g = some nl)
    (hlhs : ∀ r ∈ g.rules.toList, g.nTerms ≤ r.lhs ∧ r.lhs < g.nSyms) (X : Nat) :
    nl.getD X false = true ↔ Derives g X [] :=
  ⟨nullable_sound h, nullable_complete h (fun r hr => (mem_nonterms g r.lhs).2 (hlhs r hr))⟩

/-- **Closed**: at the computed assignment every unknown equals the right-hand side of its equation. -/
theorem C15_setSpec_closed (sg : SG) (cx : Ctx) (x : State) (h : solve sg = some (cx, x)) (u t : Nat) :
    x.mem u t = true ↔ (u < cx.nU ∧ t < cx.sg.nT ∧ rhsMem cx x x u t = true) := by
  obtain ⟨_, hf, _⟩ := solve_some h
  rw [← mem_F cx x x u t, hf]

/-- **Least**: any assignment `y` that is closed under the equations — with the complemented
subexpressions evaluated at the computed assignment `x` — contains `x`. -/
theorem C15_setSpec_least (sg : SG) (cx : Ctx) (x : State) (h : solve sg = some (cx, x))
    (y : State) (hy : ClosedUnder cx x y) : Le x y := by
  obtain ⟨_, _, n, hn⟩ := solve_some h
  have := iter_le_of_closed hy n [] (le_bot y)
  rw [← hn] at this
  exact this

/-- the answer `ok`: the listed sets are the values of the top-level expressions in `solve`, and no
complement depends on itself -/
theorem C15_setSpec_ok (sg : SG) (sets : List (List Nat)) (h : setSpec sg = .ok sets) :
    ∃ cx x, solve sg = some (cx, x) ∧ complCycle cx = false ∧
      sets = (List.range sg.nSets).map fun i => x[cx.vid i]?.getD [] := by
  revert h
  fun_cases setSpec sg with
  | case4 nl hn hc cx x hs =>
    intro h
    obtain ⟨⟨nl', hn', rfl⟩, _⟩ := solve_some hs
    cases hn.symm.trans hn'
    exact ⟨_, x, hs, by simpa using hc, (Res.ok.inj h).symm⟩
  | _ => exact nofun

/-- the answer `error` is given exactly when some complement depends on itself (`complCycle`; in terms of
the dependency graph: `C15_complCycle_spec`) -/
theorem C15_setSpec_error (sg : SG) :
    setSpec sg = .error ↔ ∃ nl, nullable sg.g = some nl ∧ complCycle (mkCtx sg nl) = true := by
  -- `nullable` runs out of fuel; a complement cycle; `solve` fails; the answer `ok`
  fun_cases setSpec sg with
  | case1 hn => simp [hn]
  | case2 nl hn hc => exact ⟨fun _ => ⟨nl, hn, hc⟩, fun _ => rfl⟩
  | case3 nl hn hc | case4 nl hn hc =>
    exact ⟨nofun, fun ⟨nl', h1, h2⟩ => absurd (Option.some.inj (hn.symm.trans h1) ▸ h2) hc⟩

/-- A symbol is reachable iff it is the nonterminal of the first eoi input or there is a non-empty path
to it in `reachGraph` (plain rules lead to the symbols of their right-hand sides, a set nonterminal to its
expression, a lookahead nonterminal to the nonterminals of its predicate, an expression to the symbols and
named sets it mentions). -/
theorem C15_reachable_spec (sg : SG) (s0 : Nat) (hs : sg.start = some s0) (h0 : s0 < sg.nS) (s : Nat) :
    s ∈ reachable sg ↔ s < sg.nS ∧ (s = s0 ∨ Relation.TransGen (Edge (reachGraph sg)) s0 s) := by
  unfold reachable
  rw [hs]
  simp only [List.mem_filter, List.mem_range, Bool.or_eq_true, beq_iff_eq]
  exact and_congr_right fun h1 => or_congr Iff.rfl
    (Matrix.closure_ofGraph _ (reachGraph_wf sg) s0 s (by rw [reachGraph_length]; omega)
      (by rw [reachGraph_length]; omega))

/-- **`error` ⇔ a complement depends on itself**: for some top-level expression `i`, some complement
occurrence inside it has an argument mentioning an unknown `w` that is the value of `i` or reaches it along
the dependencies `deps` of the equations. (`hwf`: all mentioned unknowns exist.) -/
theorem C15_complCycle_spec (cx : Ctx)
    (hwf : ∀ (i : Nat) (e : SExpr), cx.sg.sets[i]? = some e → ∀ w ∈ exprUnknowns cx e, w < cx.nU) :
    complCycle cx = true ↔
      ∃ (i : Nat) (e a : SExpr) (w : Nat), i < cx.sg.nSets ∧ cx.sg.sets[i]? = some e ∧ a ∈ complArgs e ∧ w ∈ exprUnknowns cx a ∧
        (w = cx.vid i ∨ Relation.TransGen (Edge (depGraph cx)) w (cx.vid i)) := by
  have hcl : ∀ (i : Nat) (e a : SExpr) (w : Nat), cx.sg.sets[i]? = some e → a ∈ complArgs e →
      w ∈ exprUnknowns cx a → ((Matrix.ofGraph (depGraph cx)).closure.hasEdge w (cx.vid i) = true ↔
        Relation.TransGen (Edge (depGraph cx)) w (cx.vid i)) := by
    intro i e a w he ha hw
    have hi : i < cx.sg.nSets := (List.getElem?_eq_some_iff.1 he).1
    exact depGraph_closure cx (hwf i e he w (unknowns_of_complArg hw ha)) (by unfold Ctx.vid Ctx.nU; omega)
  unfold complCycle
  simp only [List.any_eq_true, List.mem_range]
  constructor
  · rintro ⟨i, hi, h⟩
    split at h
    · cases h
    · rename_i e he
      simp only [List.any_eq_true, Bool.or_eq_true, beq_iff_eq] at h
      obtain ⟨a, ha, w, hw, h⟩ := h
      exact ⟨i, e, a, w, hi, he, ha, hw, h.imp_right (hcl i e a w he ha hw).1⟩
  · rintro ⟨i, e, a, w, hi, he, ha, hw, h⟩
    refine ⟨i, hi, ?_⟩
    rw [he]
    simp only [List.any_eq_true, Bool.or_eq_true, beq_iff_eq]
    exact ⟨a, ha, w, hw, h.imp_right (hcl i e a w he ha hw).2⟩

/-- `S : A 'b' | 'c' ; A : 'a' | %empty ;` with terminals 0 = eoi, 1 = 'a', 2 = 'b', 3 = 'c'; used below with
the sets `first S` and `any 'a' | ~R1`, where `R1` is that second set itself: a complement that depends on itself. -/
def exG : Grammar :=
  { nTerms := 4, nSyms := 6,
    rules := #[⟨4, [5, 2], 0⟩, ⟨4, [3], 0⟩, ⟨5, [1], 0⟩, ⟨5, [], 0⟩],
    inputs := #[⟨4, true⟩] }

example : nullable exG = some [false, false, false, false, false, true] := by decide +kernel
/-- `S : 'a' | %empty ;` with terminals 0 = eoi, 1 = 'a' -/
def exSmall : Grammar := { nTerms := 2, nSyms := 3, rules := #[⟨2, [1], 0⟩, ⟨2, [], 0⟩], inputs := #[⟨2, true⟩] }

set_option maxRecDepth 100000 in
example : setSpec ⟨exSmall, [], [.first 2, .compl (.first 2)], []⟩ = .ok [[1], [0]] := by
  have hn : nullable exSmall = some [false, false, true] := by decide +kernel
  -- Evaluating `complCycle` would run Warshall over a 17 × 17 bit array, which is slow in the kernel.
  -- Instead: the unknowns of the symbols (those below 15) depend on each other only, so the one
  -- complement argument `first S` (unknown 5) does not reach the enclosing expression (unknown 16).
  have hc : complCycle (mkCtx ⟨exSmall, [], [.first 2, .compl (.first 2)], []⟩ [false, false, true]) = false := by
    generalize hcx : mkCtx _ _ = cx
    have step : ∀ a < 15, ∀ b ∈ succs (depGraph cx) a, b < 15 := by subst hcx; decide +kernel
    have hU : cx.nU = 17 := by subst hcx; rfl
    have hr : (Matrix.ofGraph (depGraph cx)).closure.hasEdge 5 16 = false := by
      apply Bool.eq_false_iff.2
      intro h
      rw [depGraph_closure cx (by rw [hU]; decide) (by rw [hU]; decide)] at h
      exact absurd (transGen_closed (P := (· < 15)) step (by decide) h) (by decide)
    subst hcx
    unfold complCycle
    generalize (Matrix.ofGraph _).closure = r at hr
    simp [mkCtx, SG.nSets, List.range_succ, complArgs, exprUnknowns, Ctx.uid, Ctx.vid, SG.nS, exSmall, hr]
  simp only [setSpec, hn, hc]
  decide +kernel
example : setSpec ⟨exG, [], [.first 4, .union (.any 1) (.compl (.ref 1))], []⟩ = .error := by decide +kernel

end TmVerif.TokenSets
