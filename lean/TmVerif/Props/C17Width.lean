/-
C17, second decidable fragment: the element type of every generated table holds every element.
`bitsPerElement` / `bits` (gen/funcs.go, template functions `bits_per_element` / `bits`) choose `int8`, `int16`
or `int32` for tmTable, tmCheck, tmFromTo, tmRuleLen, tmLexerAction and the state type, and `uint8/16/32` for the
rune-class tables. Model/TableWidth.lean mirrors them; the mirror is tied to the real functions by the
correspondence run of harness/cmd/tmh/c17.go (random arrays incl. the extremes of every width). The theorems
hold for ALL arrays, so a choice that is too narrow for some negative entry cannot pass the tie.
-/
import TmVerif.Proofs.TableWidth
namespace TmVerif.C17
open TmVerif.TableWidth

/-- Every element of an array of int32 values is a value of the chosen element type. -/
theorem C17_bitsPerElement_fits (arr : List Int) (h : allInt32 arr = true) :
    ∀ x ∈ arr, fitsSigned (bitsPerElement arr) x = true :=
  fun x hx => fitsSigned_mono ((bitsPerElement_max arr).2 x hx) x
    (bits_fits x (List.all_eq_true.mp h x hx))

example : bitsPerElement [5, -129, 127] = 16 ∧ fitsSigned 16 (-129) = true ∧ fitsSigned 8 (-129) = false := by decide
example : allInt32 [5, -129, 127, -32769] = true := by decide

/-- The choice is one of the three Go widths. -/
theorem C17_bitsPerElement_width (arr : List Int) :
    bitsPerElement arr = 8 ∨ bitsPerElement arr = 16 ∨ bitsPerElement arr = 32 :=
  (bitsPerElement_max arr).1.elim .inl fun ⟨i, _, h⟩ => h ▸ bits_vals i

/-- … and the narrowest one that holds every element (no table is wider than necessary). -/
theorem C17_bitsPerElement_minimal (arr : List Int) (w : Nat) (hw : w = 8 ∨ w = 16)
    (h : ∀ x ∈ arr, fitsSigned w x = true) : bitsPerElement arr ≤ w :=
  (bitsPerElement_max arr).1.elim (fun e => e ▸ by rcases hw with rfl | rfl <;> decide)
    fun ⟨i, hi, e⟩ => e ▸ bits_le_of_fits hw (h i hi)

/-- `bits`: an int32 value is a value of the signed type of the chosen width. -/
theorem C17_bits_fits (i : Int) (h : fitsSigned 32 i = true) : fitsSigned (bits i) i = true :=
  bits_fits i h

/-- `uint{{bits n}}` (rune classes, `n` = number of classes): every class number below `n` is a value of it. -/
theorem C17_bits_unsigned (n v : Int) (hn : fitsSigned 32 n = true) (h0 : 0 ≤ v) (hv : v < n) :
    fitsUnsigned (bits n) v = true := by
  have hf := C17_bits_fits n hn
  rw [fitsSigned_iff] at hf
  simp only [fitsUnsigned, Bool.and_eq_true, decide_eq_true_eq]
  rcases bits_vals n with e | e | e <;> rw [e] at hf ⊢ <;> omega

end TmVerif.C17
