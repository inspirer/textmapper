import TmVerif.Proofs.TreeBuilder
import TmVerif.Proofs.EventNesting
/-!
# C20 — parse events always form a well-nested tree

Two halves.

**The builder** (`Model/TreeBuilder.lean`, mirror of `builder.addNode` of `go_ast_parse.go.tmpl`).
An event stream is `WellNested n evs` when every event is a range inside `[0, n]` and for every earlier
event `p` and later event `f`: `p` ends at or before the start of `f`, or starts at or after the end of
`f`, or lies within `f` (`Compat`: disjoint or nested, and a container is listed after its contents).
`contains c p` (for a LATER `c`) is `c.off ≤ p.off < c.endo`: for non-empty `p` this is range
inclusion; equal non-empty ranges: the later event contains the earlier one; an EMPTY node is inside
a later node iff it sits at its start or strictly inside — an empty node at the END offset of a later
node is its following sibling, and two empty nodes at one offset are siblings, the later-reported
first. `parentOf evs i` is the first later event containing event `i` (= the smallest container).

**The events** (`Model/LRX.lean`, the generated parser's runtime). For tables whose reports are listed
inner first (`XWF`, evaluated on every generated table by the harness) and tokens in source order
(`InputWF`), every run — accepted, rejected, recovered, cancelled, out of fuel — has a well-nested
listener stream.

The stream WITH reported skipped tokens (comments, invalid tokens) of parsers without error recovery
is the subject of Props/C20Ignored.lean.
-/
namespace TmVerif.C20
open TmVerif.TreeBuilder TmVerif.EventNesting TmVerif.LRX
open TmVerif.LR (Input Tok)

/-- **Builder correctness** (all well-nested streams). The forest built from `evs` (the builder's
stack, in Go order) has exactly the events as nodes (node `i` carries event `i`, every index once);
every node's children are exactly attached to their smallest container (`parentOf`), lie inside its
range and are in source order (`SibOrder`); the roots have no container and are in source order. -/
theorem C20_builder_correct (n : Nat) (evs : List Ev) (h : WellNested n evs) :
    (idsList (build evs)).Perm (List.range evs.length) ∧
    (∀ t ∈ subtreesList (build evs), NodeOK evs t) ∧
    (∀ r ∈ build evs, parentOf evs r.id = none) ∧
    (build evs).Pairwise SibOrder := by
  have inv := inv_build h
  exact ⟨inv.ids, inv.good, fun r hr => parentOf_eq_none (inv.root_ev hr) (inv.roots r hr), inv.sorted⟩

/-- non-vacuity: nested, equal, empty-at-start, empty-at-end and out-of-order (container delayed past
a later sibling, as `fixWhitespace` produces) events -/
example : WellNested 9 [⟨1, 0, 1⟩, ⟨2, 0, 1⟩, ⟨3, 2, 2⟩, ⟨4, 2, 5⟩, ⟨5, 7, 7⟩, ⟨6, 5, 5⟩, ⟨7, 0, 5⟩, ⟨8, 7, 9⟩] := by
  decide
example : (build [⟨1, 0, 1⟩, ⟨2, 0, 1⟩, ⟨3, 2, 2⟩, ⟨4, 2, 5⟩, ⟨5, 7, 7⟩, ⟨6, 5, 5⟩, ⟨7, 0, 5⟩, ⟨8, 7, 9⟩]).map Tree.show =
    ["(7 0 5 (2 0 1 (1 0 1)) (4 2 5 (3 2 2)))", "(6 5 5)", "(8 7 9 (5 7 7))"] := by
  decide +kernel

/-- **Every stream**: whatever the listener reports (no nesting assumption at all), the builder keeps
every event as exactly one node carrying that event. -/
theorem C20_builder_nodes_all_streams (evs : List Ev) :
    (idsList (build evs)).Perm (List.range evs.length) ∧
    ∀ t ∈ subtreesList (build evs), evs[t.id]? = some t.ev :=
  ⟨(inv0_build evs).ids, (inv0_build evs).evOf⟩

/-- `builder.build()` with the `fileNode` option adds `File (0, len)` and returns `stack[0]`.
FULL statement: the returned root contains every reported node. -/
def C20_file_root_full : Prop :=
  ∀ (fileTy : Int) (n : Nat) (evs : List Ev), WellNested n evs →
    ∃ t, buildFile fileTy n evs = some t ∧ t.ids.Perm (List.range (evs.length + 1))

/-- … proved under the hypothesis the proof forces: no reported node STARTS at the end offset `n` of
the text (such a node is necessarily the empty node `(n, n)`; it stays outside of `File` and
`build()` drops it). -/
theorem C20_file_root_partial (fileTy : Int) (n : Nat) (evs : List Ev) (h : WellNested n evs)
    (hlt : ∀ e ∈ evs, e.off < n) :
    ∃ t, buildFile fileTy n evs = some t ∧ build (evs ++ [⟨fileTy, 0, n⟩]) = [t] ∧
      t.ids.Perm (List.range (evs.length + 1)) := by
  obtain ⟨kids, hb⟩ := build_file_single fileTy h hlt
  refine ⟨_, by simp [buildFile, hb], hb, ?_⟩
  have := (inv0_build (evs ++ [⟨fileTy, 0, n⟩])).ids
  rw [hb] at this
  simpa [idsList] using this

example : ∀ e ∈ [(⟨1, 0, 1⟩ : Ev), ⟨2, 0, 1⟩, ⟨3, 2, 2⟩], e.off < 3 := by decide

/-- The full statement is FALSE: the stream of the shipped js parser for the text `a`
(`InsertedSemicolon (1,1)`, then the nodes of `a`) loses the `InsertedSemicolon` node. -/
theorem C20_file_root_full_fails : ¬ C20_file_root_full := by
  intro h
  obtain ⟨t, ht, hp⟩ := h 100 1 [⟨7, 1, 1⟩, ⟨1, 0, 1⟩, ⟨2, 0, 1⟩, ⟨3, 0, 1⟩] (by decide)
  have h1 : (buildFile 100 1 [⟨7, 1, 1⟩, ⟨1, 0, 1⟩, ⟨2, 0, 1⟩, ⟨3, 0, 1⟩]).map Tree.ids = some [4, 3, 2, 1] := by
    decide
  rw [ht] at h1
  simp only [Option.map_some, Option.some.injEq] at h1
  have := hp.length_eq
  rw [h1] at this
  simp at this

/-- The repaired `build()` (`buildFileAll`, /verif/fixes/C20-end-offset-node.diff: the File node adopts
every root) satisfies the FULL statement, for every stream: the root has the File node plus exactly
the reported nodes, and below the File node sits the forest of `C20_builder_correct` unchanged. -/
theorem C20_file_root_repaired (fileTy : Int) (n : Nat) (evs : List Ev) :
    (buildFileAll fileTy n evs).ids.Perm (List.range (evs.length + 1)) ∧
    (buildFileAll fileTy n evs).kids = build evs := by
  refine ⟨?_, rfl⟩
  have := (inv0_build evs).ids
  simp only [buildFileAll, Tree.ids]
  rw [List.range_succ]
  exact (List.Perm.cons _ this).trans (List.perm_append_singleton _ _).symm

/-- **Event nesting, parsers without error recovery** (`x.recovering = false`; this includes every
accepted input of any parser): for every run of the runtime model — any input, any fuel, cancelled or
not — the listener stream is well nested within `[0, endOff]`. -/
theorem C20_events_wellnested_valid (x : XTables) (inp : Input) (input : Nat) (stop : Bool)
    (cancelAt fuel : Nat) (hx : XWF x) (hi : InputWF inp) (_hr : x.recovering = false) :
    WellNested inp.endOff (listenerStream (xrun x inp input stop cancelAt fuel).2) :=
  xrun_wellNested hx hi input stop cancelAt fuel

/-- **Event nesting under error recovery**: the same for recovering parsers, whatever the error
handler answers. PARTIAL with respect to the property: `Model/LRX.lean` is the runtime of parsers that
report NO skipped tokens (lexer-driven, `ReportTokens` empty); relative to that model the statement is
complete (all inputs, all recoveries: `recoverFromError`'s `error` entry spans the dropped entries and
skipped tokens and keeps the stack invariant). -/
theorem C20_events_wellnested_recovering_partial (x : XTables) (inp : Input) (input : Nat) (stop : Bool)
    (cancelAt fuel : Nat) (hx : XWF x) (hi : InputWF inp) (_hr : x.recovering = true) :
    WellNested inp.endOff (listenerStream (xrun x inp input stop cancelAt fuel).2) :=
  xrun_wellNested hx hi input stop cancelAt fuel

/-- FULL statement of the recovering case (NOT proved). The property also names parsers that report
skipped tokens (comments, invalid tokens: `pending`, `flush`, `reportIgnoredToken`) while trimming
trailing whitespace, and the token-stream variants (`parsers/tm/stream.go`,
`parsers/js/stream_impl.go` with injected `InsertedSemicolon` nodes). For parsers WITHOUT error
recovery the skipped-token runtime is modelled (`Model/LRXPending.lean`) and proved well nested
(`C20_nested_with_ignored`, Props/C20Ignored.lean). Under recovery it is not: the statement is
therefore kept as a schema over a model `run` of that runtime (listener stream as a function of the
tables, the parser's tokens and the `skipped` tokens the lexer produced in between). What remains to
be modelled and proved for it: the partial `flush` during recovery, the extension of the `error`
range over pending invalid tokens, `insertSC`. The invariant `EventNesting.Core` carries over when
every skipped token lies in the gap between the stack top and the next parser token and trailing
whitespace is trimmed (the reduce step then never reports a range that reaches into that gap; this is
the argument of Proofs/LRXPending.lean). These configurations are covered by the harness's direct
search only (shipped tm / js / test parsers). -/
def C20_events_wellnested_recovering_full
    (run : XTables → Input → (skipped : List Tok) → Nat → Bool → Nat → Nat → List Ev) : Prop :=
  ∀ (x : XTables) (inp : Input) (skipped : List Tok) (input : Nat) (stop : Bool) (cancelAt fuel : Nat),
    XWF x → InputWF inp → x.fixWhitespace = true →
    (∀ t ∈ skipped, t.off ≤ t.endo ∧ t.endo ≤ inp.endOff) →
    WellNested inp.endOff (run x inp skipped input stop cancelAt fuel)

/-- non-vacuity of the hypotheses: a rule with an inner and an outer report, tokens with gaps -/
example : XWF { t := default, rules := #[{ ruleType := 1, reports := [⟨2, 0, 1⟩, ⟨3, 1, 1⟩, ⟨4, 0, 2⟩], fixWS := true }],
                fixWhitespace := true } := by decide
example : InputWF { toks := #[⟨1, 0, 1⟩, ⟨2, 3, 4⟩], endOff := 5 } := by decide

/-- **Both halves together**: the tree built from the listener stream of any run of the runtime
model has exactly the reported nodes, each attached to its smallest container, siblings in source
order. -/
theorem C20_tree_of_run (x : XTables) (inp : Input) (input : Nat) (stop : Bool) (cancelAt fuel : Nat)
    (hx : XWF x) (hi : InputWF inp) :
    let evs := listenerStream (xrun x inp input stop cancelAt fuel).2
    (idsList (build evs)).Perm (List.range evs.length) ∧
    (∀ t ∈ subtreesList (build evs), NodeOK evs t) ∧
    (∀ r ∈ build evs, parentOf evs r.id = none) ∧
    (build evs).Pairwise SibOrder :=
  C20_builder_correct inp.endOff _ (xrun_wellNested hx hi input stop cancelAt fuel)

end TmVerif.C20
