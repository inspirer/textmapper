import TmVerif.Facts.Generated
import TmVerif.Facts.ExpectC22
import TmVerif.Proofs.SourcePos
/-!
C22 — the grammar compiler never crashes and reports in-range diagnostics (Mode M + F, DESIGN.md §4).

Part 1 (Mode M, all inputs): the position arithmetic of diagnostics. `lineCol` mirrors
`Node.LineColumn`/`lineOffsets` (parsers/tm/ast/tree.go), `mapRegexError` mirrors the offset translation of
`parsePattern` (compiler/lexer.go).
Part 2 (Mode M, mirrored guards): lemmas showing that two explicit crash sites cannot fire.
Part 3 (Mode F, `decide` over Facts/Generated.lean, regenerated from /repo on every run): every explicit crash
site (log.Fatal*, log.Panic*, panic, os.Exit) of the pipeline packages is classified; a new, moved, reordered or
edited site breaks `C22_all_fatal_sites_classified`, and with it the check.

NOT proved (see the end of the file): that `compiler.Compile` itself never panics — the sites classified
`reportedInvariant`, implicit run-time panics and non-termination are covered by the correspondence runs of
harness/cmd/tmh/c22.go only, and those runs did find crashes (listed at the end of the file).
-/
namespace TmVerif.C22
open TmVerif.SourcePos TmVerif.Facts

/-! ## Part 1: position arithmetic -/

/-- `Node.LineColumn` is right for every text and every offset inside it (or at its end): the line is 1 + the
number of `'\n'` among the first `offset` bytes; the column is 1-based in bytes from the start of that line,
where the line start `s = offset + 1 - column` satisfies: `s ≤ offset`, no `'\n'` in `[s, offset)`, and `s` is
0 or follows a `'\n'` (these three conditions determine `s` uniquely). -/
theorem C22_lineCol_spec (bs : List Nat) (offset : Nat) (h : offset ≤ bs.length) :
    let lc := lineCol bs offset
    lc.1 = 1 + (bs.take offset).count 10 ∧
    1 ≤ lc.2 ∧ lc.2 ≤ offset + 1 ∧
    (∀ i, offset + 1 - lc.2 ≤ i → i < offset → bs[i]? ≠ some 10) ∧
    (offset + 1 - lc.2 = 0 ∨ bs[offset + 1 - lc.2 - 1]? = some 10) := by
  obtain ⟨s, e, hno, hs⟩ := lineColSpec_col bs offset h
  have hstart : offset + 1 - (lineColSpec bs offset).2 = s := Nat.sub_eq_of_eq_add e.symm
  simp only [lineCol_eq_spec bs offset h, hstart]
  exact ⟨rfl, Nat.le_add_right 1 _, e ▸ Nat.le_add_left _ s, hno, hs⟩

example : lineCol [97, 10, 98, 99, 10, 10, 100] 3 = (2, 2) := by decide
example : lineCol [97, 10, 98, 99, 10, 10, 100] 5 = (3, 1) := by decide
example : lineCol [] 0 = (1, 1) := by decide

/-- The functional form: `lineCol` equals the independent recomputation `lineColSpec` (count the newlines of
the prefix, measure its last line). Used by the driver's `judge`. -/
theorem C22_lineCol_eq_spec (bs : List Nat) (offset : Nat) (h : offset ≤ bs.length) :
    lineCol bs offset = lineColSpec bs offset :=
  lineCol_eq_spec bs offset h

/-- Round trip: the offset is recovered from (line, column) and the table of line starts; the line exists. -/
theorem C22_lineCol_roundtrip (bs : List Nat) (offset : Nat) (h : offset ≤ bs.length) :
    let lc := lineCol bs offset
    1 ≤ lc.1 ∧ lc.1 ≤ (lineOffsets bs).length ∧ lineStart bs lc.1 + lc.2 - 1 = offset := by
  obtain ⟨hk, e, hl⟩ := lineCol_table bs offset h
  simp only [lineCol, lineColOf, lineStart, hk, Nat.add_sub_cancel]
  exact ⟨Nat.le_add_left 1 _, hl, by rw [← Nat.add_assoc, Nat.add_sub_cancel, Nat.add_sub_cancel' (Nat.le.intro e)]⟩

example : lineStart [97, 10, 98, 99, 10, 10, 100] 2 = 2 := by decide

/-- Columns within one line: moving `d` bytes forward without crossing a newline keeps the line and adds `d`
to the column (this is what `parsePattern` relies on when it bumps `Column` together with `Offset`). -/
theorem C22_lineCol_add (bs : List Nat) (o d : Nat) (h : o + d ≤ bs.length)
    (hnl : ∀ i, o ≤ i → i < o + d → bs[i]? ≠ some 10) :
    lineCol bs (o + d) = ((lineCol bs o).1, (lineCol bs o).2 + d) := by
  induction d with
  | zero => rfl
  | succ d ih =>
    have hlt : o + d < bs.length := h
    have hb : bs[o + d] ≠ 10 := fun e =>
      hnl (o + d) (Nat.le_add_right o d) (Nat.lt_succ_self _) (e ▸ List.getElem?_eq_getElem hlt)
    rw [← Nat.add_assoc, lineCol_eq_spec bs (o + d + 1) hlt, lineColSpec_succ bs (o + d) hlt, if_neg hb,
      ← lineCol_eq_spec bs _ (Nat.le_of_lt hlt), ih (Nat.le_of_lt hlt) fun i h1 h2 => hnl i h1 (Nat.lt_succ_of_lt h2)]
    rfl

/-- When the guard of `parsePattern` accepts the error range (`errOff ≤ errEnd ≤ len(text)`, `errOff < len(text)`)
the diagnostic lies strictly between the two slashes, is not empty, and for a non-empty error range covers exactly
the erroneous characters (for an empty one `mapRegexError` extends it to the closing slash; the statement only
says that it ends there or before). -/
theorem C22_mapRegexError_inside_slashes (rng : SrcRange) (textLen errOff errEnd : Int)
    (hlit : rng.endOffset = rng.offset + textLen + 2) (hoff : 0 ≤ errOff)
    (hg : errOff ≤ errEnd ∧ errEnd ≤ textLen ∧ errOff < textLen) :
    let r := mapRegexError rng textLen errOff errEnd
    r.offset = rng.offset + 1 + errOff ∧ rng.offset + 1 ≤ r.offset ∧ r.offset < r.endOffset ∧
      r.endOffset ≤ rng.endOffset - 1 ∧
      (errOff < errEnd → r.endOffset = rng.offset + 1 + errEnd) ∧
      r.column = rng.column + 1 + errOff := by
  rw [mapRegexError_accepted rng textLen errOff errEnd hg]
  obtain ⟨g1, g2, g3⟩ := hg
  by_cases hlt : errOff < errEnd
  · simp only [if_pos hlt]; omega
  · simp only [if_neg hlt]; omega

example : mapRegexError ⟨10, 17, 3, 5⟩ 5 2 2 = ⟨13, 16, 3, 8⟩ := by decide

/-- An error range the guard rejects leaves the pattern's own range. -/
theorem C22_mapRegexError_rejected (rng : SrcRange) (textLen errOff errEnd : Int)
    (hg : ¬ (errOff ≤ errEnd ∧ errEnd ≤ textLen ∧ errOff < textLen)) :
    mapRegexError rng textLen errOff errEnd = rng := by
  unfold mapRegexError
  rw [if_neg hg]

example : mapRegexError ⟨10, 17, 3, 5⟩ 5 5 5 = ⟨10, 17, 3, 5⟩ := by decide

/-- `parsePattern`: whatever error range the regexp parser reports (non-negative start), the diagnostic stays
inside the source range of the pattern literal `/text/`, and its start does not exceed its end.
`rng.endOffset = rng.offset + textLen + 2` says that `rng` is the range of the literal (text plus two slashes). -/
theorem C22_mapRegexError_in_source (rng : SrcRange) (textLen errOff errEnd : Int)
    (hlit : rng.endOffset = rng.offset + textLen + 2) (hlen : 0 ≤ textLen) (hoff : 0 ≤ errOff) :
    let r := mapRegexError rng textLen errOff errEnd
    rng.offset ≤ r.offset ∧ r.offset ≤ r.endOffset ∧ r.endOffset ≤ rng.endOffset ∧ r.line = rng.line := by
  dsimp only
  by_cases hg : errOff ≤ errEnd ∧ errEnd ≤ textLen ∧ errOff < textLen
  · obtain ⟨_, h2, h3, h4, _⟩ := C22_mapRegexError_inside_slashes rng textLen errOff errEnd hlit hoff hg
    exact ⟨by omega, Int.le_of_lt h3, by omega, by rw [mapRegexError_accepted rng textLen errOff errEnd hg]⟩
  · rw [C22_mapRegexError_rejected rng textLen errOff errEnd hg]
    exact ⟨Int.le_refl _, by omega, Int.le_refl _, rfl⟩

example : mapRegexError ⟨10, 17, 3, 5⟩ 5 2 4 = ⟨13, 15, 3, 8⟩ := by decide

/-- The (line, column) of the translated range is again what `LineColumn` gives for its offset, provided the
pattern's own range was consistent and the pattern text before the error contains no newline. -/
theorem C22_mapRegexError_lineCol (bs : List Nat) (rng : SrcRange) (o : Nat) (textLen errOff errEnd : Int)
    (ho : rng.offset = (o : Int)) (hoff : 0 ≤ errOff)
    (hline : rng.line = ((lineCol bs o).1 : Int)) (hcol : rng.column = ((lineCol bs o).2 : Int))
    (hg : errOff ≤ errEnd ∧ errEnd ≤ textLen ∧ errOff < textLen)
    (hin : o + (errOff.toNat + 1) ≤ bs.length)
    (hnl : ∀ i, o ≤ i → i < o + (errOff.toNat + 1) → bs[i]? ≠ some 10) :
    let r := mapRegexError rng textLen errOff errEnd
    let o' := o + (errOff.toNat + 1)
    r.offset = (o' : Int) ∧ r.line = ((lineCol bs o').1 : Int) ∧ r.column = ((lineCol bs o').2 : Int) := by
  rw [mapRegexError_accepted rng textLen errOff errEnd hg]
  simp only
  rw [C22_lineCol_add bs o (errOff.toNat + 1) hin hnl]
  simp only
  have hc : ((errOff.toNat + 1 : Nat) : Int) = errOff + 1 := by rw [Int.natCast_add, Int.toNat_of_nonneg hoff]; rfl
  exact ⟨by rw [ho, Int.natCast_add, hc], hline, by rw [hcol, Int.natCast_add, hc]⟩

example : lineCol [97, 58, 32, 47, 91, 47, 10] 3 = (1, 4) ∧
    mapRegexError ⟨3, 6, 1, 4⟩ 1 0 1 = ⟨4, 5, 1, 5⟩ ∧ lineCol [97, 58, 32, 47, 91, 47, 10] 4 = (1, 5) := by decide

/-! ## Part 2: mirrored guards of crash sites -/

/-- lalr/optimize.go `pack`: the `log.Fatal("… empty line")` cannot fire — whatever order the stable sort
leaves the lines in, an empty line makes the first loop panic on `l.pairs[0]` before the guard is reached.
(The site is dead; the function is not thereby crash-free.) -/
theorem C22_pack_empty_line_unreachable (lineLens order : List Nat) (hperm : order.Perm lineLens) :
    packPrefix lineLens order ≠ .fatalEmptyLine := by
  unfold packPrefix packFirstLoopPanics
  -- both tests ask the same of the same lines
  rw [hperm.any_eq]
  cases lineLens.any (· == 0) <;> simp

example : packPrefix [2, 0, 1] [2, 1, 0] = .indexPanic := by decide
example : packPrefix [2, 3, 1] [3, 2, 1] = .proceeds := by decide

/-- compiler/lexer.go `addDefaultAction`: for two calls on an empty `codeRule` map the `log.Fatal` fires only if
both are for symbol 0 … -/
theorem C22_addDefaultAction_two_calls (a b : Nat) :
    addDefaultActionFires [] [a, b] = true ↔ (a = 0 ∧ b = 0) := by
  by_cases ha : a = 0 <;> by_cases hb : b = 0 <;> simp [addDefaultActionFires, ha, hb]

/-- … and `lexerCompiler.compile` calls it for `invalid_token` (index 1) and `eoi` (index 0) of a fresh
resolver, so it never fires. -/
theorem C22_addDefaultAction_never_fatal :
    compileDefaultActionSyms = [1, 0] ∧ addDefaultActionFires [] compileDefaultActionSyms = false := by decide

/-! ## Part 3: obligations over the regenerated facts -/

/-- Every crash site has exactly one entry of the table, and every entry a site. Both directions in one evaluation: the
dear part is turning each string literal into bytes, and within one run the kernel does that once per string. -/
theorem fatal_tables_match : (∀ s ∈ fatalSites, (fatalExpectations.filter (·.isFor s)).length = 1) ∧
    ∀ e ∈ fatalExpectations, (fatalSites.any fun s => e.isFor s) = true := by decide +kernel

/-- Every explicit crash site of the pipeline packages at the CURRENT tree is classified, by exactly one entry. -/
theorem C22_all_fatal_sites_classified :
    ∀ s ∈ fatalSites, (fatalExpectations.filter (·.isFor s)).length = 1 := fatal_tables_match.1

/-- … and the table contains nothing else (no stale entries). -/
theorem C22_fatal_expectations_current :
    ∀ e ∈ fatalExpectations, (fatalSites.any fun s => e.isFor s) = true := fatal_tables_match.2

/-- Every file of the pipeline packages parsed and the extractor did not crash. -/
theorem C22_inventory_complete : loadProblems = [] := by decide

/-- The sites discharged as "default clause of an exhaustive switch": in the regenerated switch facts every
declared constant of the tag's type is named in a `case` of that switch, and values of the type arise only
from declared constants (no conversions, arithmetic or foreign constants beyond `allowedLeaks`). -/
theorem C22_exhaustive_switch_sites :
    ∀ e ∈ fatalExpectations, e.switchOk fatalSwitches = true := by decide +kernel

/-- The lemmas that sites classified `discharged` may cite: name as written in the expectation table, and the
constant itself (the double back-quote makes the elaborator check that it exists). -/
def dischargeLemmas : List (String × Lean.Name) := [
  ("C22_pack_empty_line_unreachable", ``C22_pack_empty_line_unreachable),
  ("C22_addDefaultAction_never_fatal", ``C22_addDefaultAction_never_fatal),
  ("C22_exhaustive_switch_sites", ``C22_exhaustive_switch_sites)]

/-- Every `discharged` classification cites one of these lemmas. -/
theorem C22_discharged_sites_cite_lemmas :
    ∀ e ∈ fatalExpectations, ∀ l, e.cls.lemmaName = some l → l ∈ dischargeLemmas.map Prod.fst := by decide +kernel

/-- Summary of the classification (changes with the table; recorded so that a reclassification is visible). -/
theorem C22_classification_counts :
    (fatalExpectations.map (fatalClassTag ·.cls)).count "discharged" = 9 ∧
    (fatalExpectations.map (fatalClassTag ·.cls)).count "reported-invariant" = 34 ∧
    (fatalExpectations.map (fatalClassTag ·.cls)).count "reachable" = 0 ∧
    (fatalExpectations.map (fatalClassTag ·.cls)).count "outside-compile" = 11 := by decide +kernel

/-! ## What is not proved

The full statement of the property — for every text `compiler.Compile` terminates without panic or exit — is
about the real implementation; no Lean model of `Compile` exists, so it is not a theorem here. What the
theorems above give: the position arithmetic is right for all inputs (Part 1), 9 of the 54 explicit crash sites
are dead (Parts 2 and 3), and the inventory is complete and current (Part 3). The 34 `reportedInvariant` sites,
implicit run-time panics (nil, index, stack overflow) and termination rest on the correspondence runs. Six
crashes were found by those runs and repaired in /repo (`[C22-lalrk-optimize]`, `[C22-greedy-lookback]`,
`[C22-bison-stringify]`: explicit sites; `[C22-addtypes-minus-one]`, `[C22-argrefs-stale-after-instantiate]`,
`[C22-recursive-set-instantiate]`: implicit panics); their witnesses stay in the harness's stream. -/

end TmVerif.C22
