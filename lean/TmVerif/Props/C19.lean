import TmVerif.Proofs.LRXRecover
import TmVerif.Proofs.LRXSafeMain
/-!
C19 — error recovery is safe and transparent: the property theorems about the runtime model
`Model/LRX.lean` and their non-vacuity examples. Transparency on runs without reported errors,
monotone error offsets inside the input, the `recovering` counter; for certified tables
panic-freedom (`C19_no_panic`, with the invariant `C19_invariant_reachable`), the sufficiency of
the internal fuels of recovery (`C19_recovery_terminates`) and halting of the whole loop
(`C19_halts`). Events are stored most-recent-first.
-/
namespace TmVerif.LRX
open TmVerif.LR TmVerif.CFG TmVerif.LRSound

/-- One loop iteration of a recovering parser from a configuration satisfying `RecInv` (a non-zero
`recovering` counter implies an earlier handler call; true initially and preserved) either is the
iteration of ANY parser `x'` with the same tables, rule actions and options — whatever its recovery
parameters (`recovering`, `errSym`, `afterErr`) and `stopOnError` flag — or leaves a handler call among the
events: its own, or an earlier one whose `recovering` counter is still running. -/
theorem C19_recovery_transparent_step (x x' : XTables) (ht : x'.t = x.t) (hr : x'.rules = x.rules)
    (hf : x'.fixWhitespace = x.fixWhitespace) (hc : x'.cancellable = x.cancellable)
    (hrec : x.recovering = true) (inp : Input) (fin : Int) (stop stop' : Bool) (k : Nat) (c : XCfg)
    (hinv : RecInv c) :
    xstep x' inp fin stop' k c = xstep x inp fin stop k c ∨
      ∃ o e, XEv.error o e ∈ (xstep x inp fin stop k c).cfg.evs := by
  rcases xstep_transparent ht hr hf hc hrec inp fin stop stop' k c hinv with h | h
  · exact .inl h
  · exact .inr ((hasErr_iff _).1 h)

/-- the general form of `C19_recovery_transparent_run`: any parser `x'` sharing the tables, rule actions and
options, and any `stopOnError` flag `stop'` -/
theorem C19_recovery_transparent_run_any (x x' : XTables) (ht : x'.t = x.t) (hr : x'.rules = x.rules)
    (hf : x'.fixWhitespace = x.fixWhitespace) (hc : x'.cancellable = x.cancellable)
    (hrec : x.recovering = true) (inp : Input) (input : Nat) (stop stop' : Bool)
    (k fuel : Nat) (r : XResult) (c : XCfg)
    (h : xrun x inp input stop k fuel = (r, c)) (hne : ∀ o e, XEv.error o e ∉ c.evs) :
    xrun x' inp input stop' k fuel = (r, c) := by
  unfold xrun at h ⊢
  rw [ht]
  split at h
  · exact h
  · next fin hfin =>
    rcases xrunLoop_transparent ht hr hf hc hrec inp fin stop stop' k fuel (xinit inp input) (.inl rfl) with h' | he
    · exact h'.trans h
    · obtain ⟨o, e, hm⟩ := (hasErr_iff _).1 (h ▸ he)
      exact absurd hm (hne o e)

/-- If a run (any result: accept, cancelled, panic, out of fuel …) has called the error handler
never, the non-recovering runtime on the SAME tables (`recovering := false`: the template's `IsRecovering`
branches left out; not the tables of the grammar without its `error` rules) makes exactly the same run: same
result, same events, same final configuration. -/
theorem C19_recovery_transparent_run (x : XTables) (inp : Input) (input : Nat) (stop : Bool)
    (k fuel : Nat) (r : XResult) (c : XCfg)
    (h : xrun x inp input stop k fuel = (r, c)) (hne : ∀ o e, XEv.error o e ∉ c.evs) :
    xrun { x with recovering := false } inp input stop k fuel = (r, c) := by
  cases hrec : x.recovering
  · have : { x with recovering := false } = x := by
      cases x; simp only at hrec; subst hrec; rfl
    rw [this]; exact h
  · exact C19_recovery_transparent_run_any x { x with recovering := false } rfl rfl rfl rfl hrec inp input
      stop stop k fuel r c h hne

/-- Reported error offsets are non-decreasing in time (`l2` holds the events before `error o2 e2`). -/
theorem C19_errors_monotone (x : XTables) (inp : Input) (input : Nat) (stop : Bool) (k fuel : Nat)
    (r : XResult) (c : XCfg) (hm : ∀ i j, i ≤ j → (inp.tok i).off ≤ (inp.tok j).off)
    (h : xrun x inp input stop k fuel = (r, c))
    (l1 l2 : List XEv) (o1 e1 o2 e2 : Nat) (hs : c.evs = l1 ++ XEv.error o2 e2 :: l2)
    (h1 : XEv.error o1 e1 ∈ l2) : o1 ≤ o2 := by
  have hinv : ErrInv inp c := xrun_errInv hm h
  exact errOffs_sorted_elim hinv.sorted hs h1

/-- the same as sortedness of the list of reported offsets (most recent first) -/
theorem C19_errors_sorted (x : XTables) (inp : Input) (input : Nat) (stop : Bool) (k fuel : Nat)
    (r : XResult) (c : XCfg) (hm : ∀ i j, i ≤ j → (inp.tok i).off ≤ (inp.tok j).off)
    (h : xrun x inp input stop k fuel = (r, c)) : (errOffs c.evs).Pairwise (· ≥ ·) :=
  (xrun_errInv hm h).sorted

/-- Every reported error offset lies inside the input: it is at most the offset of the last token fetched
(`ErrInv.bound`), and monotone offsets (`hm` includes the EOI token at `endOff`) bound that by `endOff`. -/
theorem C19_errors_in_bounds (x : XTables) (inp : Input) (input : Nat) (stop : Bool) (k fuel : Nat)
    (r : XResult) (c : XCfg) (hm : ∀ i j, i ≤ j → (inp.tok i).off ≤ (inp.tok j).off)
    (h : xrun x inp input stop k fuel = (r, c)) (o e : Nat) (he : XEv.error o e ∈ c.evs) :
    o ≤ inp.endOff := by
  have hinv : ErrInv inp c := xrun_errInv hm h
  exact Nat.le_trans (hinv.bound o (mem_errOffs.2 ⟨e, he⟩)) (tok_off_le_endOff hm _)

/-- The `recovering` counter. `XIter x … c c' m` is a segment of the loop (`xrunLoop`) from `c` to `c'`
in which `m` iterations decode a shift action; `errCount` counts handler calls. With
Φ(c) = 4·errCount c − c.recovering: only a shift iteration increases Φ, by at most one (the handler
is called only when `recovering = 0` and then `recovering := 4`; only shifts decrement it). -/
theorem C19_recovering_counter (x : XTables) (inp : Input) (fin : Int) (stop : Bool) (k : Nat)
    (c c' : XCfg) (m : Nat) (h : XIter x inp fin stop k c c' m) (h4 : c.recovering ≤ 4) :
    c'.recovering ≤ 4 ∧ 4 * errCount c' + c.recovering ≤ 4 * errCount c + c'.recovering + m :=
  h.potential h4

/-- Between two handler calls at least four tokens are shifted: a segment of the loop that contains
two handler calls contains at least four shift iterations. -/
theorem C19_shifts_between_handler_calls (x : XTables) (inp : Input) (fin : Int) (stop : Bool) (k : Nat)
    (c c' : XCfg) (m : Nat) (h : XIter x inp fin stop k c c' m) (h4 : c.recovering ≤ 4)
    (h2 : errCount c + 2 ≤ errCount c') : 4 ≤ m := by
  have := h.potential h4
  omega

/-- `XIter` segments are exactly what `xrunLoop` runs through: a run is a segment followed by the
loop's exit (out of fuel, final state, or a last iteration returning a result ≠ accept). -/
theorem C19_run_is_iter (x : XTables) (inp : Input) (fin : Int) (stop : Bool) (k fuel : Nat) (c : XCfg) :
    ∃ c' m, XIter x inp fin stop k c c' m ∧
      (xrunLoop x inp fin stop k fuel c = (.fuel, c') ∨
       (c'.state = fin ∧ xrunLoop x inp fin stop k fuel c = (.accept, c')) ∨
       ∃ r cf, c'.state ≠ fin ∧ xstep x inp fin stop k c' = .done r cf ∧
         xrunLoop x inp fin stop k fuel c = (r, cf)) :=
  xrunLoop_iter ..

/-- an accepting run is one `XIter` segment from the start to the accepting configuration, so
`C19_recovering_counter` and `C19_shifts_between_handler_calls` speak about complete accepted runs -/
theorem C19_accepting_run_is_iter (x : XTables) (inp : Input) (fin : Int) (stop : Bool) (k fuel : Nat)
    (c cf : XCfg) (h : xrunLoop x inp fin stop k fuel c = (.accept, cf)) :
    ∃ m, XIter x inp fin stop k c cf m ∧ cf.state = fin :=
  xrunLoop_accept_iter h

/-! ### panic-freedom and termination of recovery

Hypotheses (both decidable, evaluated by the driver on the real tables of every sampled grammar,
`C19 xvalidate`): `certOk g x.t cert` (the C01 soundness certificate of the core tables) and
`xwf g x cert xc` (Model/LRXSafe.lean: report ranges inside the right-hand sides, gotos on the error
symbol respect `past`, every goto after a reduction is a state, and the rank certificate `xc`
bounding chains of reductions under a fixed lookahead). -/

/-- For certified tables the extended runtime with error recovery never panics: on every token
string (symbols are terminals other than EOI), for every input `i`, `stopOnError` flag, cancellation
point `k` and fuel, no index or slice expression of the generated parser is out of range — in the
main loop (`tmAction[state]`, `stack[len-ln:]`, `applyRule`'s report ranges and `fixTrailingWS`,
`gotoState`), in `recoverFromError` / `skipBrokenCode` (stack positions, gotos on the error symbol,
states taken from the stack) and in `reduceAll`'s simulated reductions on the copied stack — and
none of the internal loops of recovery runs out of the model's fuel (which the model reports as
`panic` too). -/
theorem C19_no_panic (g : Grammar) (x : XTables) (cert : Cert) (xc : XCert) (inp : Input)
    (i : Nat) (stop : Bool) (k fuel : Nat)
    (hc : certOk g x.t cert = true) (hx : xwf g x cert xc = true)
    (htok : ∀ tk ∈ inp.toks.toList, 0 < tk.sym ∧ tk.sym < (x.t.nTerms : Int))
    (hi : i < g.inputs.size) :
    (xrun x inp i stop k fuel).1 ≠ XResult.panic := by
  have hcf := certFacts hc
  have hxf := xFacts hx
  rw [xrun_certified hcf hi]
  exact xrunLoop_no_panic hcf hxf htok _ rfl stop k fuel _ (xinv_xinit (hxf.closed hcf) inp hi)

/-- Every configuration the loop reaches from the initial one satisfies the invariant `XInv`
(Proofs/LRXSafeStep.lean): the states on the stack form a path of transitions of the tables that
respects the `past` certificate, and `next` is the token before `pos`. -/
theorem C19_invariant_reachable (g : Grammar) (x : XTables) (cert : Cert) (xc : XCert) (inp : Input)
    (i : Nat) (fin : Int) (stop : Bool) (k : Nat) (c : XCfg) (m : Nat)
    (hc : certOk g x.t cert = true) (hx : xwf g x cert xc = true)
    (htok : ∀ tk ∈ inp.toks.toList, 0 < tk.sym ∧ tk.sym < (x.t.nTerms : Int))
    (hi : i < g.inputs.size) (hfin : x.t.finalStates[i]? = some fin)
    (h : XIter x inp fin stop k (xinit inp i) c m) :
    XInv g x cert i inp c :=
  h.inv (certFacts hc) (xFacts hx) htok (finOf_eq hfin)
    (xinv_xinit ((xFacts hx).closed (certFacts hc)) inp hi)

/-- Recovery's own loops terminate within the fuel the model gives them — their out-of-fuel
branches are unreachable: from any configuration `c` satisfying the invariant (all reachable ones
do, `C19_invariant_reachable`; so do the configurations recovery itself passes on),
* `skipBroken` returns the same result with any surplus fuel (each iteration consumes a token);
* `recoverLoop`, for any list `rp` of recovery positions as `recoverFromError` computes them,
  returns a result (`some …`, not the out-of-fuel/panic `none`) which does not depend on surplus
  fuel (every round but the first consumes a token);
* `reduceAllLoop` on any certified state stack — the calls recovery makes have this form — returns
  a result that does not depend on surplus fuel (the potential `weight · height + rank` of the certificate
  decreases with every simulated reduction).
The main loop's own fuel (chains of real reductions) is the subject of `C19_halts`. -/
theorem C19_recovery_terminates (g : Grammar) (x : XTables) (cert : Cert) (xc : XCert) (inp : Input)
    (i : Nat) (fin : Int) (c : XCfg)
    (hc : certOk g x.t cert = true) (hx : xwf g x cert xc = true)
    (htok : ∀ tk ∈ inp.toks.toList, 0 < tk.sym ∧ tk.sym < (x.t.nTerms : Int))
    (hrec : x.recovering = true) (hfin : x.t.finalStates[i]? = some fin)
    (hinv : XInv g x cert i inp c) :
    (∀ can e extra, skipBroken inp can (inp.toks.size + 2 + extra) c e =
        skipBroken inp can (inp.toks.size + 2) c e) ∧
    (∀ rp, RPOk x c.stack rp → ∀ syms s e, ∃ res, ∀ extra,
        recoverLoop x inp fin rp (inp.toks.size + 3 + extra) c syms s e = some res) ∧
    (∀ (q : Nat) (sts : List Nat) (syms : List Int) (a : Nat), StOk g x cert i (q :: sts) syms →
        a < x.t.nTerms → ∃ b, ∀ extra,
        reduceAllLoop x a fin (4 * ((sts.map Int.ofNat).length + x.t.nStates + 4) + extra)
          (sts.map Int.ofNat) [(q : Int)] q = some b) := by
  have hcf := certFacts hc
  have hxf := xFacts hx
  have hfi := finOf_eq hfin
  refine ⟨?_, ?_, ?_⟩
  · intro can e extra
    obtain ⟨_, _, _, _, _, _, hn⟩ := hinv
    obtain ⟨_, _, _, h, _⟩ := skipBroken_spec inp can (inp.toks.size + 2) c e hn (Nat.le_add_left 1 _)
      (Nat.le_trans (Nat.le_succ _) (Nat.le_add_right _ _))
    rw [h extra, ← h 0]
  · intro rp hrp syms s e
    obtain ⟨res, _, hres⟩ := recoverLoop_total hcf hxf hrec htok fin hfi rp (inp.toks.size + 3) c syms s e
      hinv hrp (Nat.le_add_left 1 _) (Nat.le_trans (Nat.le_add_right _ 2) (Nat.le_add_right _ _))
      (Or.inr (Nat.le_trans (Nat.le_succ _) (Nat.le_add_right _ _)))
    exact ⟨res, hres⟩
  · intro q sts syms a hst ha
    obtain ⟨b, _, hb, _⟩ := reduceAll_total hcf hxf ha fin hfi hst
    exact ⟨b, hb⟩

/-- Halting, recovery included: for certified tables (`certOk`, `xwf`, and `xhaltOk`: from a
reachable state other than the final one EOI is shifted into the final state only) the extended
loop needs at most `(2·|w| + 2) · (4 · nStates + 12 + weight)` iterations on a token string `w`:
with more fuel than that the model never answers `fuel` — by `C19_no_panic` every run ends with
accept, a syntax error, or cancellation. The potential
`W · (2 · (tokens left) + [not committed]) + weight · (stack height) + rank i (next token) (top state)`
decreases with every iteration: a reduction lowers `weight · height + rank`; a shift consumes a
token (a shift of EOI enters the final state); an error iteration calls recovery, which never
gives tokens back, leaves a stack no higher than before plus one entry, and hands back a
COMMITTED configuration — `reduceAll` has simulated the reductions under the next token down to a
shift, the real loop then performs exactly these reductions, so the next error needs a token to be
consumed first. -/
theorem C19_halts (g : Grammar) (x : XTables) (cert : Cert) (xc : XCert) (inp : Input)
    (i : Nat) (stop : Bool) (k fuel : Nat)
    (hc : certOk g x.t cert = true) (hx : xwf g x cert xc = true) (hh : xhaltOk g x cert = true)
    (htok : ∀ tk ∈ inp.toks.toList, 0 < tk.sym ∧ tk.sym < (x.t.nTerms : Int))
    (hi : i < g.inputs.size)
    (hfuel : (2 * inp.toks.size + 2) * (4 * x.t.nStates + 12 + xc.weight) < fuel) :
    (xrun x inp i stop k fuel).1 ≠ XResult.fuel := by
  have hcf := certFacts hc
  have hxf := xFacts hx
  have hinv := xinv_xinit (g := g) (hxf.closed hcf) inp hi
  rw [xrun_certified hcf hi]
  exact xrunLoop_halts hcf hxf (haltFacts hh) htok _ rfl stop k fuel _ false hinv
    (fun h => nomatch h) (Nat.lt_of_le_of_lt (xpsi_xinit_le hcf hxf htok hinv) hfuel)

/-! ### non-vacuity

Tables of a parser generated by the real toolchain for a random grammar with recovery rules (taken
from a case of `./check C19`: 9 terminals, `error` = 8, recovery tokens {2, 6}, default encoding);
the model's output on both inputs below equals the real parser's (that is what `./check C19` compares). -/

private def rT : Tables :=
  { nTerms := 9,
    action := #[-1,-1,8,4,-1,1,-3,6,-1,-1,-1,-1,7,0,2,5,-2],
    lalr := #[3,-1,4,-1,0,3,2,3,6,3,-1,-2],
    goto_ := #[0,2,2,6,8,10,20,22,32,40,44,52,60,70],
    fromTo := #[4,16,4,9,8,9,6,10,6,11,0,1,1,1,9,1,10,1,11,1,8,12,0,2,1,2,9,2,10,2,11,2,0,3,1,3,9,3,10,
      3,0,4,1,8,0,5,1,5,9,13,10,14,0,6,1,6,9,6,10,6,0,7,1,7,9,7,10,7,11,15],
    ruleLen := #[3,1,3,1,1,3,1,3,1], ruleSymbol := #[9,9,10,10,10,11,11,12,12], finalStates := #[16] }
private def rX : XTables :=
  { t := rT, rules := #[{ruleType := 1}, {ruleType := 2}, {ruleType := 3}, {ruleType := 4}, {ruleType := 9},
      {ruleType := 5}, {ruleType := 6}, {ruleType := 7}, {ruleType := 8}],
    recovering := true, errSym := 8, afterErr := [2, 6] }
/-- a sentence of the grammar -/
private def goodInp : Input := { toks := #[⟨7,0,1⟩,⟨2,1,2⟩,⟨7,2,3⟩,⟨2,3,4⟩,⟨7,4,5⟩], endOff := 5 }
/-- a broken input on which the parser recovers twice and accepts -/
private def badInp : Input :=
  { toks := #[⟨5,0,1⟩,⟨6,1,2⟩,⟨4,2,3⟩,⟨5,3,4⟩,⟨5,4,5⟩,⟨3,5,6⟩,⟨4,6,7⟩], endOff := 7 }

private theorem goodRun : rX.recovering = true ∧ (xrun rX goodInp 0 false 0 100).1 = .accept ∧
    (xrun rX goodInp 0 false 0 100).2.evs.length = 12 ∧
    (∀ e ∈ (xrun rX goodInp 0 false 0 100).2.evs, e.isError = false) := by
  decide +kernel

/-- the hypotheses of `C19_recovery_transparent_run` hold for a recovering parser on a sentence
(12 listener calls, no handler call, accepted) … -/
example : rX.recovering = true ∧ (xrun rX goodInp 0 false 0 100).1 = .accept ∧
    (xrun rX goodInp 0 false 0 100).2.evs.length = 12 ∧
    (∀ e ∈ (xrun rX goodInp 0 false 0 100).2.evs, e.isError = false) :=
  goodRun

/-- … so the theorem applies: the non-recovering parser makes the same run -/
example : xrun { rX with recovering := false } goodInp 0 false 0 100 = xrun rX goodInp 0 false 0 100 :=
  (C19_recovery_transparent_run rX goodInp 0 false 0 100 (xrun rX goodInp 0 false 0 100).1
    (xrun rX goodInp 0 false 0 100).2 (Prod.eta _).symm
    (fun _ _ hm => nomatch goodRun.2.2.2 _ hm)).trans (Prod.eta _)

private theorem badRun : (xrun rX badInp 0 false 0 100).1 = .accept ∧
    errOffs (xrun rX badInp 0 false 0 100).2.evs = [5, 1] := by
  decide +kernel
private theorem badMono : monoToksB badInp = true := by decide +kernel

/-- the conclusion of transparency fails as soon as the handler is called: on the broken input the
recovering parser accepts and the non-recovering one stops at the first error -/
example : (xrun rX badInp 0 false 0 100).1 = .accept ∧
    (xrun { rX with recovering := false } badInp 0 false 0 100).1 = .syntaxError 1 2 :=
  ⟨badRun.1, by decide +kernel⟩

/-- the hypothesis of the monotonicity theorems holds for the broken input, two errors are reported
(offsets 1 then 5, most recent first), inside the input of length 7 -/
example : monoToksB badInp = true ∧ errOffs (xrun rX badInp 0 false 0 100).2.evs = [5, 1] :=
  ⟨badMono, badRun.2⟩

example : ∀ o e, XEv.error o e ∈ (xrun rX badInp 0 false 0 100).2.evs → o ≤ 7 :=
  C19_errors_in_bounds rX badInp 0 false 0 100 (xrun rX badInp 0 false 0 100).1
    (xrun rX badInp 0 false 0 100).2 (monoToks_of_check badMono) (Prod.eta _).symm

/-- `C19_shifts_between_handler_calls` applies to that run: it is a segment from `xinit` with two
handler calls, hence with at least four shift iterations -/
example : ∃ c' m, XIter rX badInp 16 false 0 (xinit badInp 0) c' m ∧ errCount c' = 2 ∧ 4 ≤ m := by
  have hrun : xrun rX badInp 0 false 0 100 = xrunLoop rX badInp 16 false 0 100 (xinit badInp 0) := rfl
  have hacc : (xrunLoop rX badInp 16 false 0 100 (xinit badInp 0)).1 = .accept := hrun ▸ badRun.1
  have hcnt : errCount (xrunLoop rX badInp 16 false 0 100 (xinit badInp 0)).2 = 2 :=
    hrun ▸ congrArg List.length badRun.2
  obtain ⟨m, hi, _⟩ := xrunLoop_accept_iter (x := rX) (inp := badInp) (fin := 16) (stop := false) (k := 0)
    (fuel := 100) (c := xinit badInp 0) (cf := (xrunLoop rX badInp 16 false 0 100 (xinit badInp 0)).2)
    (hacc ▸ (Prod.eta _).symm)
  exact ⟨_, m, hi, hcnt,
    C19_shifts_between_handler_calls rX badInp 16 false 0 (xinit badInp 0) _ m hi (Nat.zero_le 4)
      (Nat.le_of_eq hcnt.symm)⟩

/-! Non-vacuity of `C19_no_panic` / `C19_recovery_terminates`: real tables of the toolchain for
`S : 't2' S | %empty | error 't4'` (6 terminals, `error` = 5, recovery token {4}, optimized
encoding; a `C19 xvalidate` case). Both certificates check, the broken input `t2 t3 t3 t4` makes
the handler fire and recovery skip two tokens, and the theorem applies. -/
private def sG : Grammar :=
  { nTerms := 6, nSyms := 7, rules := #[⟨6, [2, 6], 0⟩, ⟨6, [], 0⟩, ⟨6, [5, 4], 0⟩], inputs := #[⟨6, true⟩] }
private def sT : Tables :=
  { nTerms := 6, action := #[-3,-11,-1,0,2,-1,-2], lalr := #[2,-1,5,-1,0,1,-1,-2,2,-1,5,-1,0,1,-1,-2], goto_ := #[0,2,2,6,6,8,12,16], fromTo := #[5,6,0,1,1,1,2,4,0,2,1,2,0,5,1,3], ruleLen := #[2,0,2], ruleSymbol := #[6,6,6], finalStates := #[6], optimized := true, oDefGoto := #[-1], oGoto := #[3], oDefAct := #[-1,-1,-1,0,2,-1,-1], oAction := #[0,0,-3,-6,-6,6,-6], oBase := -6, oTable := #[1,-6,-3,5,3,-4,-8], oCheck := #[0,4,2,0,1,5,0] }
private def sX : XTables :=
  { t := sT, rules := #[{ruleType := 1}, {ruleType := 2}, {ruleType := 3}], recovering := true, errSym := 5, afterErr := [4] }
private def sCert : Cert :=
  { past := #[[], [2], [5], [6, 2], [4, 5], [6], [0, 6]], reach := #[[6, 4, 3, 5, 2, 1, 0]] }
private def sXC : XCert :=
  { weight := 1, rank := #[#[#[4, 4, 0, 2, 2, 2, 0], #[0, 0, 0, 0, 0, 0, 0], #[0, 0, 0, 0, 0, 0, 0], #[0, 0, 0, 0, 0, 0, 0], #[0, 0, 0, 0, 0, 0, 0], #[0, 0, 0, 0, 0, 0, 0]]] }
private def sBad : Input := { toks := #[⟨2,0,1⟩, ⟨3,1,2⟩, ⟨3,2,3⟩, ⟨4,3,4⟩], endOff := 4 }

private theorem sCertOk : certOk sG sX.t sCert = true := by decide +kernel
private theorem sXwf : xwf sG sX sCert sXC = true := by decide +kernel
private theorem sTokOk : ∀ tk ∈ sBad.toks.toList, 0 < tk.sym ∧ tk.sym < (sX.t.nTerms : Int) := by
  decide +kernel

example : certOk sG sT sCert = true ∧ xwf sG sX sCert sXC = true ∧ sX.recovering = true ∧
    (∀ tk ∈ sBad.toks.toList, 0 < tk.sym ∧ tk.sym < (sX.t.nTerms : Int)) ∧
    (xrun sX sBad 0 false 0 100).1 = .accept ∧ errOffs (xrun sX sBad 0 false 0 100).2.evs = [1] :=
  ⟨sCertOk, sXwf, rfl, sTokOk, by decide +kernel, by decide +kernel⟩

example : (xrun sX sBad 0 false 0 100).1 ≠ XResult.panic :=
  C19_no_panic sG sX sCert sXC sBad 0 false 0 100 sCertOk sXwf sTokOk (Nat.zero_lt_one)

/-- `C19_recovery_terminates` at the initial configuration of that run -/
example : ∀ extra, skipBroken sBad (fun _ => false) (sBad.toks.size + 2 + extra) (xinit sBad 0) 0 =
    skipBroken sBad (fun _ => false) (sBad.toks.size + 2) (xinit sBad 0) 0 :=
  fun extra => (C19_recovery_terminates sG sX sCert sXC sBad 0 6 (xinit sBad 0) sCertOk sXwf sTokOk rfl
    rfl (C19_invariant_reachable sG sX sCert sXC sBad 0 6 false 0 _ 0 sCertOk sXwf sTokOk
      Nat.zero_lt_one rfl (.refl _))).1 _ 0 extra

/-- `C19_halts` on the broken input above: 10 · 41 = 410 iterations suffice -/
example : (xrun sX sBad 0 false 0 411).1 ≠ XResult.fuel :=
  C19_halts sG sX sCert sXC sBad 0 false 0 411 sCertOk sXwf (by decide +kernel) sTokOk
    Nat.zero_lt_one (by decide +kernel)

end TmVerif.LRX
