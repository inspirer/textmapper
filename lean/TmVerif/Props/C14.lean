/-
C14 — template instantiation preserves meaning.

Meaning is `Der imp g N env w` (`Model/Templates.lean`): template `N` derives `w` under the parameter values `env`,
where `imp` says what a parameter without an argument is bound to (`srcImp`: source level, `laImp`: after
loading, `noImp`: after lookahead propagation). Each stage of `compileParser`'s template pipeline keeps it:
predicate evaluation, argument resolution, lookahead propagation (under the certificate `propCertB`, relating
environments by `EnvRel`, `Proofs/TemplatesLA.lean`), instantiation (under `NoDead`, `Proofs/Templates.lean`),
and the pipeline end to end.
-/
import TmVerif.Proofs.TemplatesLA
namespace TmVerif.C14
open TmVerif.CFG TmVerif.Templates

/-- Predicate evaluation of the instantiator (`check`, with its early returns and its
`log.Fatal` on an unbound parameter = `none`) is the boolean semantics of `!`, `&&`, `||`,
`==`, `!=` under the parameters bound in the instance. -/
theorem C14_check_eval (ctx : Bound) (p : Pred) (b : Bool) (h : check ctx p = some b) :
    p.eval (envOf ctx) = b :=
  check_eval ctx p b h

/-- … and it is defined whenever every parameter the predicate mentions is bound. -/
theorem C14_check_defined (ctx : Bound) (p : Pred) (h : ∀ q ∈ p.params, (lookupB ctx q).isSome) :
    ∃ b, check ctx p = some b ∧ p.eval (envOf ctx) = b := by
  obtain ⟨b, hb⟩ := Option.isSome_iff_exists.1 (check_isSome ctx p h)
  exact ⟨b, hb, check_eval ctx p b hb⟩

-- non-vacuity: `[A && !B || B == "x"]` under A = true, B = false
example : check [(0, 1), (1, 0)] (.or [.and [.eq 0 1, .not (.eq 1 1)], .eq 1 2]) = some true := by decide
example : check [(0, 1)] (.or [.eq 0 1, .eq 7 1]) = some true := by decide   -- early return: 7 is never looked up
example : check [(0, 0)] (.or [.eq 0 1, .eq 7 1]) = none := by decide         -- the Go code would call log.Fatal

/-- The full statement: every instantiated nonterminal derives exactly what its template derives
under the instance's parameter values. -/
def C14_instantiate_lang_full : Prop :=
  ∀ (g : TGrammar) (fuel : Nat) (insts : List Inst) (G : Grammar),
    instantiate g fuel = some (insts, G) →
    ∀ i it, insts[i]? = some it → ∀ w,
      (Derives G (g.nTerms + i) w ↔ Der noImp g it.nt (envOf it.args) w)

/-- What is proved: the full statement for grammars in which no reachable instance has ALL its
alternatives disabled (`NoDead`, decidable: `deadInst`). Nonterminal `nTerms + i` of the
instantiated grammar is instance `i` = (template `it.nt`, argument values `it.args`). -/
theorem C14_instantiate_lang_partial (g : TGrammar) (fuel : Nat) (insts : List Inst) (G : Grammar)
    (h : instantiate g fuel = some (insts, G)) (hd : NoDead g insts)
    (i : Nat) (it : Inst) (hi : insts[i]? = some it) (w : List Nat) :
    Derives G (g.nTerms + i) w ↔ Der noImp g it.nt (envOf it.args) w := by
  obtain ⟨rs, ins, hr, _, rfl⟩ := instantiate_spec h
  exact ⟨fun hder => (derives_to_der hr hd hder).2 i it rfl hi,
    fun hder => der_to_derives hr hder i it hi rfl rfl⟩

/-- non-vacuity: `%flag V; N0: 'a' B<+V> | 'b' B<~V>; B<V>: [V] 'c' | 'a';` instantiates, no instance is dead -/
def liveExample : TGrammar :=
  { nTerms := 4, params := [{ name := 0 }],
    nts := [⟨[], [⟨none, [.t 1, .n 1 [⟨0, .value 1⟩]]⟩, ⟨none, [.t 2, .n 1 [⟨0, .value 0⟩]]⟩]⟩,
            ⟨[0], [⟨some (.eq 0 1), [.t 3]⟩, ⟨none, [.t 1]⟩]⟩],
    inputs := [(0, true)] }

example : ∃ insts G, instantiate liveExample 10 = some (insts, G) ∧ NoDead liveExample insts :=
  ⟨[⟨0, []⟩, ⟨1, [(0, 1)]⟩, ⟨1, [(0, 0)]⟩], _, rfl, by unfold NoDead; decide⟩

/-- The hypothesis cannot be dropped, and this is a defect of the real code, not of the model: for
`%flag V; N0: 'a' B<+V> | 'b' B<~V>; B<V>: [V] 'c';` the instance `B` with `V = false` has no enabled
alternative; `doExpr` turns its value into `Empty`, so it derives the empty string, while the
template derives nothing under `V = false`. (The real compiler accepts `b` for this grammar.) -/
def deadWitness : TGrammar :=
  { nTerms := 4, params := [{ name := 0 }],
    nts := [⟨[], [⟨none, [.t 1, .n 1 [⟨0, .value 1⟩]]⟩, ⟨none, [.t 2, .n 1 [⟨0, .value 0⟩]]⟩]⟩,
            ⟨[0], [⟨some (.eq 0 1), [.t 3]⟩]⟩],
    inputs := [(0, true)] }

/-- the instances of `deadWitness`; the third, `B` with `V = false`, is the dead one -/
def deadInsts : List Inst := [⟨0, []⟩, ⟨1, [(0, 1)]⟩, ⟨1, [(0, 0)]⟩]

/-- the instantiated grammar of `deadWitness`: the dead instance (symbol 6) has the one empty rule -/
def deadPlain : Grammar :=
  plain deadWitness deadInsts [⟨4, [1, 5], 0⟩, ⟨4, [2, 6], 0⟩, ⟨5, [3], 0⟩, ⟨6, [], 0⟩] [⟨4, true⟩]

theorem deadWitness_inst : instantiate deadWitness 10 = some (deadInsts, deadPlain) := by rfl

theorem deadPlain_eps : Derives deadPlain 6 [] :=
  Derives.rule ⟨6, [], 0⟩ [] (by simp [deadPlain, plain]) DerivesSeq.nil

/-- the template `B` derives nothing when `V` is false -/
theorem deadWitness_B {e : Env} (he : e 0 = 0) {w : List Nat} : ¬ Der noImp deadWitness 1 e w := by
  intro h
  obtain ⟨_, _, hnt, ha, hen, _⟩ := h.inv
  cases hnt
  cases List.mem_singleton.1 ha
  simp [Alt.enabled, Pred.eval, he] at hen

theorem C14_dead_instance_counterexample : ¬ C14_instantiate_lang_full := fun hfull =>
  deadWitness_B (e := envOf [(0, 0)]) rfl
    ((hfull deadWitness 10 _ _ deadWitness_inst 2 ⟨1, [(0, 0)]⟩ rfl []).mp deadPlain_eps)

/-- … and the same grammar as a sentence: the instantiated grammar of the witness accepts `b`
(terminal 2) from its input, the templates do not. -/
theorem C14_dead_instance_sentence :
    ∃ insts G, instantiate deadWitness 10 = some (insts, G) ∧ Sentence G 0 [2] ∧
      ¬ Der noImp deadWitness 0 env0 [2] := by
  refine ⟨deadInsts, deadPlain, deadWitness_inst, ⟨⟨4, true⟩, by decide, ?_⟩, fun hder => ?_⟩
  · exact Derives.rule ⟨4, [2, 6], 0⟩ ([2] ++ ([] ++ [])) (by simp [deadPlain, plain])
      (DerivesSeq.cons 2 [6] [2] _ (Derives.term 2 (by decide))
        (DerivesSeq.cons 6 [] [] [] deadPlain_eps DerivesSeq.nil))
  · obtain ⟨_, _, hnt, ha, _, hseq⟩ := hder.inv
    cases hnt
    rcases List.mem_cons.1 ha with rfl | ha
    · obtain ⟨v, hv, _, _⟩ := hseq.t_inv
      cases hv
    · cases List.mem_singleton.1 ha
      obtain ⟨v, hv, _, hrest⟩ := hseq.t_inv
      obtain ⟨u, v', _, hB, _⟩ := hrest.n_inv
      exact deadWitness_B rfl hB

/-- Inputs: input `k` of the instantiated grammar is the instance of the input nonterminal with NO
bound parameter, so its sentences are what the template derives with every parameter unset
(`env0`; whatever the nonterminals below need was made explicit by `resolveRef` from defaults,
see `C14_resolved_args_sound`). -/
theorem C14_inputs_use_defaults (g : TGrammar) (fuel : Nat) (insts : List Inst) (G : Grammar)
    (h : instantiate g fuel = some (insts, G)) (hd : NoDead g insts)
    (k : Nat) (i : Nat × Bool) (hk : g.inputs[k]? = some i) (w : List Nat) :
    (∃ inp, G.inputs[k]? = some inp ∧ inp.eoi = i.2) ∧
    (Sentence G k w ↔ Der noImp g i.1 env0 w) := by
  obtain ⟨rs, ins, _, hp, rfl⟩ := instantiate_spec h
  obtain ⟨j, hj, hij⟩ := plainInputs_get hp k i hk
  have hG : (plain g insts rs ins).inputs[k]? = some ⟨g.nTerms + j, i.2⟩ := by
    simpa [plain] using hj
  have hlang := C14_instantiate_lang_partial g fuel insts _ h hd j ⟨i.1, []⟩ hij w
  rw [envOf_nil] at hlang
  refine ⟨⟨_, hG, rfl⟩, ?_, fun hder => ⟨_, hG, hlang.mpr hder⟩⟩
  rintro ⟨inp, hinp, hder⟩
  rw [hG] at hinp
  cases hinp
  exact hlang.mp hder

/-- Arguments (`resolveRef`, `sortArgs`): the loaded model, in which every declared parameter of a
referenced nonterminal has an explicit argument (taken from the caller's parameter of the same NAME,
otherwise the parameter's DEFAULT), means what the source means under the rule "same-named parameter of
the caller, else the default" (`srcImp`), for every nonterminal and every valuation. -/
theorem C14_resolved_args_sound (src m : TGrammar) (h : resolveAll src = some m)
    (N : Nat) (env : Env) (w : List Nat) :
    Der (srcImp src) src N env w ↔ Der (laImp m) m N env w :=
  resolveAll_sound h N env w

/-- `PropagateLookaheads`, the statement one would like: whenever the mirror `propagate` succeeds, the meaning of
every input is kept. Neither proved nor refuted here: `C14_propagate_args_sound_partial` replaces the hypothesis
`propagate q m = (.ok, m')` by the certificate and does not derive the certificate from it. -/
def C14_propagate_args_sound_full : Prop :=
  ∀ (q : Quirks) (m m' : TGrammar), propagate q m = (.ok, m') →
    ∀ (k : Nat) (i : Nat × Bool), m.inputs[k]? = some i → ∀ w,
      (Der (laImp m) m i.1 env0 w ↔ Der noImp m' i.1 env0 w)

/-- What is proved about lookahead propagation, for ANY pair `m`, `m'` (not only the mirror's output) that passes
the decidable certificate `propCertB m (laFlowFlags m) m'`. The driver requires the certificate on every `inst`
case (a compiled grammar whose certificate fails is reported as a disagreement; the `instq` cases, the input class
of finding C14-la-entry-shortcircuit, are compared without it).
`m'` differs from `m` only by lookahead parameters added to nonterminals and by arguments `p := p`
(on the first symbol of an alternative, where the flag flows implicitly) and `p := false` (where it does
not flow, or the caller does not have it) — these leave the meaning unchanged when an unset lookahead flag
is `false`. WHICH nonterminals receive a flag is not derived from the worklist of the mirror; it is only
checked through the certificate (the sets `laFlowFlags m` — where a flag can flow to a user through first
symbols — serve as the witness). General form: any two environments related by `EnvRel` give the same language. -/
theorem C14_propagate_args_sound_partial (m m' : TGrammar) (hcert : propCertB m (laFlowFlags m) m' = true)
    (N : Nat) (nt' : Nonterm) (hN : m'.nts[N]? = some nt') (e e' : Env)
    (hR : EnvRel m (Fof (laFlowFlags m) N) nt'.params e e') (w : List Nat) :
    Der (laImp m) m N e w ↔ Der noImp m' N e' w :=
  ⟨propagate_forward hcert ⟨nt', hN, hR⟩, propagate_backward hcert ⟨nt', hN, hR⟩⟩

/-- End to end (`compileParser`'s template pipeline: load, propagate lookahead flags, instantiate): the
sentences of input `k` of the instantiated plain grammar are exactly what the input nonterminal's template
derives at SOURCE level with nothing bound: parameters of the nonterminals below come from explicit
arguments, from the caller's parameter of the same name, or from their DEFAULTS; lookahead flags are
`false` unless passed. The propagation certificate is a hypothesis (third component of `compile` being `true`;
required by the driver on every `inst` case). `NoDead` is not: the model `m'` it speaks of is the output of `propagate`,
which the statement can only name existentially, so the conclusion is "there is `m'`, the propagated model the
instances `insts` were collected from (second conjunct), such that IF no instance of `m'` in `insts` is dead
THEN the sentences agree" (see `C14_dead_instance_counterexample` for why the condition is needed). -/
theorem C14_pipeline_inputs_use_defaults (q : Quirks) (src : TGrammar) (fuel : Nat) (insts : List Inst) (G : Grammar)
    (h : compile q src fuel = (.ok, some (insts, G), true))
    (k : Nat) (i : Nat × Bool) (hk : src.inputs[k]? = some i) (w : List Nat) :
    ∃ m', (NoDead m' insts → (Sentence G k w ↔ Der (srcImp src) src i.1 env0 w)) ∧
      (∃ m, resolveAll src = some m ∧ propagate q m = (.ok, m') ∧ instantiate m' fuel = some (insts, G)) := by
  obtain ⟨m, m', hr, hp, hi, hcert⟩ := compile_ok h
  refine ⟨m', fun hd => ?_, m, hr, hp, hi⟩
  obtain ⟨hin, hcm⟩ := propagate_ok_spec hp
  have hk' : m'.inputs[k]? = some i := by rw [hin, (resolveAll_spec hr).2.2.1]; exact hk
  -- the input nonterminal has no parameters in `m'`, so `env0` is related to itself
  obtain ⟨nt', hnt, hnp⟩ := checkModel_inputs hcm (List.mem_of_getElem? hk')
  have hR : EnvRel m (Fof (laFlowFlags m) i.1) nt'.params env0 env0 := by rw [hnp]; exact envRel_env0 _
  exact (C14_inputs_use_defaults m' fuel insts G hi hd k i hk' w).2.trans
    ((C14_propagate_args_sound_partial m m' hcert i.1 nt' hnt env0 env0 hR w).symm.trans
      (resolveAll_sound hr i.1 env0 w).symm)

/-- non-vacuity: `%lookahead flag L; %flag A = true; N0: N1<+L> 'a' | 'b' N1 ; N1<A>: [L && A] 'c' | 'a';`
goes through the whole pipeline with a valid certificate and without dead instances. -/
def pipelineExample : TGrammar :=
  { nTerms := 4, params := [{ name := 0, la := true }, { name := 1, dflt := some 1 }],
    nts := [⟨[], [⟨none, [.n 1 [⟨0, .value 1⟩], .t 1]⟩, ⟨none, [.t 2, .n 1 []]⟩]⟩,
            ⟨[1], [⟨some (.and [.eq 0 1, .eq 1 1]), [.t 3]⟩, ⟨none, [.t 1]⟩]⟩],
    inputs := [(0, true)] }

example : ∃ insts G, compile ⟨true, true⟩ pipelineExample 20 = (.ok, some (insts, G), true) ∧
    insts = [⟨0, []⟩, ⟨1, [(1, 1), (0, 1)]⟩, ⟨1, [(1, 1), (0, 0)]⟩] ∧
    G.rules.toList = [⟨4, [5, 1], 0⟩, ⟨4, [2, 6], 0⟩, ⟨5, [3], 0⟩, ⟨5, [1], 0⟩, ⟨6, [1], 0⟩] :=
  ⟨_, _, rfl, rfl, rfl⟩

end TmVerif.C14
