import TmVerif.Proofs.ExpandMain
/-!
C13 — Desugaring the extended notation preserves the language: the property theorems, the Bool form of
their side condition (`setsOk_of_bool`) and the witness grammars of the examples and of the counterexample.

Model: `TmVerif/Model/Expand.lean` — `Expr` (the kinds of `syntax.Expr`), the denotation `den sets ρ e`
(`⟦e⟧ρ`, a set of terminal strings over an environment `ρ` of symbol languages; `sets i` = the terminals
of token set `i`; lookahead markers / commands / state markers denote `ε`, wrappers their body), and the
executable mirror of `expandExpr` / `extractNonterm` / the list, optional, set and lookahead rules /
rule flattening (`plainRules`, `toGrammar`).

The language an extended grammar denotes, `ExtLang g i`, is the LEAST solution of the system
`N_i ⊇ ⟦e_i⟧` (intersection of all environments closed under it; `C13_extLang_least_solution`).
Derivations of the expanded grammar are `CFG.Derives (toGrammar g)`. The notions of the statements that are not
in the model file: `ExtLang`, `PreFix`, `TermEnv`, `SetsOk`, `SetsTerm` (`Proofs/ExpandMain.lean`), `Consistent`,
`StOk` (`Proofs/ExpandShape.lean`), `listStep`, `listDen` (`Proofs/ExpandLang.lean`).

Hypotheses of the sentence theorem, all decidable and checked by the driver on every `struct` case
(`wfGrammar`: what `compiler/syntax.go` guarantees — references and set indices in range, separators
are sequences of references (`convertSeparator` makes them of terminals), `%prec` only around a whole rule;
`SetsOk`: every set resolves to at least one terminal, and only to terminals; the cases the harness tags as of
the known empty-set class skip `SetsOk` and are only compared). Non-emptiness is a REAL restriction:
`ResolveSets` turns an empty set into an empty rule, see `C13_empty_set_counterexample`.
-/
namespace TmVerif.Expand
open TmVerif.CFG

/-- `expandExpr` preserves the language: in every environment `ρ` that binds each extracted
nonterminal (old and new) to the language of its defining expression, the union of the languages of
the produced alternatives is `⟦e⟧ρ`. No hypothesis on `e`. -/
theorem C13_expandExpr_lang (cx : Ctx) (curr : String) (ext : List NT) (e : Expr) (ρ : Nat → Lang)
    (hρ : Consistent cx ρ (expandExpr cx curr ext e).2) (w : List Nat) :
    (∃ a ∈ (expandExpr cx curr ext e).1, den cx.sets ρ a w) ↔ den cx.sets ρ e w :=
  iff_of_eq (congrFun ((expandExpr_run cx curr e ext).lang ρ hρ) w)

/-- Non-vacuity of the hypothesis of `C13_expandExpr_lang`: for a well-formed expression and a
well-shaped state such environments exist — any environment extends to one, without changing it on
terminals and user nonterminals. -/
theorem C13_expandExpr_env_exists (cx : Ctx) (curr : String) (ext : List NT) (e : Expr)
    (hw : wfExpr cx.base cx.setTerms.length e = true) (hst : StOk cx ext) (ρ : Nat → Lang) :
    ∃ ρ', Consistent cx ρ' (expandExpr cx curr ext e).2 ∧ ∀ s, s < cx.base → ρ' s = ρ s := by
  have h := extendEnv_spec ((expandExpr_run cx curr e ext).shape hw hst).1 ρ
  exact ⟨_, h.2.1, h.1⟩

-- the state `Expand` starts from is well-shaped
example : StOk { nT := 3, termNames := [], userNames := ["N"], setNames := [], setTerms := [] } [] :=
  StOk.nil _

/-- The list rules define `e (s e)*`: it is the LEAST solution of `L = L·s·e ∪ e` (left-recursive
rules) and of `L = e·s·L ∪ e` (right-recursive rules); `e*` is the least solution of the empty-base
forms `L = L·e ∪ ε` and `L = e·L ∪ ε`, and `e* = (e (ε e)*)?`, the optional of the non-empty form.
("Solution": the right-hand side is included in `L`; together with leastness this gives equality.) -/
theorem C13_list_lfp (E S : Lang) :
    -- left-recursive, non-empty
    (Lang.le E (Lang.sepIter E S) ∧
      Lang.le (Lang.cat (Lang.cat (Lang.sepIter E S) S) E) (Lang.sepIter E S) ∧
      ∀ L, Lang.le E L → Lang.le (Lang.cat (Lang.cat L S) E) L → Lang.le (Lang.sepIter E S) L) ∧
    -- right-recursive, non-empty
    (Lang.le (Lang.cat E (Lang.cat S (Lang.sepIter E S))) (Lang.sepIter E S) ∧
      ∀ L, Lang.le E L → Lang.le (Lang.cat E (Lang.cat S L)) L → Lang.le (Lang.sepIter E S) L) ∧
    -- empty base, left- and right-recursive
    (Lang.le Lang.eps (Lang.star E) ∧ Lang.le (Lang.cat (Lang.star E) E) (Lang.star E) ∧
      Lang.le (Lang.cat E (Lang.star E)) (Lang.star E) ∧
      (∀ L, Lang.le Lang.eps L → Lang.le (Lang.cat L E) L → Lang.le (Lang.star E) L) ∧
      (∀ L, Lang.le Lang.eps L → Lang.le (Lang.cat E L) L → Lang.le (Lang.star E) L)) ∧
    -- the empty-base form is the optional of the non-empty form
    Lang.union (Lang.sepIter E Lang.eps) Lang.eps = Lang.star E :=
  ⟨⟨sepIter_base E S, sepIter_left_closed E S, sepIter_left_least E S⟩,
   ⟨sepIter_right_closed E S, sepIter_right_least E S⟩,
   ⟨star_base E, star_left_closed E, star_right_closed E, star_left_least E, star_right_least E⟩,
   sepIter_eps_union E⟩

/-- The same in terms of the rules `synth` produces. `listStep ne rr L E S` is what the rules of a list
nonterminal denote when the nonterminal itself is bound to `L` (`synth_spec`, `stepDen`). For a list value of
the shape `expandExpr` extracts (`ne` or no separator), the denotation of the list is closed under that step
and is below every language closed under it. -/
theorem C13_list_rules_lfp (ne rr : Bool) (E S : Lang) (h : ne = true ∨ S = Lang.eps) :
    Lang.le (listStep ne rr (listDen ne E S) E S) (listDen ne E S) ∧
    ∀ L, Lang.le (listStep ne rr L E S) L → Lang.le (listDen ne E S) L :=
  ⟨list_closed ne rr E S h, fun L => list_least ne rr E S L h⟩

-- the side condition is a disjunction of two decidable facts about the list value; here its first form
example : (true = true ∨ (Lang.eps : Lang) = Lang.eps) := Or.inl rfl

/-- Reuse of an extracted nonterminal is sound: `extractNonterm` reuses a nonterminal only when
`Expr.Equal` holds, `Expr.Equal` implies equal denotation, and in every consistent environment the
reference `extract` returns denotes `⟦e⟧` (whether reused or new). -/
theorem C13_extract_reuse_sound :
    (∀ (a b : Expr), equal a b = true → ∀ sets ρ, den sets ρ a = den sets ρ b) ∧
    (∀ (cx : Ctx) (curr : String) (ext : List NT) (e : Expr) (ρ : Nat → Lang),
      Consistent cx ρ (extract cx curr ext e).2 →
      den cx.sets ρ (extract cx curr ext e).1 = den cx.sets ρ e) :=
  ⟨fun a b h sets ρ => by rw [equal_eq a b h], fun cx curr ext e ρ h =>
    (denAlts_singleton _ ρ _).symm.trans ((extract_run cx curr ext e).lang ρ h)⟩

/-- the environment of the extended semantics itself -/
def extEnv (g : ExtGrammar) : Nat → Lang :=
  fun s => if s < g.cx.nT then (fun w => w = [s]) else ExtLang g (s - g.cx.nT)

/-- `ExtLang` is a solution of the extended system and the least one (Knaster–Tarski; needs only
monotonicity of `⟦·⟧`). -/
theorem C13_extLang_least_solution (g : ExtGrammar) :
    TermEnv g.cx.nT (extEnv g) ∧ PreFix g (extEnv g) ∧
    ∀ ρ, TermEnv g.cx.nT ρ → PreFix g ρ → ∀ i, Lang.le (extEnv g (g.cx.nT + i)) (ρ (g.cx.nT + i)) := by
  have hle : ∀ ρ, TermEnv g.cx.nT ρ → PreFix g ρ → ∀ s, Lang.le (extEnv g s) (ρ s) := by
    intro ρ hρ hp s w hw
    by_cases hs : s < g.cx.nT
    · simp only [extEnv, hs, if_true] at hw
      rw [hρ s hs]; exact hw
    · simp only [extEnv, hs, if_false] at hw
      have := hw ρ hρ hp
      rwa [Nat.add_sub_of_le (Nat.not_lt.1 hs)] at this
  refine ⟨fun t ht => by simp [extEnv, ht], ?_, fun ρ hρ hp i => hle ρ hρ hp _⟩
  intro i e he w hw
  have : extEnv g (g.cx.nT + i) = ExtLang g i := by
    simp only [extEnv]
    rw [if_neg (Nat.not_lt.2 (Nat.le_add_right _ _)), Nat.add_sub_cancel_left]
  rw [this]
  intro ρ hρ hp
  exact hp i e he w (den_mono g.cx.sets (hle ρ hρ hp) e w hw)

/-- Derivations of the expanded grammar ↔ membership in the extended semantics, for every user
nonterminal (inputs included) and every terminal string. Partial: sets must be non-empty. -/
theorem C13_expand_preserves_sentences_partial (g : ExtGrammar) (hwf : wfGrammar g = true)
    (hsets : SetsOk g.cx) (i : Nat) (hi : i < g.cx.nU) (w : List Nat) :
    Derives (toGrammar g) (g.cx.nT + i) w ↔ ExtLang g i w :=
  derives_iff_extLang (facts_of_wf g hwf) hsets hi w

/-- the Bool form of `SetsOk` that the driver evaluates -/
theorem setsOk_of_bool (cx : Ctx) (h : setsOkB cx = true) : SetsOk cx := by
  intro i hi
  simp only [setsOkB, List.all_eq_true, Bool.and_eq_true, Bool.not_eq_true', decide_eq_true_eq] at h
  have hmem : cx.sets i ∈ cx.setTerms := by
    simp only [Ctx.sets]
    rw [List.getD_eq_getElem?_getD, List.getElem?_eq_getElem hi]
    simp
  obtain ⟨h1, h2⟩ := h _ hmem
  exact ⟨by intro h0; rw [h0] at h1; simp at h1, h2⟩

/-- the full statement: the same without the non-emptiness of sets -/
def C13_expand_preserves_sentences_full : Prop :=
  ∀ (g : ExtGrammar), wfGrammar g = true → SetsTerm g.cx → ∀ i, i < g.cx.nU → ∀ w,
    Derives (toGrammar g) (g.cx.nT + i) w ↔ ExtLang g i w

/-- non-vacuity: `N0: ('a' separator 'c')* set('a' | 'c')` satisfies the hypotheses -/
def exampleGrammar : ExtGrammar :=
  { cx := { nT := 3, termNames := ["Eoi", "A", "C"], userNames := ["N0"], setNames := ["setof_A_or_C"],
            setTerms := [[1, 2]] },
    user := [.seq [.list false false (.ref 1) (.ref 2), .set 0]] }

example : wfGrammar exampleGrammar = true ∧ SetsOk exampleGrammar.cx :=
  ⟨by decide, setsOk_of_bool _ (by decide)⟩

/-- the witness of the finding: `N0: 'a' set(<empty>) 'c'` over terminals eoi, 'a', 'c' -/
def emptySetGrammar : ExtGrammar :=
  { cx := { nT := 3, termNames := ["Eoi", "A", "C"], userNames := ["N0"], setNames := ["setof_A_C"],
            setTerms := [[]] },
    user := [.seq [.ref 1, .set 0, .ref 2]] }

theorem emptySetGrammar_rules : (toGrammar emptySetGrammar).rules.toList =
    [{ lhs := 3, rhs := [1, 4, 2] }, { lhs := 4, rhs := [] }] := by
  decide

/-- `[C13-empty-set]`: the full statement is FALSE. With an empty set the expanded grammar derives
`a c` (the set nonterminal got an empty rule), while the notation denotes no string at all. -/
theorem C13_empty_set_counterexample : ¬ C13_expand_preserves_sentences_full := by
  intro h
  have h0 := h emptySetGrammar (by decide) (fun i _ t ht => by cases i <;> exact nomatch ht) 0 (by decide) [1, 2]
  -- the expanded rules derive `a c`
  have hder : Derives (toGrammar emptySetGrammar) (emptySetGrammar.cx.nT + 0) [1, 2] := by
    have h4 : Derives (toGrammar emptySetGrammar) 4 [] :=
      Derives.rule { lhs := 4, rhs := [] } [] (by rw [emptySetGrammar_rules]; simp) DerivesSeq.nil
    have h1 : Derives (toGrammar emptySetGrammar) 1 [1] := Derives.term 1 (by decide)
    have h2 : Derives (toGrammar emptySetGrammar) 2 [2] := Derives.term 2 (by decide)
    have hs : DerivesSeq (toGrammar emptySetGrammar) [1, 4, 2] ([1] ++ ([] ++ ([2] ++ []))) :=
      DerivesSeq.cons 1 _ _ _ h1 (DerivesSeq.cons 4 _ _ _ h4 (DerivesSeq.cons 2 _ _ _ h2 DerivesSeq.nil))
    exact Derives.rule { lhs := 3, rhs := [1, 4, 2] } _ (by rw [emptySetGrammar_rules]; simp) hs
  -- but the extended notation denotes nothing, whatever the symbols are bound to (the set has no member): in the
  -- environment that binds every symbol `s` to `{[s]}` the system is solved and `N0` does not contain `a c`
  refine nomatch h0.1 hder (fun s w => w = [s]) (fun _ _ => rfl) fun i e he w hw => ?_
  match i, he with
  | 0, he =>
    cases he
    obtain ⟨_, _, _, ⟨_, _, ⟨t, ht, _⟩, _, _⟩, _⟩ := hw
    exact nomatch ht

end TmVerif.Expand
