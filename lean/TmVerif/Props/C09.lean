import TmVerif.Proofs.LexSound
/-!
C09 — Lexer tables implement longest match with rule priority (property theorems only).

Model: `Model/LexSpec.lean` (`scanSpec` = the property as a definition, the derivative matcher, the validator
`checkClasses`/`checkDfa`), `Model/LexTables.lean` (mirror of `lex.Tables.Scan`, shared with C24),
`Model/Regex.lean` (`Lang`, the denotation of C10).  Mode V: the outer quantifier (rule sets) is sampled — the real
`lex.Compile` output is validated case by case —, the inner one (all texts, all code points, all start conditions)
is closed by `C09_checkDfa_sound_partial`.

The pinned `Tables.Scan` looks the end-of-input column up once and never follows a transition found there, so
with a rule that can consume `{eoi}` it returns a meaningless negative action (`C09_checkDfa_sound_full_refuted`);
the full statement is therefore proved under the decidable hypothesis `noEoiShift` (no transition on end of
input in the tables) — exactly what the proof needs at the end of the text.
-/
namespace TmVerif.C09
open TmVerif.Charset TmVerif.Regex TmVerif.LexTables TmVerif.LexSpec

/-- One derivative step: `deriv s r` denotes the words `w` with `s·w` in the language of `r`. -/
theorem C09_deriv_step (s : Int) (r : Regex) (w : List Int) :
    Lang noExt (deriv s r) w ↔ Lang noExt r (s :: w) := deriv_correct s r w

/-- The executable matcher decides the language of C10's denotation (all expressions, all words; named
references denote nothing: the harness resolves them before the rules reach the model). -/
theorem C09_derivative_correct (r : Regex) (w : List Int) :
    Lang noExt r w ↔ nullable (derivs r w) = true := (matchesB_iff r w).symm

/-- The head normal form applied after every derivative step (by `scanSpec` and by the validator, to keep
the derivative paired with a DFA state unique) does not change the language. -/
theorem C09_norm_correct (r : Regex) (w : List Int) : Lang noExt (norm r) w ↔ Lang noExt r w := L_norm r w

/-- `emptyB` decides emptiness of the language exactly; with derivatives: a prefix `u` can be extended to a
word of `r` iff `emptyB (derivs r u) = false`. -/
theorem C09_emptiness_correct (r : Regex) (u : List Int) :
    emptyB (derivs r u) = false ↔ ∃ v, Lang noExt r (u ++ v) := by
  simp only [emptyB_false_iff, derivs_correct]

/-- The executable specification computes the property as stated with languages only (`ScanResult`: longest
non-empty prefix of `text·eoi` in the language of a rule active in `sc`, the matching rule of greatest
`Precedence` and, among those, first in rule order; otherwise action 0 and the longest prefix that is still a
prefix of a word of an active rule) — for all rule sets, start conditions and texts. -/
theorem C09_scanSpec_meets (rules : List Rule) (sc : Int) (chars : List (Int × Nat)) :
    ScanResult rules sc chars (scanSpec rules sc chars) := scanSpec_meets rules sc chars

/-- … and the relation has exactly one solution, so `ScanResult … res ↔ res = scanSpec …`. -/
theorem C09_scanResult_unique (rules : List Rule) (sc : Int) (chars : List (Int × Nat)) (res : Nat × Int) :
    ScanResult rules sc chars res ↔ res = scanSpec rules sc chars := by
  constructor
  · intro h
    exact resultOf_unique rules sc _ _ _ ((scanResult_iff ..).1 h) ((scanResult_iff ..).1 (scanSpec_meets rules sc chars))
  · rintro rfl; exact scanSpec_meets rules sc chars

/-- Example rule set: `aaaa` → 1, `a` → 2 (needs a backtracking checkpoint), with the tables `lex.Compile` returns. -/
def exRules : List Rule :=
  [⟨litSyms [97, 97, 97, 97], 0, 1, [0]⟩, ⟨litSyms [97], 0, 2, [0]⟩]

def exTables : Tables where
  scanBytes := false
  symbolMap := #[⟨0, 1⟩, ⟨97, 2⟩, ⟨98, 1⟩]
  numSymbols := 3
  stateMap := #[0]
  dfa := #[-2, -2, 1, -4, -4, -1, -2, -2, 3, -2, -2, 4, -3, -3, -3]
  backtrack := #[⟨2, 2⟩]

/-- Example with `{eoi}`: `a` → 2, `{eoi}` → 1, with the tables `lex.Compile` returns. -/
def eoiRules : List Rule :=
  [⟨litSyms [97], 0, 2, [0]⟩, ⟨.cc [(eoiSym, eoiSym)], 0, 1, [0]⟩]

def eoiTables : Tables where
  scanBytes := false
  symbolMap := #[⟨0, 1⟩, ⟨97, 2⟩, ⟨98, 1⟩]
  numSymbols := 3
  stateMap := #[0]
  dfa := #[2, -1, 1, -3, -3, -3, -2, -2, -2]
  backtrack := #[]

/-- If the tables are well formed (`Tables.wf`) and `checkClasses` passes, every code point `r` of the scanned
alphabet is mapped by `Scan`'s lookup to a class `c < NumSymbols` that has a representative `s`, and `r` and `s`
belong to exactly the same range lists of the rules — over all 0x110000 code points (256 bytes), decided by a
check linear in the symbol map. -/
theorem C09_checkClasses_sound (rules : List Rule) (t : Tables) (hwf : t.wf = true)
    (hc : checkClasses rules t = true) (r : Int) (h0 : 0 ≤ r) (h1 : r ≤ maxRune t.scanBytes) :
    ∃ c s, symOf t r = some c ∧ 0 ≤ c ∧ c < t.numSymbols ∧ repOf t c = some s ∧
      ∀ cs ∈ ruleSets rules, memB r cs = memB s cs :=
  checkClasses_sound rules t hwf hc r h0 h1

example : exTables.wf = true ∧ checkClasses exRules exTables = true ∧ (0 : Int) ≤ 97 ∧
    (97 : Int) ≤ maxRune exTables.scanBytes ∧ symOf exTables 97 = some 2 ∧ repOf exTables 2 = some 97 := by
  decide +kernel

/-- … and therefore has the same derivatives as its representative, for every expression built from the
range lists of the rules (in particular every derivative of a rule, `csSub_deriv`). -/
theorem C09_class_representative (rules : List Rule) (t : Tables) (hwf : t.wf = true)
    (hc : checkClasses rules t = true) (r : Int) (h0 : 0 ≤ r) (h1 : r ≤ maxRune t.scanBytes) :
    ∃ c s, symOf t r = some c ∧ repOf t c = some s ∧
      ∀ d, CsSub d (ruleSets rules) → deriv r d = deriv s d ∧ CsSub (deriv r d) (ruleSets rules) := by
  obtain ⟨c, s, h1, _, _, h4, h5⟩ := checkClasses_sound rules t hwf hc r h0 h1
  exact ⟨c, s, h1, h4, fun d hd => ⟨deriv_congr _ r s h5 d hd, csSub_deriv r d _ hd⟩⟩

/-- The full statement of the validator's soundness: for tables that pass `checkClasses` and `checkDfa`, the
mirror of `Tables.Scan` returns `scanSpec` for every start condition and every text. -/
def C09_checkDfa_sound_full : Prop :=
  ∀ (rules : List Rule) (t : Tables), checkClasses rules t = true → checkDfa rules t = true →
    ∀ (sc : Nat), sc < t.stateMap.size → ∀ (chars : List (Int × Nat)), CharsOk t chars →
      lexScanChars t (sc : Int) chars = some (scanSpec rules (sc : Int) chars)

/-- Proved part: the same under the hypothesis that the tables have no transition on end of input
(`noEoiShift`, decidable, evaluated by the harness on every table: it holds for every rule set in which no
`{eoi}` is reachable).  All start conditions, all texts (`CharsOk`: code points of the scanned alphabet with
positive widths, which is what a byte string decodes to, `C09_scan_text_partial`), with backtracking. -/
theorem C09_checkDfa_sound_partial (rules : List Rule) (t : Tables) (hc : checkClasses rules t = true)
    (hd : checkDfa rules t = true) (he : noEoiShift t = true) (sc : Nat) (hsc : sc < t.stateMap.size)
    (chars : List (Int × Nat)) (hok : CharsOk t chars) :
    lexScanChars t (sc : Int) chars = some (scanSpec rules (sc : Int) chars) :=
  scan_eq_spec rules t hc hd he sc hsc chars hok

example : checkClasses exRules exTables = true ∧ checkDfa exRules exTables = true ∧
    noEoiShift exTables = true ∧ 0 < exTables.stateMap.size ∧
    CharsOk exTables [(97, 1), (97, 1), (98, 1)] ∧
    lexScanChars exTables 0 [(97, 1), (97, 1), (98, 1)] = some (1, 2) := by
  refine ⟨by decide +kernel, by decide +kernel, by decide +kernel, by decide, ?_, by decide +kernel⟩
  intro c hc
  simp at hc
  rcases hc with rfl | rfl <;> decide

/-- Full form of the next theorem (without `noEoiShift`). -/
def C09_scan_text_full : Prop :=
  ∀ (rules : List Rule) (t : Tables), checkClasses rules t = true → checkDfa rules t = true →
    ∀ (sc : Nat), sc < t.stateMap.size → ∀ (text : List Nat), (∀ b ∈ text, b < 256) →
      lexScanChars t (sc : Int) (charsOf t.scanBytes text) =
        some (scanSpec rules (sc : Int) (charsOf t.scanBytes text))

/-- The statement for byte strings: in byte mode every byte is a character of width 1, in rune mode the text is
decoded as `utf8.DecodeRuneInString` does (invalid bytes are `U+FFFD` of width 1). -/
theorem C09_scan_text_partial (rules : List Rule) (t : Tables) (hc : checkClasses rules t = true)
    (hd : checkDfa rules t = true) (he : noEoiShift t = true) (sc : Nat) (hsc : sc < t.stateMap.size)
    (text : List Nat) (hb : ∀ b ∈ text, b < 256) :
    lexScanChars t (sc : Int) (charsOf t.scanBytes text) =
      some (scanSpec rules (sc : Int) (charsOf t.scanBytes text)) :=
  scan_eq_spec rules t hc hd he sc hsc _ (charsOk_charsOf t text hb)

/-- Full form of the next theorem (without `noEoiShift`). -/
def C09_scan_meets_property_full : Prop :=
  ∀ (rules : List Rule) (t : Tables), checkClasses rules t = true → checkDfa rules t = true →
    ∀ (sc : Nat), sc < t.stateMap.size → ∀ (chars : List (Int × Nat)), CharsOk t chars →
      ∃ res, lexScanChars t (sc : Int) chars = some res ∧ ScanResult rules (sc : Int) chars res

/-- The property itself for validated tables: what `Scan` returns is the `ScanResult` of the rules. -/
theorem C09_scan_meets_property_partial (rules : List Rule) (t : Tables) (hc : checkClasses rules t = true)
    (hd : checkDfa rules t = true) (he : noEoiShift t = true) (sc : Nat) (hsc : sc < t.stateMap.size)
    (chars : List (Int × Nat)) (hok : CharsOk t chars) :
    ∃ res, lexScanChars t (sc : Int) chars = some res ∧ ScanResult rules (sc : Int) chars res :=
  ⟨_, scan_eq_spec rules t hc hd he sc hsc chars hok, scanSpec_meets rules _ chars⟩

example : charsOf false [0x61, 0xC3, 0xA9, 0xFF] = [(0x61, 1), (0xE9, 2), (0xFFFD, 1)] := by decide +kernel

/-- The full statement does not hold for `Tables.Scan` as it is: for the rules `a` → 2, `{eoi}` → 1 and the
tables the real `lex.Compile` returns (they pass the validator), `Scan(0, "")` is `(0, -3)`; the property
demands `(0, 1)`. -/
theorem C09_checkDfa_sound_full_refuted : ¬ C09_checkDfa_sound_full := by
  intro h
  have := h eoiRules eoiTables (by decide +kernel) (by decide +kernel) 0 (by decide) [] (by intro c hc; cases hc)
  revert this
  decide +kernel

example : lexScanChars eoiTables 0 [] = some (0, -3) ∧ scanSpec eoiRules 0 [] = (0, 1) ∧
    noEoiShift eoiTables = false := by decide +kernel

end TmVerif.C09
