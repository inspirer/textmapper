import TmVerif.Proofs.LexRunSkip
import TmVerif.Props.C11
/-!
C12 — Tokenization always progresses, tiles the input and tracks lines (property theorems only).

Model: `Model/LexRun.lean` (`next` = the generated `Lexer.Next` of go_lexer.go.tmpl on the tables of
`Model/LexTables.lean`). The theorems are about ALL byte strings, ALL lexer states that satisfy the
position invariant `PInv` (established by `Init`, kept by every call: `C12_init_inv`,
`C12_next_progress`), and ALL tables with `TablesWF` — a decidable predicate that the drivers evaluate
on the real tables of the five shipped lexers and of every generated lexer on each run.
Hand-written lexer actions (tm, js, test) are outside this table model; for them the harness checks the
same contract directly on the real lexers. One of them is mirrored, `skipAction` of the tm lexer
(`C12_skipAction_line_spec`, with the counterexample for the current tree).
-/
namespace TmVerif.LexRun

/-- Decidable well-formedness of generated lexer tables (no rule ids are exempt). -/
def TablesWF (sp : Spec) : Prop := tablesWF sp [] = true

instance (sp : Spec) : Decidable (TablesWF sp) := by unfold TablesWF; infer_instance

/-- `Init` establishes the invariant, after the byte-order mark. -/
theorem C12_init_inv (o : Opts) (v : Variant) (src : List UInt8) :
    PInv o v (init o v src) ∧ (init o v src).offset = startOffset o src ∧ (init o v src).source = src ∧
    (init o v src).state = 0 := init_pinv o v src

/-- Every call of `Next` on well-formed tables returns (no panic, no endless loop); the
returned token starts at or after the previous position, every token other than EOI is non-empty (so
`offset` strictly increases), EOI is reported at `[len, len)` only, and the invariant and `State`
carry over to the next call. -/
theorem C12_next_progress (sp : Spec) (hw : TablesWF sp) (l : Lexer) (hp : PInv sp.opts sp.v l)
    (hv : ValidState sp l) :
    ∃ tok l', next sp l = some (tok, l') ∧ PInv sp.opts sp.v l' ∧ ValidState sp l' ∧
      l'.source = l.source ∧ l.offset ≤ l'.tokenOffset ∧ l'.tokenOffset ≤ l'.offset ∧
      l'.offset ≤ l'.source.length ∧
      (tok ≠ 0 → l'.tokenOffset < l'.offset ∧ l.offset < l'.offset) ∧
      (tok = 0 → l'.tokenOffset = l'.source.length ∧ l'.offset = l'.source.length) := by
  obtain ⟨tok, l', h1, h2⟩ := next_total sp (wfacts_of_tablesWF sp hw) l hp hv
  refine ⟨tok, l', h1, h2.pinv, hv.of_state_eq h2.state, h2.source, h2.after, h2.le, h2.pinv.le, ?_, h2.eoi⟩
  intro h; have := h2.nonempty h; have := h2.after; exact ⟨by omega, by omega⟩

/-- At the end of the input `Next` returns EOI at `[len, len)` again. -/
theorem C12_eoi_repeats (sp : Spec) (hw : TablesWF sp) (l : Lexer) (hp : PInv sp.opts sp.v l)
    (hv : ValidState sp l) (hend : l.offset = l.source.length) :
    ∃ l', next sp l = some (0, l') ∧ l'.tokenOffset = l.source.length ∧ l'.offset = l.source.length ∧
      PInv sp.opts sp.v l' := by
  obtain ⟨tok, l', h1, h2⟩ := next_total sp (wfacts_of_tablesWF sp hw) l hp hv
  obtain ⟨p1, -, p3, -⟩ := h2.positions
  -- a token other than EOI would be non-empty and end behind the input
  have h0 : tok = 0 := Decidable.byContradiction fun h => by have := h2.nonempty h; omega
  subst h0
  have he := h2.eoi rfl
  rw [h2.source] at he
  exact ⟨l', h1, he.1, he.2, h2.pinv⟩

/-- A token sequence that starts at or after `prev`, is ordered and disjoint, consists of non-empty
tokens and ends with EOI at `[len, len)`; every token carries the line of its first byte. -/
def Tiled (sp : Spec) (src : List UInt8) : Nat → List Tok → Prop
  | _, [] => False
  | prev, t :: rest =>
    prev ≤ t.start ∧ t.start ≤ t.stop ∧ t.stop ≤ src.length ∧
    (sp.opts.tokenLine = true → t.line = 1 + (countNL (src.take t.start) : Int)) ∧
    (if t.tok = 0 then t.start = src.length ∧ rest = [] else t.start < t.stop ∧ Tiled sp src t.stop rest)

/-- Calling `Next` repeatedly reaches EOI within `len - offset + 1` calls;
the tokens returned on the way are ordered, pairwise disjoint, non-empty, inside the input, and the
last one is EOI at the end of the input. -/
theorem C12_tokens_tile (sp : Spec) (hw : TablesWF sp) : ∀ (n : Nat) (l : Lexer),
    PInv sp.opts sp.v l → ValidState sp l → l.source.length - l.offset + 1 ≤ n →
    ∃ toks, tokenize sp n l = some toks ∧ Tiled sp l.source l.offset toks := by
  intro n
  induction n with
  | zero => intro l _ _ h; omega
  | succ n ih =>
    intro l hp hv hn
    obtain ⟨tok, l', h1, h2⟩ := next_total sp (wfacts_of_tablesWF sp hw) l hp hv
    simp only [tokenize, h1]
    have hsrc := h2.source
    obtain ⟨p1, p2, p3, p4⟩ := h2.positions
    by_cases h0 : tok = 0
    · simp only [h0, if_true]
      have he := h2.eoi h0
      rw [hsrc] at he
      refine ⟨_, rfl, ?_⟩
      simp only [Tiled, observe, if_true]
      exact ⟨p1, p2, p3, p4, he.1, trivial⟩
    · simp only [h0, if_false]
      have hne := h2.nonempty h0
      obtain ⟨toks, t1, t2⟩ := ih l' h2.pinv (hv.of_state_eq h2.state) (by rw [hsrc]; omega)
      refine ⟨observe tok l' :: toks, by rw [t1]; rfl, ?_⟩
      simp only [Tiled, observe, h0, if_false]
      rw [hsrc] at t2
      exact ⟨p1, p2, p3, p4, hne, t2⟩

/-- The text between the previous position and the returned token is consumed by passes of
`Next` that ended in `goto restart`, i.e. by matches of space rules (`Restarts`), and by nothing
else; the token itself is what the pass started at its first byte returns. -/
theorem C12_gaps_are_space_matches (sp : Spec) (hw : TablesWF sp) (l : Lexer) (hp : PInv sp.opts sp.v l)
    (hv : ValidState sp l) (tok : Int) (l' : Lexer) (h : next sp l = some (tok, l')) :
    ∃ lm, Restarts sp l lm ∧ lm.offset = l'.tokenOffset ∧ nextOnce sp lm = some (.token tok l') := by
  have h2 := next_spec sp (wfacts_of_tablesWF sp hw) l hp hv tok l' h
  exact h2.gaps

/-- The gaps in terms of the rules: with the hypotheses of the refinement theorem (C11) the text
between the previous position and the returned token is a chain of non-empty `Tables.Scan` matches
whose action is a space rule (`SpaceChain`), starting right at the previous position (after the BOM
for the first call, `C12_init_inv`). -/
theorem C12_gaps_are_scan_space_matches (sp : Spec) (hw : TablesWF sp)
    (hc : classMapOkUpTo sp (charBound sp.opts.scanBytes) = true) (he : eoiFinal sp.t = true)
    (hk : HashOk sp) (l : Lexer) (hp : PInv sp.opts sp.v l) (hv : ValidState sp l) (tok : Int) (l' : Lexer)
    (h : next sp l = some (tok, l')) :
    SpaceChain sp l.source l.state l.offset l'.tokenOffset := by
  obtain ⟨lm, g1, g2, _⟩ := C12_gaps_are_space_matches sp hw l hp hv tok l' h
  have := restarts_chain sp (wfacts_of_tablesWF sp hw) (classOk_of_upTo sp hc) he hk l lm g1 hp hv
  rw [g2] at this
  exact this

/-- `Line()` of the returned token is `1 +` the number of newlines before its first byte. -/
theorem C12_line_spec (sp : Spec) (hw : TablesWF sp) (l : Lexer) (hp : PInv sp.opts sp.v l)
    (hv : ValidState sp l) (ht : sp.opts.tokenLine = true) (tok : Int) (l' : Lexer)
    (h : next sp l = some (tok, l')) :
    l'.tokenLine = 1 + (countNL (l.source.take l'.tokenOffset) : Int) :=
  (next_spec sp (wfacts_of_tablesWF sp hw) l hp hv tok l' h).positions.2.2.2 ht

/-- Tables of the grammar `tokenColumn = true; ws: /[ \n]+/ (space); id: /[a-z]+/` as compiled by
the real generator (token ids: invalid_token 1, ws 2, id 3). -/
def sampleSpec (v : Variant) : Spec where
  t := { scanBytes := false,
         symbolMap := #[⟨0, 1⟩, ⟨10, 2⟩, ⟨11, 1⟩, ⟨32, 2⟩, ⟨33, 1⟩, ⟨97, 3⟩, ⟨123, 1⟩],
         numSymbols := 4, stateMap := #[0],
         dfa := #[-2, -2, 2, 1, -4, -4, -4, 1, -3, -3, 2, -3], backtrack := #[] }
  cm := ⟨((List.range 123).map fun i => if i = 10 ∨ i = 32 then (2 : Int) else if 97 ≤ i then 3 else 1).toArray,
         false, #[], 1⟩
  opts := ⟨true, false, true, false, true⟩
  v := v
  multiState := false
  ruleToken := none
  invalidToken := 1
  spaceActions := [2]
  classActions := []

/-- `sampleSpec` holds the tables of `probeSpec` (Props/C11), whose well-formedness is evaluated there. -/
theorem sampleSpec_wf (v : Variant) : TablesWF (sampleSpec v) := probeSpec_wf v

set_option maxRecDepth 100000 in
example : TablesWF (sampleSpec Variant.current) ∧ TablesWF (sampleSpec Variant.fixed) :=
  ⟨sampleSpec_wf _, sampleSpec_wf _⟩

-- the hypotheses of the theorems hold for the lexer `Init` returns on any input
example (v : Variant) (src : List UInt8) :
    PInv (sampleSpec v).opts v (init (sampleSpec v).opts v src) ∧ ValidState (sampleSpec v) (init (sampleSpec v).opts v src) :=
  ⟨(init_pinv _ v src).1, validState_of_single rfl _⟩

set_option maxRecDepth 100000 in
-- and the model computes on them: "a \n b" gives id, id, EOI with lines 1, 2, 2
example : (tokenize (sampleSpec Variant.current) 3 (init (sampleSpec Variant.current).opts Variant.current [97, 32, 10, 98])).map
      (fun ts => ts.map fun t => (t.tok, t.start, t.stop, t.line)) =
    some [(3, 0, 1, 1), (3, 3, 4, 2), (0, 4, 4, 2)] := by decide +kernel

/-- `skipAction` keeps the line count (code after fixes/C12-skipaction-line.diff): entered just after
the opening brace with the invariant, `skipAction` leaves `line = 1 +` the number of newlines before the
new offset, so every later token of the tm lexer reports the line of its first byte; `lineOffset`
is the start of that line (exactly so with the fixed template, `colFix`). -/
theorem C12_skipAction_line_spec (v : Variant) (hfix : v.skipFix = true) (l : Lexer)
    (hp : PInv tmOpts v l) (ok : Bool) (l' : Lexer) (h : skipAction v l = some (ok, l')) :
    l'.line = 1 + (countNL (l.source.take l'.offset) : Int) ∧ l.offset ≤ l'.offset ∧
    l'.offset ≤ l.source.length ∧ PInv tmOpts v l' ∧
    (v.colFix = true → l'.lineOffset = (lineStart l.source l'.offset : Int)) := by
  obtain ⟨a, b, c⟩ := skipLoop_pinv tmOpts v hfix _ 1 0 l ok l' hp h
  refine ⟨by rw [← b]; exact a.line rfl, c, by rw [← b]; exact a.le, a, ?_⟩
  intro hc
  rw [← b]; exact (a.lo rfl (Or.inl rfl)).eq_of_colFix hc

/-- The line clause for every variant, the current tree included. -/
def C12_skipAction_line_spec_full : Prop :=
  ∀ (v : Variant) (l : Lexer), PInv tmOpts v l → ∀ (ok : Bool) (l' : Lexer), skipAction v l = some (ok, l') →
    l'.line = 1 + (countNL (l.source.take l'.offset) : Int)

set_option maxRecDepth 100000 in
/-- Current tree: in the code block `{"\⏎"}` the newline after the backslash is skipped without
`line++`: `skipAction` ends at offset 6 with `line = 1` although one newline precedes that offset. -/
theorem C12_skipAction_current_tree_counterexample : ¬ C12_skipAction_line_spec_full := by
  intro h
  have hi := init_pinv tmOpts Variant.current [0x7B, 0x22, 0x5C, 0x0A, 0x22, 0x7D, 0x78]
  obtain ⟨r1, _⟩ := hi.1.rewind 1 (by rw [hi.2.2.1]; decide)
  have e : skipAction Variant.current (rewind tmOpts Variant.current
      (init tmOpts Variant.current [0x7B, 0x22, 0x5C, 0x0A, 0x22, 0x7D, 0x78]) 1) =
      some (true, ⟨[0x7B, 0x22, 0x5C, 0x0A, 0x22, 0x7D, 0x78], 0x78, 6, 7, 0, 1, 1, 0, 1, 0⟩) := by decide +kernel
  have := h Variant.current _ r1 _ _ e
  revert this
  decide +kernel

set_option maxRecDepth 100000 in
-- non-vacuity of `C12_skipAction_line_spec`: the fixed variant on the same block ends with line = 2
example : (skipAction Variant.fixed (rewind tmOpts Variant.fixed
      (init tmOpts Variant.fixed [0x7B, 0x22, 0x5C, 0x0A, 0x22, 0x7D, 0x78]) 1)).map (fun r => (r.1, r.2.offset, r.2.line, r.2.lineOffset)) =
    some (true, 6, 2, 4) := by decide +kernel

end TmVerif.LexRun
