import TmVerif.Proofs.LRSoundAccept
import TmVerif.Proofs.LRHalt
import TmVerif.Proofs.LRComplete
import TmVerif.Proofs.LRErrPos
/-!
C01 — soundness of the table-driven LR parser runtime (`gen/templates/go_parser.go.tmpl`, model
`TmVerif.LR.run`) with respect to the decidable certificate check `certOk` (Model/LRSound.lean),
which the driver evaluates on the REAL `lalr.Tables` of every sampled grammar.

Whenever `certOk g t cert = true`, every run of the runtime model on tables `t` that ends in
`accept` has consumed a prefix of the token string that is a sentence of the chosen input symbol
(`CFG.Sentence`), and for an input with the end-of-input requirement the whole string
(`C01_lr_sound`). Under the same hypothesis no run panics (`C01_lr_no_panic`), every reduction the
loop performs is justified by the stack (`C01_lr_reductions_derive`), and with a rank certificate
the loop halts within a stated bound (`C01_lr_halts`).

Completeness (second half of the file): whenever `complOk g t cc = true` (Model/LRComplete.lean,
LR(1)-style item certificate, also evaluated on the real tables), every sentence is accepted
(`C01_lr_complete`, `C01_lr_complete_prefix`); with both certificates the accepted token strings
are exactly the language (`C01_lr_exact`).

Error position (third part): with the viable-prefix certificate `viableOk g t vc = true`
(Model/LRViable.lean) in addition, a reported syntax error lies at the first token at which the
consumed prefix stops being a prefix of a sentence (`C01_lr_error_position`); the productivity
requirement inside `viableOk` is necessary (`C01_error_position_unproductive_fails`, real tables).
-/
namespace TmVerif.LRSound
open TmVerif.LR TmVerif.CFG

/-- Soundness: for certified tables, for every token string (symbols are terminals other than
EOI), every input `i`, every fuel: if the runtime model accepts, then the consumed prefix
(`n` tokens) is a sentence of input `i`; if the input requires end-of-input, `n` is the whole
string. -/
theorem C01_lr_sound (g : Grammar) (t : Tables) (cert : Cert) (inp : Input) (i fuel : Nat) (c : Cfg)
    (hc : certOk g t cert = true)
    (htok : ∀ tk ∈ inp.toks.toList, 0 < tk.sym ∧ tk.sym < (t.nTerms : Int))
    (hi : i < g.inputs.size)
    (hrun : run t inp i fuel = (Result.accept, c)) :
    ∃ n, n ≤ inp.toks.size ∧
      Sentence g i ((inp.toks.toList.take n).map (fun tk => tk.sym.toNat)) ∧
      ((∃ gi, g.inputs[i]? = some gi ∧ gi.eoi = true) → n = inp.toks.size) := by
  have hcf := certFacts hc
  exact run_accept_sentence (justified hcf) edge_mem (decodeOk hcf htok) htok hi
    (finalOk_eq_finalOn ▸ hcf.finals i hi) hrun

/-! Non-vacuity: real tables of `lalr.Compile` for the grammar `S: t4 t3 t4 ;` (5 terminals, one
nonterminal, input `S` with end-of-input; taken from a `C01 validate` case of the harness). All
hypotheses hold, the model accepts `t4 t3 t4`, and the theorem yields the sentence. -/
private def exG : Grammar :=
  { nTerms := 5, nSyms := 6, rules := #[⟨5, [4, 3, 4], 0⟩], inputs := #[⟨5, true⟩] }
private def exT : Tables :=
  { nTerms := 5, action := #[-1,-1,-1,0,-1,-2], lalr := #[], goto_ := #[0,2,2,2,4,8,10], fromTo := #[4,5,1,2,0,1,2,3,0,4], ruleLen := #[3], ruleSymbol := #[5], finalStates := #[5] }
private def exCert : Cert :=
  { past := #[[], [4], [3, 4], [4, 3, 4], [5], [0, 5]], reach := #[[0, 1, 2, 3, 4, 5]] }
private def exInp : Input := { toks := #[⟨4, 0, 1⟩, ⟨3, 1, 2⟩, ⟨4, 2, 3⟩], endOff := 3 }

private theorem exCertOk : certOk exG exT exCert = true := by decide +kernel
private theorem exTokOk : ∀ tk ∈ exInp.toks.toList, 0 < tk.sym ∧ tk.sym < (exT.nTerms : Int) := by
  decide +kernel
private theorem exAccepts : (run exT exInp 0 20).1 = Result.accept := by decide +kernel

example : certOk exG exT exCert = true ∧
    (∀ tk ∈ exInp.toks.toList, 0 < tk.sym ∧ tk.sym < (exT.nTerms : Int)) ∧
    0 < exG.inputs.size ∧ (run exT exInp 0 20).1 = Result.accept ∧
    Reach exT exInp 0 (initCfg exInp 0) :=
  ⟨exCertOk, exTokOk, by decide, exAccepts, Reach.init⟩

example : Sentence exG 0 [4, 3, 4] := by
  obtain ⟨n, _, h, hn⟩ := C01_lr_sound exG exT exCert exInp 0 20 (run exT exInp 0 20).2
    exCertOk exTokOk (by decide) (Prod.ext exAccepts rfl)
  rw [hn ⟨⟨5, true⟩, rfl, rfl⟩] at h
  exact h

/-- For certified tables the runtime model never panics: no index or slice expression of the
generated parser loop (`tmAction[state]`, `tmLalr[..]`, `tmRuleLen[rule]`, `stack[len-ln:]`,
`tmGoto[..]`, …) is out of range, on any token string and with any fuel. -/
theorem C01_lr_no_panic (g : Grammar) (t : Tables) (cert : Cert) (inp : Input) (i fuel : Nat)
    (hc : certOk g t cert = true)
    (htok : ∀ tk ∈ inp.toks.toList, 0 < tk.sym ∧ tk.sym < (t.nTerms : Int))
    (hi : i < g.inputs.size) :
    (run t inp i fuel).1 ≠ Result.panic := by
  have hcf := certFacts hc
  rcases run_cases t inp i with ⟨hfin, _⟩ | ⟨fin, _, hrun⟩
  · rw [Array.getElem?_eq_getElem (hcf.fin ▸ hi)] at hfin
    cases hfin
  · rw [hrun]
    exact fun h => runLoop_no_panic hcf htok hi fin fuel _ _ (inv_init g t i inp) (Prod.ext h rfl)

example : (run exT exInp 0 20).1 ≠ Result.panic :=
  C01_lr_no_panic exG exT exCert exInp 0 20 exCertOk exTokOk (by decide)

/-! ### halting

`LRX.coreRankOk g t cert rc` (Model/LRXSafe.lean, decidable, evaluated by the driver on the real
tables of every sampled grammar together with `certOk`): `rc` assigns a rank to every (input,
terminal, state) such that — relative to each input `i`, for the states `s` in the reachable set of
the soundness certificate other than the final state of `i` — for every reduce action
`(s, a) ↦ A → α` and every reachable state `p'` from which `α` leads to `s`, `gotoState p' A` is a
state `q` with `rank i a q + weight + 1 ≤ rank i a s + weight · |α|`, a shift of EOI decreases the
rank likewise, and ranks are at most `4 · nStates + 11`. -/

/-- Halting: for certified tables with a rank certificate the loop needs at most
`(|w| + 1) · (4 · nStates + 12 + weight)` iterations on a token string `w` — with that much fuel the
runtime model never answers `fuel`: by `C01_lr_no_panic` it accepts or reports a syntax error,
on sentences and on non-sentences alike. (The potential `W · (tokens left) + weight · (stack
height) + rank (next token) (top state)` decreases with every iteration.) -/
theorem C01_lr_halts (g : Grammar) (t : Tables) (cert : Cert) (rc : LRX.XCert) (inp : Input)
    (i fuel : Nat)
    (hc : certOk g t cert = true) (hr : LRX.coreRankOk g t cert rc = true)
    (htok : ∀ tk ∈ inp.toks.toList, 0 < tk.sym ∧ tk.sym < (t.nTerms : Int))
    (hi : i < g.inputs.size)
    (hfuel : (inp.toks.size + 1) * (4 * t.nStates + 12 + rc.weight) ≤ fuel) :
    (run t inp i fuel).1 ≠ Result.fuel := by
  have hcf := certFacts hc
  have hrf : LRX.RankFacts g (coreX t) cert rc := LRX.rankFacts hr
  rcases run_cases t inp i with ⟨_, hrun⟩ | ⟨fin, hfin, hrun⟩ <;> rw [hrun]
  · exact fun h => nomatch h
  · have h0 : _ < _ * (4 * t.nStates + 12 + rc.weight) := psi_init hcf hrf htok hi
    exact runLoop_halts hcf hrf htok hi fin (LRX.finOf_eq (x := coreX t) hfin) fuel _
      (inv_init g t i inp) (Nat.lt_of_lt_of_le h0 hfuel)

private def exRC : LRX.XCert :=
  { weight := 1, rank := #[#[#[0, 0, 0, 1, 2, 0], #[0, 0, 0, 0, 0, 0], #[0, 0, 0, 0, 0, 0], #[0, 0, 0, 0, 0, 0], #[0, 0, 0, 0, 0, 0]]] }

/-- non-vacuity: the rank certificate of the tables above checks; the bound for the three-token
input is 4 · 37 = 148 iterations -/
private theorem exRankOk : LRX.coreRankOk exG exT exCert exRC = true ∧
    (exInp.toks.size + 1) * (4 * exT.nStates + 12 + exRC.weight) = 148 := by decide +kernel

example : LRX.coreRankOk exG exT exCert exRC = true ∧
    (exInp.toks.size + 1) * (4 * exT.nStates + 12 + exRC.weight) = 148 := exRankOk

example : (run exT exInp 0 148).1 ≠ Result.fuel :=
  C01_lr_halts exG exT exCert exRC exInp 0 148 exCertOk exRankOk.1 exTokOk (by decide)
    (Nat.le_of_eq exRankOk.2)

/-- Every reduction the loop performs is justified: in every configuration reachable from the
initial one (`Reach`, any number of `step`s), if the decoded action is "reduce `r`" then `r` is a
rule of the grammar, its right-hand side lies on top of the stack (so the pop cannot underflow),
and the popped entries derive a terminal string `v` which is a suffix of the tokens shifted so
far. -/
theorem C01_lr_reductions_derive (g : Grammar) (t : Tables) (cert : Cert) (inp : Input) (i : Nat)
    (c c1 : Cfg) (r : Int)
    (hc : certOk g t cert = true)
    (htok : ∀ tk ∈ inp.toks.toList, 0 < tk.sym ∧ tk.sym < (t.nTerms : Int))
    (hi : i < g.inputs.size)
    (hreach : Reach t inp i c)
    (hd : decode t inp c = some (c1, .reduce r)) :
    ∃ rule v, 0 ≤ r ∧ g.rules[r.toNat]? = some rule ∧ rule.rhs.length < c1.stack.length ∧
      (c1.stack.take rule.rhs.length).map (·.sym) = rule.rhs.reverse.map Int.ofNat ∧
      DerivesSeq g rule.rhs v ∧
      v <:+ (List.range (nshift c1.evs)).map (fun j => (inp.tok j).sym.toNat) := by
  have hcf := certFacts hc
  obtain ⟨s, syms, hstk, hst, hn⟩ := inv_iff.mp (reach_inv hcf htok hi hreach)
  obtain ⟨e1, _, e3, _⟩ := fetched_eq (decode_fetch hd)
  rw [e1, e3]
  exact hstk.reduce_spec (justified hcf) hi
    (decodeOk hcf htok c c1 _ s _ (hstk.lt (justified hcf) hi) hst hn hd)

/-! Non-vacuity: after shifting `t4 t3 t4` with the tables above the decoded action is "reduce
rule 0", and the theorem shows `4 3 4` on top of the stack. -/
private def exNext (c : Cfg) : Cfg :=
  match step exT exInp c with
  | .cont c' => c'
  | .done _ c' => c'
private def exC1 : Cfg := exNext (initCfg exInp 0)
private def exC2 : Cfg := exNext exC1
private def exC3 : Cfg := exNext exC2
private def exIsCont (c : Cfg) : Bool :=
  match step exT exInp c with
  | .cont _ => true
  | .done _ _ => false
private theorem exNext_spec (c : Cfg) (h : exIsCont c = true) :
    step exT exInp c = .cont (exNext c) := by
  unfold exIsCont at h
  unfold exNext
  split <;> simp_all

example : Reach exT exInp 0 exC3 ∧ (∃ c1, decode exT exInp exC3 = some (c1, .reduce 0)) ∧
    (exC3.stack.take 3).map (·.sym) = [4, 3, 4] := by
  have hev : exIsCont (initCfg exInp 0) = true ∧ exIsCont exC1 = true ∧ exIsCont exC2 = true ∧
      (decode exT exInp exC3).map (·.2) = some (.reduce 0) ∧
      (exC3.stack.take 3).map (·.sym) = [4, 3, 4] := by decide +kernel
  obtain ⟨h0, h1, h2, hd, hstk⟩ := hev
  have r1 : Reach exT exInp 0 exC1 := Reach.step _ _ Reach.init (exNext_spec _ h0)
  have r2 : Reach exT exInp 0 exC2 := Reach.step _ _ r1 (exNext_spec _ h1)
  have r3 : Reach exT exInp 0 exC3 := Reach.step _ _ r2 (exNext_spec _ h2)
  obtain ⟨⟨c1, _⟩, h, rfl⟩ := Option.map_eq_some_iff.1 hd
  exact ⟨r3, ⟨c1, h⟩, hstk⟩

/-! ## Completeness (Jourdan–Pottier–Leroy style certificate `complOk`, Model/LRComplete.lean)

`complOk g t cc = true` (LR(1)-style items per table state, closed under closure/goto, every
complete item's lookahead terminals answered by a reduction, closed nullable/FIRST) is evaluated by
the driver on the REAL `lalr.Tables` of every sampled grammar (certificate computed from the
LALR(1) reference construction). -/
section completeness
open TmVerif.LRComplete

/-- Completeness: for tables with a valid completeness certificate, for every token string
(symbols are terminals other than EOI) and every input `i`: if the whole token string is a
sentence of input `i`, then the runtime model accepts (with enough fuel). For an input without
the end-of-input requirement the run may stop after a shorter prefix — which is a sentence too,
by `C01_lr_sound`. -/
theorem C01_lr_complete (g : Grammar) (t : Tables) (cc : CCert) (inp : Input) (i : Nat)
    (hc : complOk g t cc = true)
    (htok : ∀ tk ∈ inp.toks.toList, 0 < tk.sym ∧ tk.sym < (t.nTerms : Int))
    (hsent : Sentence g i (inp.toks.toList.map (fun tk => tk.sym.toNat))) :
    ∃ fuel c, run t inp i fuel = (Result.accept, c) :=
  complete_accept (complFacts hc) htok hsent

/-- Completeness for inputs without the end-of-input requirement: if SOME prefix of the token
string is a sentence of input `i`, the runtime model accepts. -/
theorem C01_lr_complete_prefix (g : Grammar) (t : Tables) (cc : CCert) (inp : Input) (i n : Nat)
    (gi : GInput) (hc : complOk g t cc = true)
    (htok : ∀ tk ∈ inp.toks.toList, 0 < tk.sym ∧ tk.sym < (t.nTerms : Int))
    (hgi : g.inputs[i]? = some gi) (heoi : gi.eoi = false)
    (hsent : Sentence g i ((inp.toks.toList.take n).map (fun tk => tk.sym.toNat))) :
    ∃ fuel c, run t inp i fuel = (Result.accept, c) :=
  accept_word (complFacts hc) htok hsent (reads_take inp n) fun gi' hgi' h => by
    cases hgi.symm.trans hgi'
    cases heoi.symm.trans h

/-- Exactly the language: with both certificates, the runtime model accepts (for some fuel) iff
the token string is a sentence (input with end-of-input) resp. has a prefix that is a sentence
(input without). -/
theorem C01_lr_exact (g : Grammar) (t : Tables) (cert : Cert) (cc : CCert) (inp : Input) (i : Nat)
    (gi : GInput) (hs : certOk g t cert = true) (hc : complOk g t cc = true)
    (htok : ∀ tk ∈ inp.toks.toList, 0 < tk.sym ∧ tk.sym < (t.nTerms : Int))
    (hgi : g.inputs[i]? = some gi) :
    (∃ fuel c, run t inp i fuel = (Result.accept, c)) ↔
      if gi.eoi then Sentence g i (inp.toks.toList.map (fun tk => tk.sym.toNat))
      else ∃ n, n ≤ inp.toks.size ∧
        Sentence g i ((inp.toks.toList.take n).map (fun tk => tk.sym.toNat)) :=
  accept_iff_sentence hgi (fun hi fuel c => C01_lr_sound g t cert inp i fuel c hs htok hi)
    (C01_lr_complete g t cc inp i hc htok)
    (fun heoi n => C01_lr_complete_prefix g t cc inp i n gi hc htok hgi heoi)

/-! Non-vacuity. (1) The tables `exT` above with the certificate computed by `mkCCert`.
(2) Real tables of `lalr.Compile` for `E: T '+' E | T ; T: '(' E ')' | id ;` (terminals 2 `+`,
3 `(`, 4 `)`, 5 `id`; a lookahead state; taken from a `C01 validate` case of the harness) with the
certificate computed by `mkCCert`: `id + id` is accepted because it is a sentence. -/
private def exCC : CCert :=
  { items := #[[⟨0, 0, 1⟩, ⟨1, 0, 0⟩], [⟨0, 1, 1⟩], [⟨0, 2, 1⟩], [⟨0, 3, 1⟩], [⟨1, 1, 0⟩],
               [⟨1, 2, 0⟩]],
    nullable := [], first := #[0, 0, 0, 0, 0, 16] }

private theorem exComplOk : complOk exG exT exCC = true := by decide +kernel

example : complOk exG exT exCC = true := exComplOk

private theorem exSent : Sentence exG 0 (exInp.toks.toList.map (fun tk => tk.sym.toNat)) :=
  ⟨⟨5, true⟩, rfl, Derives.rule ⟨5, [4, 3, 4], 0⟩ [4, 3, 4] (by decide)
    (.cons 4 _ [4] _ (.term 4 (by decide)) (.cons 3 _ [3] _ (.term 3 (by decide))
      (.cons 4 _ [4] _ (.term 4 (by decide)) .nil)))⟩

example : ∃ fuel c, run exT exInp 0 fuel = (Result.accept, c) :=
  C01_lr_complete exG exT exCC exInp 0 exComplOk exTokOk exSent

private def exG2 : Grammar :=
  { nTerms := 6, nSyms := 8,
    rules := #[⟨6, [7, 2, 6], 0⟩, ⟨6, [7], 0⟩, ⟨7, [3, 6, 4], 0⟩, ⟨7, [5], 0⟩],
    inputs := #[⟨6, true⟩] }
private def exT2 : Tables :=
  { nTerms := 6, action := #[-1,-1,3,-3,-1,-1,2,0,-1,-2], lalr := #[2,-1,0,1,4,1,-1,-2],
    goto_ := #[0,2,2,4,10,12,18,24,30],
    fromTo := #[8,9,3,5,0,1,1,1,5,1,4,6,0,2,1,2,5,2,0,8,1,4,5,7,0,3,1,3,5,3],
    ruleLen := #[3,1,3,1], ruleSymbol := #[6,6,7,7], finalStates := #[9] }
private def exCC2 : CCert :=
  { items := #[[⟨0, 0, 1⟩, ⟨1, 0, 1⟩, ⟨2, 0, 5⟩, ⟨3, 0, 5⟩, ⟨4, 0, 0⟩],
               [⟨0, 0, 16⟩, ⟨1, 0, 16⟩, ⟨2, 0, 20⟩, ⟨2, 1, 21⟩, ⟨3, 0, 20⟩],
               [⟨3, 1, 21⟩], [⟨0, 1, 17⟩, ⟨1, 1, 17⟩], [⟨2, 2, 21⟩],
               [⟨0, 0, 17⟩, ⟨0, 2, 17⟩, ⟨1, 0, 17⟩, ⟨2, 0, 21⟩, ⟨3, 0, 21⟩],
               [⟨2, 3, 21⟩], [⟨0, 3, 17⟩], [⟨4, 1, 0⟩], [⟨4, 2, 0⟩]],
    nullable := [], first := #[0, 0, 0, 0, 0, 0, 40, 40] }
private def exInp2 : Input := { toks := #[⟨5, 0, 1⟩, ⟨2, 1, 2⟩, ⟨5, 2, 3⟩], endOff := 3 }

private theorem exComplOk2 : complOk exG2 exT2 exCC2 = true := by decide +kernel

example : complOk exG2 exT2 exCC2 = true ∧ (mkCCert exG2 exT2).toOption = some exCC2 :=
  ⟨exComplOk2, by decide +kernel⟩

private theorem exT_id : Derives exG2 7 [5] :=
  Derives.rule ⟨7, [5], 0⟩ [5] (by decide) (.cons 5 _ [5] _ (.term 5 (by decide)) .nil)

private theorem exSent2 : Sentence exG2 0 (exInp2.toks.toList.map (fun tk => tk.sym.toNat)) :=
  ⟨⟨6, true⟩, rfl, Derives.rule ⟨6, [7, 2, 6], 0⟩ [5, 2, 5] (by decide)
    (.cons 7 _ [5] _ exT_id (.cons 2 _ [2] _ (.term 2 (by decide))
      (.cons 6 _ [5] _ (Derives.rule ⟨6, [7], 0⟩ [5] (by decide) (.cons 7 _ [5] _ exT_id .nil))
        .nil)))⟩

example : ∃ fuel c, run exT2 exInp2 0 fuel = (Result.accept, c) :=
  C01_lr_complete exG2 exT2 exCC2 exInp2 0 exComplOk2 (by decide +kernel) exSent2

/-- the incomplete tables are rejected: the same tables with the reduction `T → id .` removed from
state 2 (`action[2] := -2`) fail condition (R). -/
example : complOk exG2 { exT2 with action := #[-1,-1,-2,-3,-1,-1,2,0,-1,-2] } exCC2 = false := by
  decide +kernel

end completeness

/-! ## Error position (viable-prefix certificate `viableOk`, Model/LRViable.lean)

`viableOk g t vc = true` (ordered LR(0) items per table state: start items, kernel items with their
predecessors along every relevant transition, closure items justified by earlier items, complete
items where the state reduces; plus a productivity witness for every nonterminal) is evaluated by
the driver on the REAL `lalr.Tables` of every sampled grammar, together with the two other
certificates. -/
section errorPosition
open TmVerif.LRComplete TmVerif.LRViable

/-- Error position: for tables passing the three certificate checks, if the runtime model stops
with a syntax error after `k` shifts (`k = nshift c.evs`), then
(a) `k` tokens of the text were shifted (`k ≤ |w|`) and the reported range is that of token `k`
    (the end-of-input token at `endOff` when `k = |w|`);
(b) the consumed prefix `w[0..k)` is a prefix of a sentence of input `i`;
(c) with the offending token it is not: no sentence starts with `w[0..k]` (when `k < |w|`), and
    `w` itself is not a sentence (in particular when `k = |w|`).
Holds for inputs with and without the end-of-input requirement. -/
theorem C01_lr_error_position (g : Grammar) (t : Tables) (cert : Cert) (cc : CCert) (vc : VCert)
    (inp : Input) (i fuel off endo : Nat) (c : Cfg)
    (hs : certOk g t cert = true) (hc : complOk g t cc = true) (hv : viableOk g t vc = true)
    (htok : ∀ tk ∈ inp.toks.toList, 0 < tk.sym ∧ tk.sym < (t.nTerms : Int))
    (hi : i < g.inputs.size)
    (hrun : run t inp i fuel = (Result.syntaxError off endo, c)) :
    nshift c.evs ≤ (inp.toks.toList.map (fun tk => tk.sym.toNat)).length ∧
    off = (inp.tok (nshift c.evs)).off ∧ endo = (inp.tok (nshift c.evs)).endo ∧
    (∃ z, Sentence g i ((inp.toks.toList.map (fun tk => tk.sym.toNat)).take (nshift c.evs) ++ z)) ∧
    (nshift c.evs < (inp.toks.toList.map (fun tk => tk.sym.toNat)).length →
      ¬ ∃ z, Sentence g i
        ((inp.toks.toList.map (fun tk => tk.sym.toNat)).take (nshift c.evs + 1) ++ z)) ∧
    ¬ Sentence g i (inp.toks.toList.map (fun tk => tk.sym.toNat)) := by
  have hcf := certFacts hs
  have hf := complFacts hc
  have hvf := viableFacts hv
  have hns : ¬ Sentence g i (word inp) := err_not_sentence hf htok hrun
  have hext : nshift c.evs < inp.toks.size →
      ¬ ∃ z, Sentence g i ((word inp).take (nshift c.evs + 1) ++ z) :=
    err_not_extension hcf hf htok hi hrun
  have hgi : g.inputs[i]? = some g.inputs[i] := Array.getElem?_eq_getElem hi
  obtain ⟨fin, _, hrun'⟩ := run_eq hrun (fun h => nomatch h)
  have h := runLoop_inv (justified hcf) And.left (step_vinv hcf hvf htok hi) (decodeOk hcf htok) htok
    hi fin fuel _ stackInv_init
  rw [hrun'] at h
  obtain ⟨c0, hinv0, hk, hoff, hendo⟩ := h
  have hpre := vinv_prefix hcf hvf hi c0 hinv0
  rw [← hk] at hpre hoff hendo
  obtain ⟨hle, hz⟩ := prefix_sentence (wfFacts hcf.wf) hgi htok hpre hns
  have hlen : (inp.toks.toList.map (fun tk => tk.sym.toNat)).length = inp.toks.size :=
    word_length inp
  exact ⟨by rw [hlen]; exact hle, hoff, hendo, hz, fun h => hext (by rw [← hlen]; exact h), hns⟩

/-! Non-vacuity: the real tables `exT2` of `E: T '+' E | T ; T: '(' E ')' | id ;` with the three
certificates (`exVC2` computed by `mkVCert`); on `id + )` the model reports the error at token 2
(offsets 2..3), and the theorem yields that `id +` is a prefix of a sentence while nothing starting
with `id + )` is one. -/
private def exCert2 : Cert :=
  { past := #[[], [3], [5], [7], [6, 3], [2, 7], [4, 6, 3], [6, 2, 7], [6], [0, 6]],
    reach := #[[9, 7, 6, 5, 4, 3, 8, 2, 1, 0]] }
private def exVC2 : VCert :=
  { items := #[[(4, 0), (0, 0), (1, 0), (2, 0), (3, 0)], [(2, 1), (0, 0), (1, 0), (2, 0), (3, 0)],
               [(3, 1)], [(0, 1), (1, 1)], [(2, 2)], [(0, 2), (0, 0), (1, 0), (2, 0), (3, 0)],
               [(2, 3)], [(0, 3)], [(4, 1)], [(4, 2)]],
    order := [7, 6] }
private def exInp3 : Input := { toks := #[⟨5, 0, 1⟩, ⟨2, 1, 2⟩, ⟨4, 2, 3⟩], endOff := 3 }

private theorem exCertOk2 : certOk exG2 exT2 exCert2 = true := by decide +kernel
private theorem exViableOk2 : viableOk exG2 exT2 exVC2 = true := by decide +kernel
private theorem exErr3 : (run exT2 exInp3 0 30).1 = Result.syntaxError 2 3 ∧
    nshift (run exT2 exInp3 0 30).2.evs = 2 := by decide +kernel

example : certOk exG2 exT2 exCert2 = true ∧ viableOk exG2 exT2 exVC2 = true ∧
    (mkVCert exG2 exT2).toOption = some exVC2 ∧
    (run exT2 exInp3 0 30).1 = Result.syntaxError 2 3 ∧ nshift (run exT2 exInp3 0 30).2.evs = 2 :=
  ⟨exCertOk2, exViableOk2, by decide +kernel, exErr3.1, exErr3.2⟩

example : (∃ z, Sentence exG2 0 ([5, 2] ++ z)) ∧ ¬ ∃ z, Sentence exG2 0 ([5, 2, 4] ++ z) := by
  have h := C01_lr_error_position exG2 exT2 exCert2 exCC2 exVC2 exInp3 0 30 2 3
    (run exT2 exInp3 0 30).2 exCertOk2 exComplOk2 exViableOk2
    (by decide +kernel) (by decide) (Prod.ext exErr3.1 rfl)
  rw [exErr3.2] at h
  exact ⟨h.2.2.2.1, h.2.2.2.2.1 (by decide)⟩

/-- the certificate check rejects an automaton with a transition that nothing justifies: the same
tables with the goto of state 0 on `T` redirected to state 2 fail condition (K). -/
example : viableOk exG2
    { exT2 with fromTo := #[8,9,3,5,0,1,1,1,5,1,4,6,0,2,1,2,5,2,0,8,1,4,5,7,0,2,1,3,5,3] }
    exVC2 = false := by decide +kernel

/-! ### The hypothesis "every nonterminal is productive" is needed

`S: a | b X ; X: X c ;` (terminals 2 `a`, 3 `b`, 4 `c`; `X` derives no terminal string) is
conflict-free; the REAL compiler accepts it (harness start-up probe, token
`[C01-unproductive-error-position]`) and these are its tables. Both other certificates hold; on
`b` the parser shifts `b` and reports the error at token 1, although no sentence starts with `b`:
clause (b) fails, and no viable-prefix certificate exists for these tables. -/
private def wG : Grammar :=
  { nTerms := 5, nSyms := 7, rules := #[⟨5, [2], 0⟩, ⟨5, [3, 6], 0⟩, ⟨6, [6, 4], 0⟩],
    inputs := #[⟨5, true⟩] }
private def wT : Tables :=
  { nTerms := 5, action := #[-1,0,-1,-3,2,-1,-2], lalr := #[4,-1,0,1,-1,-2],
    goto_ := #[0,2,2,4,6,8,10,12], fromTo := #[5,6,0,1,0,2,3,4,0,5,2,3],
    ruleLen := #[1,2,2], ruleSymbol := #[5,5,6], finalStates := #[6] }
private def wCert : Cert :=
  { past := #[[], [2], [3], [6, 3], [4, 6, 3], [5], [0, 5]], reach := #[[6, 4, 3, 5, 2, 1, 0]] }
private def wCC : CCert :=
  { items := #[[⟨0, 0, 1⟩, ⟨1, 0, 1⟩, ⟨3, 0, 0⟩], [⟨0, 1, 1⟩], [⟨1, 1, 1⟩, ⟨2, 0, 17⟩],
               [⟨1, 2, 1⟩, ⟨2, 1, 17⟩], [⟨2, 2, 17⟩], [⟨3, 1, 0⟩], [⟨3, 2, 0⟩]],
    nullable := [], first := #[0, 0, 0, 0, 0, 12, 0] }
private def wInp : Input := { toks := #[⟨3, 0, 1⟩], endOff := 1 }

private theorem wG_rules {r : Rule} (h : r ∈ wG.rules.toList) :
    r = ⟨5, [2], 0⟩ ∨ r = ⟨5, [3, 6], 0⟩ ∨ r = ⟨6, [6, 4], 0⟩ := by
  simpa [wG] using h

private theorem wX_wXseq_empty : (∀ {Y : Nat} {v : List Nat}, Derives wG Y v → Y = 6 → False) ∧
    ∀ {α v : List Nat}, DerivesSeq wG α v → ∀ {rest : List Nat}, α = 6 :: rest → False :=
  Derives.ind
    (term := fun a ha h => by
      have : wG.nTerms = 5 := rfl
      omega)
    (rule := fun r w hm _ ih h => by
      rcases wG_rules hm with e | e | e
      · rw [e] at h; cases h
      · rw [e] at h; cases h
      · exact ih (by rw [e]))
    (nil := fun h => nomatch h)
    (cons := fun X α u v _ _ ihX _ _ h => by
      injection h with h1 _
      exact ihX h1)

private theorem wX_empty : ∀ {Y : Nat} {v : List Nat}, Derives wG Y v → Y = 6 → False := wX_wXseq_empty.1

private theorem w_no_b (z : List Nat) : ¬ Sentence wG 0 (3 :: z) := by
  rintro ⟨gi, hgi, hD⟩
  have hg : gi = ⟨5, true⟩ := by
    have : wG.inputs[0]? = some ⟨5, true⟩ := rfl
    rw [this] at hgi
    injection hgi with h
    exact h.symm
  subst hg
  rcases derives_inv hD with ⟨h, _⟩ | ⟨r, hm, hl, hs⟩
  · exact absurd h (by decide)
  · rcases wG_rules hm with e | e | e
    · rw [e] at hs
      obtain ⟨u, v, hw, hX, _⟩ := derivesSeq_cons_inv hs
      rcases derives_inv hX with ⟨_, hu⟩ | ⟨r', hm', hl', _⟩
      · rw [hu] at hw
        injection hw with h1 _
        cases h1
      · rcases wG_rules hm' with e' | e' | e' <;> rw [e'] at hl' <;> cases hl'
    · rw [e] at hs
      obtain ⟨u, v, _, _, hrest⟩ := derivesSeq_cons_inv hs
      exact wX_wXseq_empty.2 hrest rfl
    · rw [e] at hl; cases hl

/-- Without productivity the error-position clause is false, of the real tables: both other
certificates hold, the run on `b` stops with a syntax error after shifting one token, yet no
sentence starts with `b` — and consequently no viable-prefix certificate passes the check. -/
theorem C01_error_position_unproductive_fails :
    ∃ (g : Grammar) (t : Tables) (cert : Cert) (cc : CCert) (inp : Input) (off endo : Nat)
      (c : Cfg),
      certOk g t cert = true ∧ complOk g t cc = true ∧
      (∀ tk ∈ inp.toks.toList, 0 < tk.sym ∧ tk.sym < (t.nTerms : Int)) ∧
      run t inp 0 20 = (Result.syntaxError off endo, c) ∧ nshift c.evs = 1 ∧
      (¬ ∃ z, Sentence g 0
        ((inp.toks.toList.map (fun tk => tk.sym.toNat)).take (nshift c.evs) ++ z)) ∧
      ∀ vc : VCert, viableOk g t vc = false := by
  have hk : nshift (run wT wInp 0 20).2.evs = 1 := by decide +kernel
  have hrun : run wT wInp 0 20 = (Result.syntaxError 1 1, (run wT wInp 0 20).2) :=
    Prod.ext (by decide +kernel) rfl
  have hno : ¬ ∃ z, Sentence wG 0
      ((wInp.toks.toList.map (fun tk => tk.sym.toNat)).take
        (nshift (run wT wInp 0 20).2.evs) ++ z) := by
    rw [hk]
    rintro ⟨z, hz⟩
    exact w_no_b z hz
  refine ⟨wG, wT, wCert, wCC, wInp, 1, 1, (run wT wInp 0 20).2, by decide +kernel,
    by decide +kernel, by decide +kernel, hrun, hk, hno, ?_⟩
  intro vc
  cases hv : viableOk wG wT vc with
  | false => rfl
  | true =>
    exact absurd (C01_lr_error_position wG wT wCert wCC vc wInp 0 20 1 1 _ (by decide +kernel)
      (by decide +kernel) hv (by decide +kernel) (by decide +kernel) hrun).2.2.2.1 hno

end errorPosition

end TmVerif.LRSound
