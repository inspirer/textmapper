import TmVerif.Proofs.GraphBasic
import TmVerif.Proofs.GraphScc
import TmVerif.Proofs.GraphPath
import TmVerif.Proofs.GraphTarjan
/-!
C26 — Graph algorithms return correct components, closures and paths (property theorems only).

Models (Model/Graph.lean): hand mirrors `transpose`, `Matrix.closure` / `Matrix.graph`, `longestPath`,
`tarjan` of util/graph/{transpose,matrix,path,tarjan}.go, and the validator `checkScc`.
Vocabulary (`succs g v` = `g[v]` from the model, the rest from Proofs/GraphBasic.lean, GraphScc.lean, GraphPath.lean):
`Edge g a b` = `b ∈ g[a]`; `Wf g` = every successor is a vertex (decidable, `wfB`; exactly the graphs on
which the Go code does not panic — the harness observes the panic on a malformed stream);
`Relation.TransGen (Edge g) a b` = a non-empty path `a →⁺ b`; `Reach` = `→*`; `SC` = mutual
reachability; `IsSccOrder g comps` = `comps` are exactly the strongly connected components, once each,
in reverse topological order; `IsPath g p` = `p` is a walk of `g`.
Every theorem is for ALL graphs of the model; the hypotheses are `Wf g`, for the closure a matrix of the
shape `NewMatrix` gives and vertices in range, for Tarjan the `2 ≤ |g|` of the property statement
(`C26_tarjan_small` shows it is needed), and `g ≠ []` where nil is read as "cyclic"
(`C26_longestPath_nil_empty_graph` shows it is needed).
-/
namespace TmVerif.Graph

/-- `Transpose` keeps the number of vertices. -/
theorem C26_transpose_length (g : Graph) : (transpose g).length = g.length := length_transpose g

/-- `Transpose` reverses every edge, with multiplicities: `v` occurs in `(transpose g)[u]` as often
as `u` occurs in `g[v]`. -/
theorem C26_transpose_count (g : Graph) (hwf : Wf g) (u v : Nat) :
    (succs (transpose g) u).count v = (succs g v).count u := by
  by_cases hu : u < g.length
  · exact count_transpose g u v hu
  · have h1 : succs (transpose g) u = [] := succs_ge _ _ (by rw [length_transpose]; omega)
    have h2 : (succs g v).count u = 0 := by
      apply List.count_eq_zero.2
      intro hmem
      exact hu (hwf v u hmem)
    rw [h1, h2]; rfl

/-- `v ∈ (transpose g)[u] ↔ u ∈ g[v]`. -/
theorem C26_transpose_edge (g : Graph) (hwf : Wf g) (u v : Nat) :
    Edge (transpose g) u v ↔ Edge g v u := by
  unfold Edge
  rw [← List.count_pos_iff, ← List.count_pos_iff, C26_transpose_count g hwf]

/-- On an `n × n` matrix, after `Closure()` there is an edge `a → b` iff the matrix before had a
non-empty path from `a` to `b`. -/
theorem C26_closure_spec (m : Matrix) (hm : m.set.size = m.n * m.n) (a b : Nat) (ha : a < m.n) (hb : b < m.n) :
    m.closure.hasEdge a b = true ↔ Relation.TransGen m.E a b := Matrix.closure_spec m hm a b ha hb

/-- The same for the matrix built with `NewMatrix(len g)` + `AddEdge` from an adjacency list. -/
theorem C26_closure_graph (g : Graph) (hwf : Wf g) (a b : Nat) (ha : a < g.length) (hb : b < g.length) :
    (Matrix.ofGraph g).closure.hasEdge a b = true ↔ Relation.TransGen (Edge g) a b :=
  Matrix.closure_ofGraph g hwf a b ha hb

/-- `Graph()` lists exactly the edges of the matrix (`m.E a b` = `a, b < n` and `HasEdge(a, b)`). -/
theorem C26_matrix_graph (m : Matrix) (a b : Nat) : Edge m.graph a b ↔ m.E a b := by
  unfold Edge succs Matrix.graph Matrix.E
  by_cases ha : a < m.n <;> simp [ha]

/-- If `checkScc g comps` accepts then `g` is well formed and `comps` are exactly the strongly
connected components of `g`, each reported once, in reverse topological order. -/
theorem C26_checkScc_sound (g : Graph) (comps : List (List Nat)) (h : checkScc g comps = true) :
    Wf g ∧ IsSccOrder g comps := checkScc_sound g comps h

/-- … and complete: every correct answer is accepted (any valid order of the components), so the
per-instance verdicts of the check do not depend on how the implementation happens to order them. -/
theorem C26_checkScc_complete (g : Graph) (comps : List (List Nat)) (hwf : Wf g)
    (h : IsSccOrder g comps) : checkScc g comps = true := checkScc_complete g comps hwf h

/-- For every well-formed graph with at least two vertices the mirror of `Tarjan` reports exactly the
strongly connected components, each once, in reverse topological order. -/
theorem C26_tarjan_correct (g : Graph) (hwf : Wf g) (h2 : 2 ≤ g.length) : IsSccOrder g (tarjan g) :=
  tarjan_correct hwf h2

/-- The same through the validator: `checkScc` accepts what the mirror of `Tarjan` reports. -/
theorem C26_tarjan_checkScc (g : Graph) (hwf : Wf g) (h2 : 2 ≤ g.length) :
    checkScc g (tarjan g) = true :=
  checkScc_complete g _ hwf (tarjan_correct hwf h2)

/-- Why the property is worded for at least two vertices: below that `Tarjan` returns before any
callback, so the single vertex of a one-vertex graph is never reported. -/
theorem C26_tarjan_small (g : Graph) (h : g.length < 2) : tarjan g = [] := tarjan_small h

example : tarjan [[]] = [] ∧ ¬ IsSccOrder [[]] (tarjan [[]]) := by
  refine ⟨by decide, fun h => ?_⟩
  have := (h.cover 0).2 (by decide)
  simp [tarjan_small (g := [[]]) (by decide)] at this

/-- the graph has a cycle (a vertex with a non-empty path to itself) -/
def Cyclic (g : Graph) : Prop := ∃ v, Relation.TransGen (Edge g) v v

/-- The mirror of `LongestPath` answers `none` (Go: the `return nil` under `if cycle`) exactly for
the graphs that have a cycle. -/
theorem C26_longestPath_none_iff_cyclic (g : Graph) (hwf : Wf g) :
    longestPath g = none ↔ Cyclic g := longestPath_none_iff hwf

/-- On an acyclic graph the answer is a walk of the graph (`IsPath`: consecutive vertices are joined
by edges; in an acyclic graph every walk is a simple path), non-empty when the graph has a vertex. -/
theorem C26_longestPath_is_path (g : Graph) (hwf : Wf g) (p : List Nat) (h : longestPath g = some p) :
    IsPath g p ∧ (g ≠ [] → p ≠ []) := ⟨(longestPath_some hwf h).1, (longestPath_some hwf h).2.1⟩

/-- … and no walk of the graph has more vertices than the answer. -/
theorem C26_longestPath_max (g : Graph) (hwf : Wf g) (p : List Nat) (h : longestPath g = some p)
    (q : List Nat) (hq : IsPath g q) : q.length ≤ p.length := (longestPath_some hwf h).2.2 q hq

/-- The statement "returns nil exactly for cyclic graphs" about the slice a Go caller sees
(`longestPathGo`: nil = empty). It is FALSE for the graph without vertices (acyclic, answer nil). -/
def C26_longestPath_nil_iff_cyclic_full : Prop :=
  ∀ g : Graph, Wf g → (longestPathGo g = [] ↔ Cyclic g)

/-- For every graph with at least one vertex the returned slice is nil exactly when the graph has a
cycle. The hypothesis `g ≠ []` is forced: see `C26_longestPath_nil_empty_graph`. -/
theorem C26_longestPath_nil_iff_cyclic_partial (g : Graph) (hwf : Wf g) (hne : g ≠ []) :
    longestPathGo g = [] ↔ Cyclic g := by
  rw [← C26_longestPath_none_iff_cyclic g hwf]
  unfold longestPathGo
  cases h : longestPath g with
  | none => simp
  | some p =>
    have := (C26_longestPath_is_path g hwf p h).2 hne
    simp [this]

/-- The witness that the full statement fails: the empty graph is acyclic and the answer is nil. -/
theorem C26_longestPath_nil_empty_graph : longestPathGo [] = [] ∧ ¬ Cyclic [] ∧ Wf [] := by
  refine ⟨by decide, fun ⟨v, p⟩ => ?_, by decide⟩
  obtain ⟨w, e, _⟩ := transGen_head_iff.1 p
  exact Nat.not_lt_zero v e.lt_left

example : ¬ C26_longestPath_nil_iff_cyclic_full := fun h =>
  C26_longestPath_nil_empty_graph.2.1 ((h [] C26_longestPath_nil_empty_graph.2.2).1 C26_longestPath_nil_empty_graph.1)

-- the hypotheses can be met and the mirrors compute: concrete graphs
example : longestPath [[1], [2, 3], [3], []] = some [0, 1, 2, 3] := by decide
example : longestPath [[1], [2, 3], [3], [1]] = none := by decide
example : IsPath [[1], [2, 3], [3], []] [0, 1, 3] := by simp [IsPath, Edge, succs]
example : Wf [[1], [2, 2], [0], [3]] := by decide
example : transpose [[1], [2, 2], [0], [3]] = [[2], [0], [1, 1], [3]] := by decide
example : tarjan [[1], [2, 2], [0, 3], [3]] = [[3], [0, 1, 2]] := by decide
example : checkScc [[1], [2, 2], [0, 3], [3]] [[3], [0, 1, 2]] = true := by decide +kernel
example : checkScc [[1], [2, 2], [0, 3], [3]] [[0, 1, 2], [3]] = false := by decide +kernel

end TmVerif.Graph
