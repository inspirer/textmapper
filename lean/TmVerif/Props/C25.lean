import TmVerif.Proofs.IntSet
import TmVerif.Proofs.SetClosureRun
/-!
C25 — Integer set algebra and set-equation closure are exact (property theorems only).

**Set algebra** (util/container/intset.go). Universe: all of `Int` (finite and co-finite sets).
Hypothesis `Sorted` is the representation invariant of `IntSet.Set` ("sorted"), decidable by `sortedB`;
it is preserved by every operation.

**Closure** (util/set/closure.go, mirror `SetClosure.compute`, Model/SetClosure.lean). A system is a list
of nodes `{op, edges, init}`; `wfB` is what the public API can build (edges are nodes, `Add` got a sorted
slice, only `Add` nodes carry elements, a complement node has one edge). Vocabulary
(Proofs/SetClosure.lean): `EqAt sys a v` — node `v` satisfies its equation under the assignment
`a : Nat → Int → Prop` (union: `init ∪ ⋃ edges`, intersection: `⋂ edges`, ℤ when there is no edge,
complement: ℤ minus its edge); `Sol sys a` — all nodes do; `(compute sys).asg` — the computed sets;
`(compute sys).err` — the offending complement nodes (`Compute` returns an error iff non-empty);
`(compute sys).timeout` — the mirror of `for { … }` in `slowClosure` ran out of its fuel
`|component| · (mentioned elements + 1) + 1`: proved impossible (`C25_closure_terminates`).
`SmallOk`: `graph.Tarjan` does nothing below two vertices, so `Compute` leaves a one-node system as it
was built — right for an `Add` node, wrong for a lone `Intersect()` (`C25_closure_single_inter`).
-/
namespace TmVerif.IntSet
open TmVerif.SetClosure TmVerif.Graph

theorem C25_mem_complement (a : IntSet) (v : Int) : a.complement.Mem v ↔ ¬ a.Mem v :=
  mem_complement a v

theorem C25_mem_merge (a b : IntSet) (ha : Sorted a.set) (hb : Sorted b.set) (v : Int) :
    (a.merge b).Mem v ↔ a.Mem v ∨ b.Mem v :=
  mem_merge a b ha hb v

theorem C25_mem_inter (a b : IntSet) (ha : Sorted a.set) (hb : Sorted b.set) (v : Int) :
    (a.inter b).Mem v ↔ a.Mem v ∧ b.Mem v :=
  mem_inter a b ha hb v

theorem C25_sorted_merge (a b : IntSet) (ha : Sorted a.set) (hb : Sorted b.set) :
    Sorted (a.merge b).set :=
  sorted_merge a b ha hb

theorem C25_sorted_inter (a b : IntSet) (ha : Sorted a.set) (hb : Sorted b.set) :
    Sorted (a.inter b).set :=
  sorted_inter a b ha hb

-- non-vacuity: concrete sorted sets meet the hypotheses
example : Sorted [1, 3, 5] ∧ Sorted [2, 3] := by simp [Sorted]
example : (IntSet.merge ⟨true, [1, 3, 5]⟩ ⟨false, [3, 7]⟩) = ⟨true, [1, 5]⟩ := by
  simp [IntSet.merge, IntSet.empty, subtract]

/-- below two nodes `Compute` does nothing; that is only right when the node is an `Add` node -/
def SmallOk (sys : Sys) : Prop := sys.length < 2 → ∀ v, opOf sys v = .union

/-- **The loop of `slowClosure` converges within the mirror's fuel**, for every system the API can
build: every dirty pass strictly enlarges one of the component's sets, measured inside the finite universe
"elements mentioned by the system, plus one point for all other integers" (co-finite sets are finite
objects there), and a sorted representation that grows as a set without growing in this measure is
unchanged. Hence `timeout` never occurs and the other theorems need no hypothesis about it. -/
theorem C25_closure_terminates (sys : Sys) (hwf : SetClosure.wfB sys = true) :
    (compute sys).timeout = false := by
  have hwf := wf_of_wfB hwf
  rcases Nat.lt_or_ge sys.length 2 with hsmall | h2
  · rw [compute_small hsmall]; rfl
  · exact (compute_runOk hwf h2).tmoF (initSt_bounded sys) rfl

/-- **No error reported ⇒ the computed assignment is a solution** of the whole system. -/
theorem C25_closure_solution (sys : Sys) (hwf : SetClosure.wfB sys = true) (hs : SmallOk sys)
    (herr : (compute sys).err = []) :
    Sol sys (compute sys).asg := by
  have htmo := C25_closure_terminates sys hwf
  have hwf := wf_of_wfB hwf
  intro v hv
  rcases Nat.lt_or_ge sys.length 2 with hsmall | h2
  · rw [eqAt_union (hs hsmall v)]
    intro x
    rw [compute_small_asg hsmall]
    refine ⟨.inl, ?_⟩
    rintro (h | ⟨w, hw, h⟩)
    · exact h
    · have hwl := hwf.edges v w hw
      have : w = v := by omega
      subst this
      exact (compute_small_asg hsmall w x).1 h
  · obtain ⟨c, hc, hvc⟩ := (listing_tarjan hwf h2).2 v hv
    exact ((compute_runOk hwf h2).good herr htmo c hc).1 v hvc

/-- **Least, stratum by stratum.** Let `b` be any assignment that satisfies the equations of the
strongly connected component of `v0` and agrees with the computed sets on the successors outside this
component (the lower strata). Then the computed set of `v0` is contained in `b v0`.
Inside a component nothing is complemented (no error), so the component's equations are monotone and
"least" is meaningful; across components a complement turns "smaller below" into "larger above", which
is why the comparison is relative to equal lower strata (`C25_closure_least_positive` is the global
statement for systems without complement nodes). -/
theorem C25_closure_least (sys : Sys) (hwf : SetClosure.wfB sys = true) (hs : SmallOk sys)
    (herr : (compute sys).err = [])
    (b : Asg) (v0 : Nat) (hv0 : v0 < sys.length)
    (hb : ∀ v, SC (graphOf sys) v0 v → EqAt sys b v)
    (hlow : ∀ v w, SC (graphOf sys) v0 v → w ∈ edgesOf sys v → ¬ SC (graphOf sys) v0 w →
      ∀ x, b w x ↔ (compute sys).asg w x) :
    ∀ x, (compute sys).asg v0 x → b v0 x := by
  have htmo := C25_closure_terminates sys hwf
  have hwf := wf_of_wfB hwf
  rcases Nat.lt_or_ge sys.length 2 with hsmall | h2
  · exact compute_small_le hsmall (hs hsmall v0) (hb v0 ⟨Reach.refl _ _, Reach.refl _ _⟩)
  · obtain ⟨hL, hcov⟩ := listing_tarjan hwf h2
    obtain ⟨c, hc, hvc⟩ := hcov v0 hv0
    have hscc := hL.scc c hc v0 hvc
    refine ((compute_runOk hwf h2).good herr htmo c hc).2 b (fun v hv => hb v ((hscc v).1 hv)) ?_ v0 hvc
    intro v hv w hw hwc
    have := hlow v w ((hscc v).1 hv) hw (fun h => hwc ((hscc w).2 h))
    exact ⟨fun x hx => (this x).2 hx, fun _ x hx => (this x).1 hx⟩

/-- **Least solution** of a system without complement nodes: contained in every solution. -/
theorem C25_closure_least_positive (sys : Sys) (hwf : SetClosure.wfB sys = true) (hs : SmallOk sys)
    (herr : (compute sys).err = [])
    (hpos : ∀ v, opOf sys v ≠ .compl) (b : Asg) (hb : Sol sys b) :
    ∀ v, v < sys.length → ∀ x, (compute sys).asg v x → b v x := by
  have htmo := C25_closure_terminates sys hwf
  have hwf := wf_of_wfB hwf
  rcases Nat.lt_or_ge sys.length 2 with hsmall | h2
  · exact fun v hv => compute_small_le hsmall (hs hsmall v) (hb v hv)
  · obtain ⟨hL, hcov⟩ := listing_tarjan hwf h2
    exact least_strat hwf hL hcov ((compute_runOk hwf h2).good herr htmo) b hb fun u _ hop => absurd hop (hpos u)

/-- **An error is reported exactly when some complement node reaches itself.** -/
theorem C25_closure_error_iff (sys : Sys) (hwf : SetClosure.wfB sys = true) (hs : SmallOk sys) :
    (compute sys).err ≠ [] ↔
      ∃ v, v < sys.length ∧ opOf sys v = .compl ∧ Relation.TransGen (Edge (graphOf sys)) v v := by
  have hwf := wf_of_wfB hwf
  rcases Nat.lt_or_ge sys.length 2 with hsmall | h2
  · rw [compute_small hsmall]
    constructor
    · intro h; exact absurd rfl h
    · rintro ⟨v, _, hop, _⟩
      rw [hs hsmall v] at hop; cases hop
  · obtain ⟨hL, hcov⟩ := listing_tarjan hwf h2
    have R := compute_runOk hwf h2
    constructor
    · intro hne
      obtain ⟨extra, h1, h2'⟩ := R.err
      obtain ⟨e, he⟩ := List.exists_mem_of_ne_nil _ hne
      rw [h1] at he
      obtain ⟨c, hc, hec, ho⟩ := h2' e he
      exact ⟨e, hL.lt c hc e hec, (offends_iff hL hc hec).1 ho⟩
    · rintro ⟨v, hv, hop, p⟩
      obtain ⟨c, hc, hvc⟩ := hcov v hv
      exact R.offend ⟨c, hc, v, hvc, (offends_iff hL hc hvc).2 ⟨hop, p⟩⟩

/-- Why `SmallOk` is needed: a closure that consists of `Intersect()` alone is left untouched by
`Compute` (nothing happens below two nodes), although the intersection of no sets is everything — which
is what the same node evaluates to in any larger system. -/
theorem C25_closure_single_inter :
    SetClosure.wfB [⟨.inter, [], []⟩] = true ∧ (compute [⟨.inter, [], []⟩]).err = [] ∧
    ¬ Sol [⟨.inter, [], []⟩] (compute [⟨.inter, [], []⟩]).asg ∧
    (compute [⟨.inter, [], []⟩, ⟨.union, [], []⟩]).get 0 = ⟨true, []⟩ := by
  refine ⟨by decide, by decide, ?_, by decide⟩
  intro h
  have := h 0 (by decide)
  rw [eqAt_inter (by decide)] at this
  have := (this 0).2 (by intro w hw; simp [edgesOf, succs, graphOf] at hw)
  have h0 : ¬ ((compute [⟨.inter, [], []⟩]).get 0).Mem 0 := by decide
  exact h0 this

-- non-vacuity: systems that meet the hypotheses, with and without cycles, intersections, complements
example : SetClosure.wfB [⟨.union, [1], [1, 2]⟩, ⟨.union, [0, 2], [5]⟩, ⟨.inter, [0, 1], []⟩, ⟨.compl, [2], []⟩] = true := by decide
example : (compute [⟨.union, [1], [1, 2]⟩, ⟨.union, [0, 2], [5]⟩, ⟨.inter, [0, 1], []⟩, ⟨.compl, [2], []⟩]).err = [] ∧
    (compute [⟨.union, [1], [1, 2]⟩, ⟨.union, [0, 2], [5]⟩, ⟨.inter, [0, 1], []⟩, ⟨.compl, [2], []⟩]).timeout = false ∧
    (compute [⟨.union, [1], [1, 2]⟩, ⟨.union, [0, 2], [5]⟩, ⟨.inter, [0, 1], []⟩, ⟨.compl, [2], []⟩]).sets =
      [⟨false, [1, 2, 5]⟩, ⟨false, [1, 2, 5]⟩, ⟨false, [1, 2, 5]⟩, ⟨true, [1, 2, 5]⟩] := by decide +kernel
example : SmallOk [⟨.union, [0], [3]⟩] := fun _ v => by
  cases v <;> simp [opOf]
-- an error: A = Add{1} ∪ C, C = ~A
example : (compute [⟨.union, [1], [1]⟩, ⟨.compl, [0], []⟩]).err = [1] := by decide
example : Relation.TransGen (Edge (graphOf [⟨.union, [1], [1]⟩, ⟨.compl, [0], []⟩])) 1 1 :=
  .tail (b := 0) (.single (show Edge _ 1 0 by simp [Edge, succs, graphOf])) (show Edge _ 0 1 by simp [Edge, succs, graphOf])

end TmVerif.IntSet
